/-
  EV.Proofs.PsetBlindFlow — whole flows of the PSET blinding model: any sequence of non-last blinders and
  serialize/deserialize hops, then the last blinder.  A hop is the identity on a scalar list without repetition and
  `"DuplicateKey"` on any other (`hop_eq`); `pre_spec` says what the sequence before the last blinder does, exactly,
  in terms of the state it starts in and of the steps as a set; `flow_spec` that the finished PSET balances.
  The hypotheses speak of the state the flow starts in, so the inductions take the sequence apart at its end: the
  part before the last step starts in that same state, and what the last step selects can be read off it too, since
  no step changes the marks (`OutsLe.selectOuts_eq`).
-/
import EV.Proofs.PsetBlind
namespace EV.PsetBlind

section Wire
variable {R : Type} [DecidableEq R]

theorem decodeScalars_eq {acc l : List R} (hacc : acc.Nodup) :
    decodeScalars acc l = if (acc ++ l).Nodup then .ok (acc ++ l) else .err "DuplicateKey" := by
  induction l generalizing acc with
  | nil => rw [decodeScalars, List.append_nil, if_pos hacc]
  | cons x rest ih =>
    rw [decodeScalars]
    by_cases hx : x ∈ acc
    · rw [if_pos (List.contains_iff_mem.2 hx), if_neg]
      exact fun h => (List.nodup_append.1 h).2.2 x hx x List.mem_cons_self rfl
    · rw [if_neg (mt List.contains_iff_mem.1 hx), ih, List.append_assoc, List.singleton_append]
      exact List.nodup_append.2 ⟨hacc, List.nodup_cons.2 ⟨List.not_mem_nil, List.nodup_nil⟩,
        fun a ha b hb e => hx (List.mem_singleton.1 hb ▸ e ▸ ha)⟩

theorem hop_eq (st : St R) : hop st = if st.scalars.Nodup then .ok st else .err "DuplicateKey" := by
  rw [hop, decodeScalars_eq List.nodup_nil, List.nil_append]
  by_cases h : st.scalars.Nodup
  · rw [if_pos h, if_pos h]
  · rw [if_neg h, if_neg h]

theorem hop_post (st : St R) : (hop st).Post (· = st) (· = "DuplicateKey") := by
  rw [hop_eq]
  split
  · exact .ok rfl
  · exact .err rfl

end Wire

section Disjoint
variable {R : Type}

/-- no output is claimed by both parties -/
def DisjointSel (outs : List (Out R)) (s₁ s₂ : Supplied R) : Prop :=
  ∀ o ∈ outs, Selected s₁ o → ¬ Selected s₂ o

theorem DisjointSel.symm {outs : List (Out R)} {s₁ s₂ : Supplied R} (h : DisjointSel outs s₁ s₂) :
    DisjointSel outs s₂ s₁ :=
  fun o ho h2 h1 => h o ho h1 h2

def StepsDisjoint (outs : List (Out R)) (steps : List (Step R)) : Prop :=
  steps.Pairwise (fun s t => ∀ sup rand sup' rand', s = Step.nonLast sup rand →
    t = Step.nonLast sup' rand' → DisjointSel outs sup sup')

end Disjoint

section Flow
variable {R : Type} [CommRing R] [DecidableEq R]
variable {s : Step R} {steps pre rest : List (Step R)} {st st' st0 st1 : St R} {sup supL : Supplied R}
  {rand randL : Nat → R × R}

def Step.isPre : Step R → Prop
  | .nonLast _ _ => True
  | .hop => True
  | .last _ _ => False

def Step.terms : Step R → R
  | .nonLast sup _ => sumTerms (inpSecrets sup)
  | .last sup _ => sumTerms (inpSecrets sup)
  | .hop => 0

theorem runFlow_cons : runFlow st (s :: rest) = (runStep st s).bind (runFlow · rest) := by
  rw [runFlow]
  cases runStep st s <;> rfl

theorem runFlow_append {a b : List (Step R)} : runFlow st (a ++ b) = (runFlow st a).bind (runFlow · b) := by
  induction a generalizing st with
  | nil => rfl
  | cons s rest ih =>
    simp only [List.cons_append, runFlow_cons, ih]
    cases runStep st s <;> rfl

theorem runFlow_snoc : runFlow st (pre ++ [s]) = (runFlow st pre).bind (runStep · s) := by
  rw [runFlow_append]
  exact Res.bind_congr fun st1 _ => runFlow_cons.trans (Res.bind_ok _)

theorem runStep_nonLast : runStep st (.nonLast sup rand) = (nonLast st sup rand).map Prod.fst := by
  rw [runStep]
  cases nonLast st sup rand <;> rfl

theorem runStep_last : runStep st (.last sup rand) = (blindLast st sup rand).map Prod.fst := by
  rw [runStep]
  cases blindLast st sup rand <;> rfl

theorem map_fst_eq_ok {α β} {r : Res (α × β)} {a : α} : r.map Prod.fst = .ok a ↔ ∃ b, r = .ok (a, b) := by
  simp only [Res.map, Res.bind_eq_ok, Res.ok.injEq, Prod.exists, exists_and_right, exists_eq_right]

theorem runFlow_pre_last :
    runFlow st0 (pre ++ [.last supL randL]) = .ok st' ↔
      ∃ st1 ret, runFlow st0 pre = .ok st1 ∧ blindLast st1 supL randL = .ok (st', ret) := by
  simp only [runFlow_snoc, runStep_last, Res.bind_eq_ok, map_fst_eq_ok, exists_and_left]

/-- the scalars the step publishes, as a function of the state the flow starts in -/
def stepScalars (st : St R) : Step R → List R
  | .nonLast sup rand =>
    match selectOuts st.inputs.length sup 0 st.outputs with
    | .ok (i :: sel) => [sumTerms (inpSecrets sup) - sumTerms ((i :: sel).map (secretAt st.outputs rand))]
    | _ => []
  | _ => []

/-- what any sequence `steps` of non-last blinders and hops has done when it ends in `st'`, exactly; the scalar a
    blinder publishes is a function of the blinder and the marks only; `sums`: if every blinder has something to
    blind, the published scalars plus the terms inside blinded outputs grow by the supplied input terms -/
structure PreSpec (st : St R) (steps : List (Step R)) (st' : St R) : Prop where
  inputs : st'.inputs = st.inputs
  le : OutsLe st.outputs st'.outputs
  blinded : ∀ sup rand, Step.nonLast sup rand ∈ steps → ∀ (j : Nat) (o : Out R), st.outputs[j]? = some o →
    Selected sup o → st'.outputs[j]? = some (o.blindWith (rand j).1 (rand j).2)
  untouched : ∀ j : Nat, (∀ sup rand, Step.nonLast sup rand ∈ steps → ∀ o : Out R, st.outputs[j]? = some o →
    ¬ Selected sup o) → st'.outputs[j]? = st.outputs[j]?
  scalars : st'.scalars = st.scalars ++ steps.flatMap (stepScalars st)
  sums : Inv st.outputs → Inv st'.outputs ∧
    ((∀ sup rand, Step.nonLast sup rand ∈ steps →
        ∃ (j : Nat) (o : Out R), st.outputs[j]? = some o ∧ Selected sup o) →
      st'.scalars.sum + outTermSum st' =
        st.scalars.sum + outTermSum st + (steps.map Step.terms).sum)

/-- No disjointness hypothesis: the code refuses to blind an output twice (`"ExplValue"`, the crate's
    `ExpectedExplicitValue`), so in a successful run every blinder finds the outputs it claims as they were at the
    start, and none is counted twice. -/
theorem pre_spec (hpre : ∀ s ∈ steps, s.isPre) (h : runFlow st steps = .ok st') : PreSpec st steps st' := by
  induction steps using List.reverseRecOn generalizing st' with
  | nil =>
    cases h
    exact ⟨rfl, OutsLe.refl _, fun _ _ hm => absurd hm List.not_mem_nil, fun _ _ => rfl, (List.append_nil _).symm,
      fun hinv => ⟨hinv, fun _ => (add_zero _).symm⟩⟩
  | append_singleton pre s ih =>
    rw [runFlow_snoc] at h
    obtain ⟨st1, hrun, hstep⟩ := Res.bind_eq_ok.1 h
    have hih := ih (fun s hs => hpre s (List.mem_append_left _ hs)) hrun
    cases s with
    | last sup rand => exact (hpre _ (List.mem_append_right _ List.mem_cons_self)).elim
    | hop =>
      cases (hop_post st1).of_ok hstep
      refine ⟨hih.inputs, hih.le, ?_, ?_, ?_, ?_⟩
      all_goals simp only [List.mem_append, List.mem_singleton, reduceCtorEq, or_false, List.flatMap_append,
        List.flatMap_singleton, stepScalars, List.append_nil, List.map_append, List.map_singleton, Step.terms,
        List.sum_append, List.sum_singleton, add_zero]
      exacts [hih.blinded, hih.untouched, hih.scalars, hih.sums]
    | nonLast sup rand =>
      rw [runStep_nonLast] at hstep
      obtain ⟨ret, hnl⟩ := map_fst_eq_ok.1 hstep
      obtain ⟨sel, hc⟩ := nonLast_spec hnl
      have hsel := hc.sel_eq
      rw [hih.inputs, hih.le.selectOuts_eq] at hsel
      have hmem : ∀ {j}, j ∈ sel ↔ ∃ o, st.outputs[j]? = some o ∧ Selected sup o := mem_sel_iff hsel
      -- the step succeeded, so none of the outputs it selects has been blinded before
      have hnot : ∀ {j : Nat} {o : Out R} {a b : R}, j ∈ sel → st1.outputs[j]? ≠ some (o.blindWith a b) :=
        fun hj e => by
          obtain ⟨x, hx, hxb, -⟩ := hc.blinded _ hj
          cases hx.symm.trans e
          exact Bool.noConfusion hxb.1
      refine ⟨hc.inputs.trans hih.inputs, hih.le.trans hc.le, fun sup' rand' hm j o hj hs => ?_, fun j hj => ?_, ?_,
        fun hinv => ?_⟩
      · rcases List.mem_append.1 hm with hm | hm
        · have h1 := hih.blinded sup' rand' hm j o hj hs
          rw [hc.untouched j fun hin => hnot hin h1, h1]
        · cases List.mem_singleton.1 hm
          have hin : j ∈ sel := hmem.2 ⟨o, hj, hs⟩
          obtain ⟨x, hx, -, hx'⟩ := hc.blinded j hin
          rw [hih.untouched j fun sup'' rand'' hm'' o' ho' hs'' =>
            hnot hin (hih.blinded sup'' rand'' hm'' j o' ho' hs''), hj] at hx
          cases hx
          exact hx'
      · rw [hc.untouched j fun hin => ?_,
          hih.untouched j fun sup' rand' hm => hj sup' rand' (List.mem_append_left _ hm)]
        obtain ⟨o, ho, hs⟩ := hmem.1 hin
        exact hj sup rand (List.mem_append_right _ List.mem_cons_self) o ho hs
      · rw [List.flatMap_append, ← List.append_assoc, ← hih.scalars, List.flatMap_singleton, stepScalars, hsel]
        cases sel with
        | nil => rw [hc.idle rfl, List.append_nil]
        | cons i sel =>
          rw [hc.scalar (List.cons_ne_nil _ _), List.map_congr_left fun i _ => secretAt_congr hih.le rand i]
      · obtain ⟨i3, i6⟩ := hih.sums hinv
        obtain ⟨c3, d2⟩ := hc.sums i3
        refine ⟨c3, fun hact => ?_⟩
        obtain ⟨j0, o0, hj0, hs0⟩ := hact sup rand (List.mem_append_right _ List.mem_cons_self)
        rw [List.map_append, List.sum_append, ← add_assoc,
          ← i6 fun sup' rand' hm => hact sup' rand' (List.mem_append_left _ hm),
          hc.scalar (List.ne_nil_of_mem (hmem.2 ⟨o0, hj0, hs0⟩)), d2]
        simp only [List.sum_append, List.sum_cons, List.sum_nil, List.map_cons, List.map_nil, Step.terms]
        ring

theorem pre_untouched {j : Nat} {o : Out R} (hpre : ∀ s ∈ steps, s.isPre) (h : runFlow st steps = .ok st')
    (hdis : ∀ sup' rand', Step.nonLast sup' rand' ∈ steps → DisjointSel st.outputs sup' sup)
    (ho : st.outputs[j]? = some o) (hso : Selected sup o) : st'.outputs[j]? = some o := by
  rw [(pre_spec hpre h).untouched j fun sup' rand' hm x hx hsx => ?_, ho]
  cases ho.symm.trans hx
  exact hdis sup' rand' hm o (List.mem_of_getElem? ho) hsx hso

theorem flow_spec (hpre : ∀ s ∈ pre, s.isPre) (h : runFlow st0 (pre ++ [Step.last supL randL]) = .ok st') :
    st'.scalars = [] ∧ OutsLe st0.outputs st'.outputs ∧
    (∀ (j : Nat) (o : Out R), st0.outputs[j]? = some o →
      (Selected supL o ∨ ∃ sup rand, Step.nonLast sup rand ∈ pre ∧ Selected sup o) →
      ∃ o' : Out R, st'.outputs[j]? = some o' ∧ o'.Full) ∧
    (Inv st0.outputs →
      (∀ sup rand, Step.nonLast sup rand ∈ pre →
        ∃ (j : Nat) (o : Out R), st0.outputs[j]? = some o ∧ Selected sup o) →
      (∀ sup rand, Step.nonLast sup rand ∈ pre → DisjointSel st0.outputs supL sup) →
      (∀ o ∈ st0.outputs, Selected supL o → o.secrets = none) →
      outTermSum st' =
        outTermSum st0 + st0.scalars.sum + (pre.map Step.terms).sum + sumTerms (inpSecrets supL)) := by
  obtain ⟨st1, ret, hrun, hbl⟩ := runFlow_pre_last.1 h
  have hp := pre_spec hpre hrun
  obtain ⟨sel, lastIdx, o, hsel, hlast, ho, -, c2, c3, c4, c5⟩ := blindLast_spec hbl
  rw [hp.inputs, hp.le.selectOuts_eq] at hsel
  refine ⟨c2, hp.le.trans c3, fun j x hx hor => ?_, fun hinv hact hdisj hfresh => ?_⟩
  · rcases hor with hs | ⟨sup, rand, hm, hs⟩
    · exact c4 j ((mem_sel_iff hsel).2 ⟨x, hx, hs⟩)
    · obtain ⟨x2, hx2, hle2⟩ := c3.get (hp.blinded sup rand hm j x hx hs)
      exact ⟨x2, hx2, hle2.full (x.full_blindWith _ _)⟩
  · obtain ⟨i3, i6⟩ := hp.sums hinv
    -- the last party's last output was not touched before, so it is the fresh one of `st0`
    obtain ⟨o0, ho0, hosel0⟩ := (mem_sel_iff hsel).1 (List.mem_of_getLast? hlast)
    cases ho.symm.trans
      (pre_untouched hpre hrun (fun sup rand hm => (hdisj sup rand hm).symm) ho0 hosel0)
    rw [c5 i3 (hfresh o (List.mem_of_getElem? ho0) hosel0)]
    linear_combination i6 hact

theorem pre_keeps_party (hpre : ∀ s ∈ steps, s.isPre) (h : runFlow st steps = .ok st') (hs : StaticOk st)
    (hp : PartyOk st.inputs st.outputs sup)
    (hdis : ∀ sup' rand', Step.nonLast sup' rand' ∈ steps → DisjointSel st.outputs sup' sup) :
    StaticOk st' ∧ PartyOk st'.inputs st'.outputs sup := by
  have hspec := pre_spec hpre h
  exact ⟨hs.of_le hspec.inputs hspec.le,
    hp.of_untouched hspec.inputs hspec.le fun _ _ => pre_untouched hpre h hdis⟩

/-- the one way to fail is a hop that meets two equal scalars (`DuplicateKey`) -/
theorem pre_flow_total (hpre : ∀ s ∈ steps, s.isPre) (hs : StaticOk st)
    (hok : ∀ sup rand, Step.nonLast sup rand ∈ steps → PartyOk st.inputs st.outputs sup)
    (hdis : StepsDisjoint st.outputs steps) :
    (∃ st', runFlow st steps = .ok st') ∨ runFlow st steps = .err "DuplicateKey" := by
  induction steps using List.reverseRecOn with
  | nil => exact .inl ⟨st, rfl⟩
  | append_singleton pre s ih =>
    have hpre' : ∀ s ∈ pre, s.isPre := fun s hs => hpre s (List.mem_append_left _ hs)
    obtain ⟨hdis', -, hdis0⟩ := List.pairwise_append.1 hdis
    rw [runFlow_snoc]
    rcases ih hpre' (fun sup rand hm => hok sup rand (List.mem_append_left _ hm)) hdis' with ⟨st1, h1⟩ | herr
    · rw [h1, Res.ok_bind]
      cases s with
      | last sup rand => exact (hpre _ (List.mem_append_right _ List.mem_cons_self)).elim
      | hop =>
        exact (hop_post st1).outcome.imp (fun ⟨st', h, _⟩ => ⟨st', h⟩) fun ⟨_, he, h⟩ => he ▸ h
      | nonLast sup rand =>
        obtain ⟨hs1, hp1⟩ := pre_keeps_party hpre' h1 hs (hok sup rand (List.mem_append_right _ List.mem_cons_self))
          fun sup' rand' hm => hdis0 _ hm _ List.mem_cons_self sup' rand' sup rand rfl rfl
        obtain ⟨st', ret, hnl⟩ := nonLast_ok rand hs1 hp1
        exact .inl ⟨st', by rw [runStep_nonLast, hnl]; rfl⟩
    · exact .inr (by rw [herr]; rfl)

theorem runStep_ne_panic (st : St R) (s : Step R) (p : String) : runStep st s ≠ .panic p := by
  cases s with
  | nonLast sup rand =>
    rw [runStep_nonLast]
    exact Res.bind_ne_panic nonLast_post.ne_panic (fun _ _ h => by cases h) p
  | last sup rand =>
    rw [runStep_last]
    exact Res.bind_ne_panic blindLast_post.ne_panic (fun _ _ h => by cases h) p
  | hop =>
    exact (hop_post st).ne_panic p

end Flow
end EV.PsetBlind
