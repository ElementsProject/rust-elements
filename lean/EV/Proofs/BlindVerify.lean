/-
  The decision logic of `verify_tx_amt_proofs` (model: `EV.Blind.verify`): which conditions make it return
  `ok` (`verify_ok_iff'`, over the predicates and lists defined first), and what it returns once the inputs
  are acceptable (`verify_of_inputs_ok`, `outputCommits_prefix`).  No algebra; the primitives are arbitrary
  functions.  Both loops return `Acc` and extend the result of the remaining iterations by `Acc.map`; each
  has a step lemma (`_cons`) and one for the whole loop (`_cases`): all steps pass and the list, or an error.
-/
import EV.Model.Blind

namespace EV.Blind
open EV

variable {A P RP SP : Type}

/-- a spent output for which neither `Generator` nor `get_value_commit` fails (`spentOk_iff`) -/
def SpentOk (u : TxOut A P RP SP) : Prop :=
  u.asset ≠ .null ∧ u.value ≠ .null ∧ u.value ≠ .explicit 0

/-- an input whose issuance amounts are not an explicit 0 (`IssuanceTransactionInput`) -/
def IssOk (inp : TxIn A P) : Prop :=
  inp.amount ≠ .explicit 0 ∧ inp.keys ≠ .explicit 0

def spentPair? (V : VPrims A P RP SP) (u : TxOut A P RP SP) : Option (P × P) :=
  match assetGen V u.asset, valueCommit V u with
  | some g, .ok c => some (g, c)
  | _, _ => none

/-- what the input loop returns when it succeeds (`inputPairs_cases`) -/
def pairsOf (V : VPrims A P RP SP) : List (TxIn A P) → List (TxOut A P RP SP) → List (P × P)
  | inp :: is, u :: us =>
    (spentPair? V u).toList ++ ((issuancePairs V inp).getD []) ++ pairsOf V is us
  | _, _ => []

/-- the surjection domain -/
def domainOf (V : VPrims A P RP SP) (ins : List (TxIn A P)) (utxos : List (TxOut A P RP SP)) : List P :=
  (pairsOf V ins utxos).map Prod.fst

def inCommitsOf (V : VPrims A P RP SP) (ins : List (TxIn A P)) (utxos : List (TxOut A P RP SP)) : List P :=
  (pairsOf V ins utxos).map Prod.snd

/-- `none` where `get_value_commit` fails, as it does on an admissible zero -/
def outCommit? (V : VPrims A P RP SP) (o : TxOut A P RP SP) : Option P :=
  match valueCommit V o with
  | .ok c => some c
  | .error _ => none

def outCommitsOf (V : VPrims A P RP SP) (outs : List (TxOut A P RP SP)) : List P :=
  outs.filterMap (outCommit? V)

/-- an output the output loop passes (`outputCommits_cons`): the first three clauses say that
    `get_value_commit` does not fail fatally (`valueCommit_admissible_iff`), the fourth is the range-proof
    branch, the fifth the surjection-proof branch -/
def OutOk (V : VPrims A P RP SP) (domain : List P) (o : TxOut A P RP SP) : Prop :=
  o.value ≠ .null ∧
  (o.value = .explicit 0 → isProvablyUnspendable o.script = true) ∧
  (∀ v, o.value = .explicit v → v ≠ 0 → o.asset ≠ .null) ∧
  (∀ c, o.value = .conf c → ∃ g rp, assetGen V o.asset = some g ∧ o.rangeproof = some rp ∧
      V.rangeVerify rp c o.script g = true) ∧
  (∀ g, o.asset = .conf g → ∃ sp, o.surjproof = some sp ∧ V.surjVerify sp g domain = true)

theorem assetGen_eq_none (V : VPrims A P RP SP) (a : CAsset A P) :
    assetGen V a = none ↔ a = .null := by
  cases a <;> simp [assetGen]

variable (V : VPrims A P RP SP)

theorem issuancePair_isSome (amt : CValue P) (a : A) :
    (issuancePair V amt a).isSome ↔ amt ≠ .explicit 0 := by
  cases amt with
  | null => simp [issuancePair]
  | explicit v => by_cases h : v = 0 <;> simp [issuancePair, h]
  | conf c => simp [issuancePair]

/-- the `has_issuance` test changes nothing: without an issuance both amounts are null and contribute
    no pseudo-input -/
theorem issuancePairs_eq (inp : TxIn A P) :
    issuancePairs V inp =
      (issuancePair V inp.amount inp.assetId).bind fun l1 =>
        (issuancePair V inp.keys inp.tokenId).map (l1 ++ ·) := by
  unfold issuancePairs
  split
  · cases issuancePair V inp.amount inp.assetId <;> cases issuancePair V inp.keys inp.tokenId <;> rfl
  · next h =>
    have : inp.amount = .null ∧ inp.keys = .null := by
      cases ha : inp.amount <;> cases hk : inp.keys <;> simp_all [TxIn.hasIssuance, CValue.isNull]
    rw [this.1, this.2]
    rfl

theorem issuancePairs_isSome (inp : TxIn A P) :
    (issuancePairs V inp).isSome ↔ IssOk inp := by
  rw [issuancePairs_eq, IssOk, ← issuancePair_isSome V inp.amount inp.assetId,
    ← issuancePair_isSome V inp.keys inp.tokenId]
  cases issuancePair V inp.amount inp.assetId <;> cases issuancePair V inp.keys inp.tokenId <;> simp

theorem issuancePairs_getD (inp : TxIn A P) (hok : IssOk inp) :
    (issuancePairs V inp).getD [] =
      (issuancePair V inp.amount inp.assetId).getD [] ++ (issuancePair V inp.keys inp.tokenId).getD [] := by
  obtain ⟨l1, h1⟩ := Option.isSome_iff_exists.1 ((issuancePair_isSome V inp.amount inp.assetId).2 hok.1)
  obtain ⟨l2, h2⟩ := Option.isSome_iff_exists.1 ((issuancePair_isSome V inp.keys inp.tokenId).2 hok.2)
  rw [issuancePairs_eq, h1, h2]
  rfl

theorem valueCommit_conf {o : TxOut A P RP SP} {c : P} (hv : o.value = .conf c) :
    valueCommit V o = .ok c := by
  simp [valueCommit, hv]

theorem valueCommit_explicit {o : TxOut A P RP SP} {v : Nat} {g : P}
    (hv : o.value = .explicit v) (h0 : v ≠ 0) (hg : assetGen V o.asset = some g) :
    valueCommit V o = .ok (V.commitUnblinded v g) := by
  simp [valueCommit, hv, h0, hg]

/-- an explicit zero is never committed to: it is either skipped or fatal -/
theorem outCommit?_explicit_zero {o : TxOut A P RP SP} (hv : o.value = .explicit 0) :
    outCommit? V o = none := by
  simp only [outCommit?, valueCommit, hv, if_true]
  cases isProvablyUnspendable o.script <;> rfl

theorem spentOk_iff (u : TxOut A P RP SP) :
    SpentOk u ↔ ∃ g c, assetGen V u.asset = some g ∧ valueCommit V u = .ok c := by
  unfold SpentOk valueCommit
  cases u.value with
  | null => simp
  | conf c => cases u.asset <;> simp [assetGen]
  | explicit v =>
    by_cases h0 : v = 0
    · subst h0
      by_cases hs : isProvablyUnspendable u.script = true <;> simp [hs]
    · cases u.asset <;> simp [assetGen, h0]

theorem spentPair?_isSome (u : TxOut A P RP SP) :
    (spentPair? V u).isSome ↔ SpentOk u := by
  rw [spentOk_iff V, spentPair?]
  cases assetGen V u.asset <;> cases valueCommit V u <;> simp

def Acc.map {α β : Type} (f : List α → List β) : Acc α → Acc β
  | .ok r => .ok (f r)
  | .err e => .err e
  | .panic s => .panic s

theorem Acc.map_ok {α β : Type} (f : List α → List β) (l : List α) : (Acc.ok l).map f = .ok (f l) := rfl

theorem Acc.map_err {α β : Type} (f : List α → List β) (e : VErr) : (Acc.err e : Acc α).map f = .err e := rfl

theorem Acc.map_id {α : Type} (r : Acc α) : r.map (fun l => l) = r := by
  cases r <;> rfl

theorem Acc.map_map {α β γ : Type} (f : List α → List β) (g : List β → List γ) (r : Acc α) :
    (r.map f).map g = r.map fun l => g (f l) := by
  cases r <;> rfl

theorem pairsOf_append (ipre : List (TxIn A P)) (upre : List (TxOut A P RP SP))
    (is : List (TxIn A P)) (us : List (TxOut A P RP SP)) (h : upre.length = ipre.length) :
    pairsOf V (ipre ++ is) (upre ++ us) = pairsOf V ipre upre ++ pairsOf V is us := by
  induction ipre generalizing upre with
  | nil =>
    cases upre with
    | nil => rfl
    | cons _ _ => cases h
  | cons inp ipre ih =>
    cases upre with
    | nil => cases h
    | cons u upre => simp only [List.cons_append, pairsOf, ih upre (Nat.succ.inj h), List.append_assoc]

theorem inCommitsOf_splice (ipre ipost : List (TxIn A P)) (inp : TxIn A P)
    (upre upost : List (TxOut A P RP SP)) (u : TxOut A P RP SP) (hl : upre.length = ipre.length) :
    inCommitsOf V (ipre ++ inp :: ipost) (upre ++ u :: upost) =
      inCommitsOf V ipre upre ++ inCommitsOf V [inp] [u] ++ inCommitsOf V ipost upost := by
  simp only [inCommitsOf, pairsOf_append V ipre upre _ _ hl, pairsOf, List.map_append, List.append_nil,
    List.append_assoc]

theorem inputPairs_cons (i : Nat) (inp : TxIn A P) (is : List (TxIn A P))
    (u : TxOut A P RP SP) (us : List (TxOut A P RP SP)) :
    ((SpentOk u ∧ IssOk inp) ∧ inputPairs V i (inp :: is) (u :: us) =
        (inputPairs V (i + 1) is us).map
          ((spentPair? V u).toList ++ (issuancePairs V inp).getD [] ++ ·)) ∨
    (¬ (SpentOk u ∧ IssOk inp) ∧ ∃ e, inputPairs V i (inp :: is) (u :: us) = .err e) := by
  rw [spentOk_iff V, ← issuancePairs_isSome V, inputPairs, spentPair?]
  cases assetGen V u.asset with
  | none => simp
  | some g =>
    cases valueCommit V u with
    | error e => simp
    | ok c =>
      cases issuancePairs V inp with
      | none => simp
      | some iss => cases inputPairs V (i + 1) is us <;> simp [Acc.map]

/-- on lists of equal length the panic of `spent_utxos[i]` is out of reach -/
theorem inputPairs_cases (i : Nat) (ins : List (TxIn A P)) (utxos : List (TxOut A P RP SP))
    (hlen : utxos.length = ins.length) :
    ((∀ p ∈ ins.zip utxos, SpentOk p.2 ∧ IssOk p.1) ∧ inputPairs V i ins utxos = .ok (pairsOf V ins utxos)) ∨
    (¬ (∀ p ∈ ins.zip utxos, SpentOk p.2 ∧ IssOk p.1) ∧ ∃ e, inputPairs V i ins utxos = .err e) := by
  induction ins generalizing i utxos with
  | nil =>
    obtain rfl := List.eq_nil_of_length_eq_zero hlen
    exact .inl ⟨List.forall_mem_nil _, rfl⟩
  | cons inp is ih =>
    cases utxos with
    | nil => cases hlen
    | cons u us =>
      rw [List.zip_cons_cons, List.forall_mem_cons]
      rcases inputPairs_cons V i inp is u us with ⟨hok, heq⟩ | ⟨hnok, e, heq⟩
      · rcases ih (i + 1) us (Nat.succ.inj hlen) with ⟨hall, hr⟩ | ⟨hnall, e, hr⟩
        · exact .inl ⟨⟨hok, hall⟩, by rw [heq, hr, Acc.map_ok, pairsOf]⟩
        · exact .inr ⟨fun h => hnall h.2, e, by rw [heq, hr, Acc.map_err]⟩
      · exact .inr ⟨fun h => hnok h.1, e, heq⟩

theorem inputPairs_ok_iff (i : Nat) (ins : List (TxIn A P))
    (utxos : List (TxOut A P RP SP)) (l : List (P × P)) (hlen : utxos.length = ins.length) :
    inputPairs V i ins utxos = .ok l ↔
      (∀ p ∈ ins.zip utxos, SpentOk p.2 ∧ IssOk p.1) ∧ l = pairsOf V ins utxos := by
  rcases inputPairs_cases V i ins utxos hlen with ⟨hok, heq⟩ | ⟨hnok, e, heq⟩
  · rw [heq, and_iff_right hok, Acc.ok.injEq, eq_comm]
  · exact iff_of_false (heq ▸ nofun) fun h => hnok h.1

theorem rangeCheck_none_iff (i : Nat) (o : TxOut A P RP SP) :
    rangeCheck V i o = none ↔
      ∀ c, o.value = .conf c → ∃ g rp, assetGen V o.asset = some g ∧ o.rangeproof = some rp ∧
        V.rangeVerify rp c o.script g = true := by
  unfold rangeCheck
  cases hv : o.value with
  | null => simp
  | explicit v => simp
  | conf c =>
    cases hg : assetGen V o.asset with
    | none => simp
    | some g =>
      cases hr : o.rangeproof with
      | none => simp
      | some rp =>
        by_cases hb : V.rangeVerify rp c o.script g = true <;> simp [hb]

theorem surjCheck_none_iff (domain : List P) (i : Nat) (o : TxOut A P RP SP) :
    surjCheck V domain i o = none ↔
      ∀ g, o.asset = .conf g → ∃ sp, o.surjproof = some sp ∧ V.surjVerify sp g domain = true := by
  unfold surjCheck
  cases ha : o.asset with
  | null => simp
  | explicit a => simp
  | conf g =>
    cases hs : o.surjproof with
    | none => simp
    | some sp =>
      by_cases hb : V.surjVerify sp g domain = true <;> simp [hb]

theorem valueCommit_admissible_iff (o : TxOut A P RP SP) :
    ((∃ c, valueCommit V o = .ok c) ∨ valueCommit V o = .error .zeroValueCommitment) ↔
      (o.value ≠ .null ∧ (o.value = .explicit 0 → isProvablyUnspendable o.script = true) ∧
        (∀ v, o.value = .explicit v → v ≠ 0 → o.asset ≠ .null)) := by
  unfold valueCommit
  cases hv : o.value with
  | null => simp
  | explicit v =>
    by_cases h0 : v = 0
    · subst h0
      by_cases hs : isProvablyUnspendable o.script = true <;> simp [hs]
    · cases ha : o.asset <;> simp [h0, assetGen]
  | conf c => simp

theorem outputStep_cases (domain : List P) (i : Nat) (o : TxOut A P RP SP)
    (cs : List P) (rest : Acc P) :
    ((rangeCheck V i o = none ∧ surjCheck V domain i o = none) ∧
      outputStep V domain i o cs rest = rest.map (cs ++ ·)) ∨
    (¬ (rangeCheck V i o = none ∧ surjCheck V domain i o = none) ∧
      ∃ e, outputStep V domain i o cs rest = .err e) := by
  unfold outputStep
  cases rangeCheck V i o with
  | some e => simp
  | none =>
    cases surjCheck V domain i o with
    | some e => simp
    | none => cases rest <;> simp [Acc.map]

theorem outOk_iff (domain : List P) (i : Nat) (o : TxOut A P RP SP) :
    OutOk V domain o ↔
      ((∃ c, valueCommit V o = .ok c) ∨ valueCommit V o = .error .zeroValueCommitment) ∧
      rangeCheck V i o = none ∧ surjCheck V domain i o = none := by
  rw [valueCommit_admissible_iff, rangeCheck_none_iff, surjCheck_none_iff, OutOk, and_assoc, and_assoc]

theorem outOk_explicit (domain : List P) (o : TxOut A P RP SP)
    (h : (∃ a, o.asset = .explicit a) ∧ ∃ v, o.value = .explicit v) :
    OutOk V domain o ↔ (o.value = .explicit 0 → isProvablyUnspendable o.script = true) := by
  obtain ⟨⟨a, ha⟩, v, hv⟩ := h
  simp [OutOk, ha, hv]

theorem outOk_conf (domain : List P) {o : TxOut A P RP SP} {g c : P}
    (ha : o.asset = .conf g) (hv : o.value = .conf c) :
    OutOk V domain o ↔
      (∃ rp, o.rangeproof = some rp ∧ V.rangeVerify rp c o.script g = true) ∧
      ∃ sp, o.surjproof = some sp ∧ V.surjVerify sp g domain = true := by
  simp [OutOk, ha, hv, assetGen]

theorem outCommitsOf_cons (o : TxOut A P RP SP) (outs : List (TxOut A P RP SP)) :
    outCommitsOf V (o :: outs) = (outCommit? V o).toList ++ outCommitsOf V outs := by
  unfold outCommitsOf
  cases h : outCommit? V o <;> simp [h]

theorem outCommitsOf_append (l₁ l₂ : List (TxOut A P RP SP)) :
    outCommitsOf V (l₁ ++ l₂) = outCommitsOf V l₁ ++ outCommitsOf V l₂ :=
  List.filterMap_append

theorem outputCommits_cons (domain : List P) (i : Nat) (o : TxOut A P RP SP)
    (rest : List (TxOut A P RP SP)) :
    (OutOk V domain o ∧ outputCommits V domain i (o :: rest) =
        (outputCommits V domain (i + 1) rest).map ((outCommit? V o).toList ++ ·)) ∨
    (¬ OutOk V domain o ∧ ∃ e, outputCommits V domain i (o :: rest) = .err e) := by
  have step := fun cs => outputStep_cases V domain i o cs (outputCommits V domain (i + 1) rest)
  rw [outOk_iff V domain i, outputCommits, outCommit?]
  cases valueCommit V o with
  | ok c => simpa using step [c]
  | error e =>
    cases e with
    | zeroValueCommitment => simpa using step []
    | _ => simp

theorem outputCommits_cases (domain : List P) (i : Nat) (outs : List (TxOut A P RP SP)) :
    ((∀ o ∈ outs, OutOk V domain o) ∧ outputCommits V domain i outs = .ok (outCommitsOf V outs)) ∨
    (¬ (∀ o ∈ outs, OutOk V domain o) ∧ ∃ e, outputCommits V domain i outs = .err e) := by
  induction outs generalizing i with
  | nil => exact .inl ⟨List.forall_mem_nil _, rfl⟩
  | cons o rest ih =>
    rcases outputCommits_cons V domain i o rest with ⟨hok, heq⟩ | ⟨hnok, e, heq⟩
    · rcases ih (i + 1) with ⟨hall, hr⟩ | ⟨hnall, e, hr⟩
      · exact .inl ⟨List.forall_mem_cons.2 ⟨hok, hall⟩, by rw [heq, hr, Acc.map_ok, outCommitsOf_cons]⟩
      · exact .inr ⟨fun h => hnall (List.forall_mem_cons.1 h).2, e, by rw [heq, hr, Acc.map_err]⟩
    · exact .inr ⟨fun h => hnok (List.forall_mem_cons.1 h).1, e, heq⟩

/-- with acceptable inputs the verdict is that of the output loop (its error at the first unacceptable
    output `i`, e.g. `RangeProofMissing(i)` or `SurjectionProofMissing(i)`), then of the tally
    (`BalanceCheckFailed`) -/
theorem verify_of_inputs_ok (ins : List (TxIn A P))
    (outs utxos : List (TxOut A P RP SP)) (hlen : utxos.length = ins.length)
    (hin : ∀ p ∈ ins.zip utxos, SpentOk p.2 ∧ IssOk p.1) :
    verify V ins outs utxos =
      match outputCommits V (domainOf V ins utxos) 0 outs with
      | .err e => .err e
      | .panic s => .panic s
      | .ok outC =>
        if V.sumEqual (inCommitsOf V ins utxos) outC then .ok else .err .balanceCheckFailed := by
  simp only [verify, hlen, ne_eq, not_true_eq_false, if_false,
    (inputPairs_ok_iff V 0 ins utxos _ hlen).2 ⟨hin, rfl⟩]
  rfl

theorem verify_ok_iff' (ins : List (TxIn A P))
    (outs utxos : List (TxOut A P RP SP)) :
    verify V ins outs utxos = .ok ↔
      utxos.length = ins.length ∧
      (∀ p ∈ ins.zip utxos, SpentOk p.2 ∧ IssOk p.1) ∧
      (∀ o ∈ outs, OutOk V (domainOf V ins utxos) o) ∧
      V.sumEqual (inCommitsOf V ins utxos) (outCommitsOf V outs) = true := by
  by_cases hlen : utxos.length = ins.length
  · rcases inputPairs_cases V 0 ins utxos hlen with ⟨hin, _⟩ | ⟨hnin, e, he⟩
    · rw [verify_of_inputs_ok V ins outs utxos hlen hin, and_iff_right hlen, and_iff_right hin]
      rcases outputCommits_cases V (domainOf V ins utxos) 0 outs with ⟨hout, hc⟩ | ⟨hnout, e, hc⟩
      · rw [hc, and_iff_right hout]
        cases hb : V.sumEqual (inCommitsOf V ins utxos) (outCommitsOf V outs) <;> simp [hb]
      · simp [hc, hnout]
    · refine iff_of_false ?_ fun h => hnin h.2.1
      simp [verify, hlen, he]
  · simp [verify, hlen]

theorem outputCommits_prefix (domain : List P) :
    ∀ (pre rest : List (TxOut A P RP SP)) (i : Nat), (∀ o ∈ pre, OutOk V domain o) →
      outputCommits V domain i (pre ++ rest) =
        (outputCommits V domain (i + pre.length) rest).map (outCommitsOf V pre ++ ·)
  -- `outCommitsOf V [] ++ ·` is the identity by computation
  | [], rest, i, _ => (Acc.map_id _).symm
  | o :: pre, rest, i, h => by
    have ih := outputCommits_prefix domain pre rest (i + 1) (fun x hx => h x (List.mem_cons_of_mem _ hx))
    rcases outputCommits_cons V domain i o (pre ++ rest) with ⟨_, heq⟩ | ⟨hnok, _⟩
    · rw [List.cons_append, heq, ih, List.length_cons, Nat.add_right_comm i, ← Nat.add_assoc, outCommitsOf_cons]
      simp only [Acc.map_map, List.append_assoc]
    · exact absurd (h o List.mem_cons_self) hnok

end EV.Blind
