/-
  The genesis block of C02 (EV.Model.Genesis): closed forms of the two genesis transactions (`coinbaseTx`, `assetTx`)
  and of the block that `genesis_block` builds (`genesisBlock_eq`), their well-formedness in the sense of the C01 codec
  model, and the commitment chain  chain hash → header → merkle root → txids → parameter commitment.
  Then what other properties read off the genesis transactions: the issuance ids of C11, the hex feed of the
  commitment against the hex of C20, the scriptSig under the iterator of C16.
-/
import EV.Model.Genesis
import EV.Proofs.Issuance
import EV.Proofs.CodecTx
import EV.Proofs.CodecBlock
import EV.Proofs.Text
import EV.Proofs.ScriptIter
namespace EV.Proofs.Genesis
open EV EV.Codec EV.Genesis EV.Proofs.CodecPrim EV.Proofs.CodecTx EV.Proofs.CodecBlock

/-- every hash of the record returns 32 bytes (true of SHA-256, double SHA-256 and the midstate) -/
structure Len32 (G : GHashes) : Prop where
  sha256 : ∀ x, (G.sha256 x).length = 32
  sha256d : ∀ x, (G.sha256d x).length = 32
  comb : ∀ a b, (G.comb a b).length = 32

/-- the parameters are representable: `initial_free_coins` is a `u64` and the sign-block script fits
    the decoder's `MAX_VEC_SIZE` guard -/
structure ParamsOk (p : NetworkParams) : Prop where
  coins : p.initialFreeCoins < 2^64
  signBlock : p.signBlockScript.length ≤ maxVecSize

/-- the platform sizes leave room for one input, one output and two transactions below `MAX_VEC_SIZE`
    (they are 328 / 160 / 56 on 64-bit targets) -/
structure SizesFit (P : Prims) : Prop where
  txIn : P.sizeTxIn ≤ maxVecSize
  txOut : P.sizeTxOut ≤ maxVecSize
  tx : 2 * P.sizeTx ≤ maxVecSize

theorem btcPairs_length (h : Bytes → Bytes) : ∀ l : List Bytes, (btcPairs h l).length = (l.length + 1) / 2
  | a :: b :: rest => by
    have := btcPairs_length h rest
    simp only [btcPairs, List.length_cons, this]
    omega
  | [a] => by simp [btcPairs]
  | [] => by simp [btcPairs]

/-- `calculate_root` against `merkle_root_r` with enough fuel -/
theorem btcRootR_some (h : Bytes → Bytes) : ∀ l : List Bytes, l ≠ [] →
    ∃ r, btcMerkleRoot h l = some r ∧ ∀ f, l.length ≤ f + 1 → btcRootR h f l = some r
  | [], hne => absurd rfl hne
  | [a], _ => ⟨a, rfl, fun f _ => by cases f <;> rfl⟩
  | a :: b :: rest, _ => by
    have hlen := btcPairs_length h (a :: b :: rest)
    simp only [List.length_cons] at hlen
    obtain ⟨r, -, hr⟩ := btcRootR_some h (btcPairs h (a :: b :: rest)) (by simp [btcPairs])
    refine ⟨r, hr (rest.length + 2) (by omega), fun f hf => ?_⟩
    simp only [List.length_cons] at hf
    cases f with
    | zero => omega
    | succ f => exact hr f (by omega)
termination_by l => l.length
decreasing_by
  simp only [hlen, List.length_cons]
  omega

/-- `liquid_genesis_tx` for a 32-byte commitment `c` -/
def coinbaseTx (c : Bytes) : Tx :=
  { version := Gen.genesisTxVersion
    lockTime := 0
    input := [⟨OutPoint.null, false, 32 :: c, Gen.sequenceMax, AssetIssuance.null, TxInWitness.empty⟩]
    output := [⟨.explicit (List.replicate 32 0), .explicit Gen.genesisTxOutValue, .null,
                opcodeScript Gen.genesisTxOutOpcode, TxOutWitness.empty⟩] }

/-- the asset id `liquid_genesis_asset_tx` derives from the commitment -/
def genesisAssetId (H : Hashes) (c : Bytes) : Bytes :=
  H.comb (H.comb (H.sha256d (c ++ encLe 4 Gen.genesisAssetVout)) (rep32 Gen.genesisAssetContractByte)) Issuance.assetLeaf

/-- `liquid_genesis_asset_tx` for a commitment `c` and a non-zero amount -/
def assetTx (H : Hashes) (c : Bytes) (amount : Nat) : Tx :=
  { version := Gen.genesisAssetTxVersion
    lockTime := 0
    input := [⟨⟨c, Gen.genesisAssetVout⟩, false, [], Gen.sequenceMax,
               ⟨List.replicate 32 0, rep32 Gen.genesisAssetEntropyByte, .explicit amount, .explicit Gen.genesisAssetInflationKeys⟩,
               TxInWitness.empty⟩]
    output := [⟨.explicit (genesisAssetId H c), .explicit amount, .null,
                opcodeScript Gen.genesisAssetTxOutOpcode, TxOutWitness.empty⟩] }

theorem pushSlice_32 (c : Bytes) (h : c.length = 32) :
    Script.Builder.new.pushSlice c = some ⟨32 :: c, none⟩ := by
  have hh : Script.pushHeader 32 = some [32] := by decide
  simp only [Script.Builder.pushSlice, h, hh, Script.Builder.new, List.nil_append, List.cons_append]

variable (G : GHashes) (p : NetworkParams)

theorem genesisTx_eq (h : (commit G.sha256 p).length = 32) :
    genesisTx G p = some (coinbaseTx (commit G.sha256 p)) := by
  simp only [genesisTx, pushSlice_32 _ h, coinbaseTx]

theorem genesisAssetTx_eq : genesisAssetTx G p =
    some (if p.initialFreeCoins = 0 then none
      else some (assetTx G.toHashes (commit G.sha256 p) p.initialFreeCoins)) := by
  simp only [genesisAssetTx, EV.Proofs.Issuance.entropy_eq, EV.Proofs.Issuance.fromEntropy_eq, assetTx, genesisAssetId]
  split
  · rfl
  · rfl

theorem genesisAssetTx_zero (h : p.initialFreeCoins = 0) : genesisAssetTx G p = some none := by
  rw [genesisAssetTx_eq, if_pos h]

theorem genesisAssetTx_nonzero (h : p.initialFreeCoins ≠ 0) :
    genesisAssetTx G p = some (some (assetTx G.toHashes (commit G.sha256 p) p.initialFreeCoins)) := by
  rw [genesisAssetTx_eq, if_neg h]

theorem genesisAssetTx_some {t : Tx} (ht : genesisAssetTx G p = some (some t)) :
    t = assetTx G.toHashes (commit G.sha256 p) p.initialFreeCoins := by
  by_cases h : p.initialFreeCoins = 0
  · rw [genesisAssetTx_zero G p h] at ht
    cases ht
  · rw [genesisAssetTx_nonzero G p h] at ht
    cases ht
    rfl

def genesisTxs (H : Hashes) (t : Tx) (c : Bytes) (n : Nat) : List Tx := t :: if n = 0 then [] else [assetTx H c n]

def genesisRoot (H : Hashes) (t : Tx) (c : Bytes) (n : Nat) : Bytes :=
  if n = 0 then t.txid H else H.sha256d (t.txid H ++ (assetTx H c n).txid H)

section
variable {H : Hashes} {t : Tx} {c : Bytes} {n : Nat}

theorem genesisTxs_zero (h : n = 0) : genesisTxs H t c n = [t] := by
  rw [genesisTxs, if_pos h]

theorem genesisTxs_nonzero (h : n ≠ 0) : genesisTxs H t c n = [t, assetTx H c n] := by
  rw [genesisTxs, if_neg h]

theorem genesisRoot_zero (h : n = 0) : genesisRoot H t c n = t.txid H := by
  rw [genesisRoot, if_pos h]

theorem genesisRoot_nonzero (h : n ≠ 0) : genesisRoot H t c n = H.sha256d (t.txid H ++ (assetTx H c n).txid H) := by
  rw [genesisRoot, if_neg h]

end

/-- `genesis_block` in closed form: it fails only where `liquid_genesis_tx` does -/
theorem genesisBlock_eq : genesisBlock G p = (genesisTx G p).map fun t =>
    ⟨genesisHeader p (genesisRoot G.toHashes t (commit G.sha256 p) p.initialFreeCoins),
      genesisTxs G.toHashes t (commit G.sha256 p) p.initialFreeCoins⟩ := by
  rw [genesisBlock, genesisAssetTx_eq]
  cases genesisTx G p with
  | none => rfl
  | some t =>
    by_cases h : p.initialFreeCoins = 0
    · simp only [if_pos h, genesisTxs_zero h, genesisRoot_zero h, Option.map_some]
    · simp only [if_neg h, genesisTxs_nonzero h, genesisRoot_nonzero h, Option.map_some, btcMerkleRoot, btcPairs, btcRootR]

theorem genesisBlock_some {b : Block} (hb : genesisBlock G p = some b) : ∃ t, genesisTx G p = some t ∧
    b = ⟨genesisHeader p (genesisRoot G.toHashes t (commit G.sha256 p) p.initialFreeCoins),
      genesisTxs G.toHashes t (commit G.sha256 p) p.initialFreeCoins⟩ := by
  rw [genesisBlock_eq] at hb
  obtain ⟨t, ht, rfl⟩ := Option.map_eq_some_iff.mp hb
  exact ⟨t, ht, rfl⟩

theorem genesisBlock_of_len (hc : (commit G.sha256 p).length = 32) : genesisBlock G p =
    some ⟨genesisHeader p (genesisRoot G.toHashes (coinbaseTx (commit G.sha256 p)) (commit G.sha256 p) p.initialFreeCoins),
      genesisTxs G.toHashes (coinbaseTx (commit G.sha256 p)) (commit G.sha256 p) p.initialFreeCoins⟩ := by
  rw [genesisBlock_eq, genesisTx_eq G p hc]
  rfl

theorem prev_zero : rep32 Gen.genesisPrevBlockHashByte = List.replicate 32 0 := by decide

theorem height_zero : Gen.genesisHeaderHeight = 0 := by decide

theorem opcodeScript_length (c : UInt8) : (opcodeScript c).length = 1 := rfl

theorem rep32_length (b : Nat) : (rep32 b).length = 32 := List.length_replicate

variable (P : Prims)

theorem coinbaseTx_wf (c : Bytes) (hc : c.length = 32) (hs : SizesFit P) : (coinbaseTx c).wf P := by
  have hver : Gen.genesisTxVersion < 2^32 := by decide
  have hseq : Gen.sequenceMax < 2^32 := by decide
  have hval : Gen.genesisTxOutValue < 2^64 := by decide
  refine ⟨hver, by simp [coinbaseTx], by simpa [coinbaseTx] using hs.txIn, by simpa [coinbaseTx] using hs.txOut,
    List.forall_mem_singleton.mpr ⟨⟨by simp [OutPoint.null], .inr ⟨rfl, rfl, rfl⟩, ?_, hseq, rfl⟩, txInWitness_empty_wf P⟩,
    List.forall_mem_singleton.mpr ⟨⟨by simp [Asset.wf], hval, trivial, ?_⟩, txOutWitness_empty_wf P⟩⟩
  · simp only [List.length_cons, hc, maxVecSize]
    omega
  · simp only [opcodeScript_length, maxVecSize]
    omega

theorem assetTx_hasIssuance (H : Hashes) (c : Bytes) (amount : Nat) :
    ∀ i ∈ (assetTx H c amount).input, i.hasIssuance = true :=
  List.forall_mem_singleton.mpr rfl

theorem assetTx_wf (H : Hashes) (c : Bytes) (amount : Nat) (hc : c.length = 32) (ha : amount < 2^64)
    (hcomb : ∀ a b, (H.comb a b).length = 32) (ht : P.tweak (List.replicate 32 0) = true) (hs : SizesFit P) :
    (assetTx H c amount).wf P := by
  have hver : Gen.genesisAssetTxVersion < 2^32 := by decide
  have hseq : Gen.sequenceMax < 2^32 := by decide
  have hkeys : Gen.genesisAssetInflationKeys < 2^64 := by decide
  have hvout : Gen.genesisAssetVout < 2^30 := by decide
  have hvoutne : Gen.genesisAssetVout ≠ 2^30 - 1 := by decide
  refine ⟨hver, by simp [assetTx], by simpa [assetTx] using hs.txIn, by simpa [assetTx] using hs.txOut,
    List.forall_mem_singleton.mpr ⟨⟨hc, .inl ⟨hvout, fun h => hvoutne h.1⟩, by simp [maxVecSize], hseq,
      (if_pos rfl).mpr ⟨by simp, ht, rep32_length _, ha, hkeys⟩⟩, txInWitness_empty_wf P⟩,
    List.forall_mem_singleton.mpr ⟨⟨hcomb _ _, ha, trivial, ?_⟩, txOutWitness_empty_wf P⟩⟩
  simp only [opcodeScript_length, maxVecSize]
  omega

theorem genesisHeader_wf (root : Bytes) (hr : root.length = 32) (hp : p.signBlockScript.length ≤ maxVecSize) :
    (genesisHeader p root).wf := by
  have hver : Gen.genesisHeaderVersion < 2^31 := by decide
  have htime : Gen.genesisHeaderTime < 2^32 := by decide
  have hheight : Gen.genesisHeaderHeight < 2^32 := by decide
  exact ⟨hver, rep32_length _, hr, htime, hheight, hp, by simp [maxVecSize]⟩

theorem coinbaseTx_inj (c c' : Bytes) (h : coinbaseTx c = coinbaseTx c') : c = c' := by
  have := congrArg (fun t : Tx => t.input.map (·.scriptSig)) h
  simpa [coinbaseTx] using this

theorem assetTx_inj (H : Hashes) (c c' : Bytes) (a a' : Nat) (h : assetTx H c a = assetTx H c' a') : c = c' ∧ a = a' := by
  have h1 := congrArg (fun t : Tx => t.input.map (·.previousOutput.txid)) h
  have h2 := congrArg (fun t : Tx => t.output.map (·.value)) h
  simp [assetTx] at h1 h2
  exact ⟨h1, h2⟩

/-- a proof device, not the platform: the transaction encoder does not mention `Prims`, so its injectivity on canonical
    values may be taken at any `Prims` for which the two genesis transactions are canonical, as at this one (every parse
    predicate accepts, unit sizes).  `Props.C01.P0` is another value (the 64-bit sizes). -/
def P0 : Prims := ⟨fun _ => true, fun _ => true, fun _ => true, fun _ => true, fun _ => true, fun _ => true, 1, 1, 1⟩

theorem P0_pos : SizesPos P0 := ⟨by decide, by decide, by decide⟩

theorem P0_fit : SizesFit P0 := ⟨by decide, by decide, by decide⟩

/-- the genesis transactions carry no witness, so `encStripped`, the preimage of the txid, is by computation their
    full serialization `enc` (the `show`), and that is injective on canonical transactions -/
theorem coinbase_txid_commits (H : Hashes) (c c' : Bytes) (hc : c.length = 32) (hc' : c'.length = 32)
    (h : (coinbaseTx c).txid H = (coinbaseTx c').txid H) : c = c' ∨ ∃ x y, x ≠ y ∧ H.sha256d x = H.sha256d y :=
  (eq_or_collision h).imp_left fun he => coinbaseTx_inj c c'
    (enc_injective P0 P0_pos _ _ (coinbaseTx_wf P0 c hc P0_fit) (coinbaseTx_wf P0 c' hc' P0_fit)
      (show (coinbaseTx c).enc = (coinbaseTx c').enc from he))

theorem asset_txid_commits (H : Hashes) (c c' : Bytes) (a a' : Nat)
    (hc : c.length = 32) (hc' : c'.length = 32) (ha : a < 2^64) (ha' : a' < 2^64)
    (hcomb : ∀ a b, (H.comb a b).length = 32)
    (h : (assetTx H c a).txid H = (assetTx H c' a').txid H) :
    (c = c' ∧ a = a') ∨ ∃ x y, x ≠ y ∧ H.sha256d x = H.sha256d y :=
  (eq_or_collision h).imp_left fun he => assetTx_inj H c c' a a'
    (enc_injective P0 P0_pos _ _ (assetTx_wf P0 H c a hc ha hcomb rfl P0_fit)
      (assetTx_wf P0 H c' a' hc' ha' hcomb rfl P0_fit) (show (assetTx H c a).enc = (assetTx H c' a').enc from he))

theorem coinbaseTx_encStripped_length (c : Bytes) (hc : c.length = 32) : (coinbaseTx c).encStripped.length = 130 := by
  have hn : OutPoint.null.txid.length = 32 := List.length_replicate
  simp [encStripped_length, coinbaseTx, TxIn.enc, TxOut.enc, TxIn.hasIssuance, null_isNull, encLe, leBytes_length,
    encBytesVec_length, varintSize, Asset.enc, Value.enc, Nonce.enc, beBytes_length, hn, hc, opcodeScript_length]

theorem header_commits (H : Hashes) (p q : NetworkParams) (r r' : Bytes) (hr : r.length = 32) (hr' : r'.length = 32)
    (hp : p.signBlockScript.length ≤ maxVecSize) (hq : q.signBlockScript.length ≤ maxVecSize)
    (h : (genesisHeader p r).blockHash H = (genesisHeader q r').blockHash H) :
    (r = r' ∧ p.signBlockScript = q.signBlockScript) ∨ ∃ x y, x ≠ y ∧ H.sha256d x = H.sha256d y := by
  refine (eq_or_collision h).imp_left fun he => ?_
  have := hashPreimage_injective _ _ (genesisHeader_wf p r hr hp) (genesisHeader_wf q r' hr' hq) he
  simpa only [BlockHeader.clearWitness, genesisHeader, ExtData.clearWitness, BlockHeader.mk.injEq,
    ExtData.proof.injEq, and_true, true_and] using this

theorem genesisRoot_length (H : Hashes) (hd : ∀ x, (H.sha256d x).length = 32) (t : Tx) (c : Bytes) (n : Nat) :
    (genesisRoot H t c n).length = 32 := by
  by_cases h : n = 0
  · rw [genesisRoot_zero h]
    exact hd _
  · rw [genesisRoot_nonzero h]
    exact hd _

theorem chainHash_eq (hc : (commit G.sha256 p).length = 32) : chainHash G p =
    some ((genesisHeader p (genesisRoot G.toHashes (coinbaseTx (commit G.sha256 p)) (commit G.sha256 p)
      p.initialFreeCoins)).blockHash G.toHashes) := by
  rw [chainHash, genesisBlock_of_len G p hc]
  rfl

theorem genesisRoot_commits (H : Hashes) (hd : ∀ x, (H.sha256d x).length = 32) (hcomb : ∀ a b, (H.comb a b).length = 32)
    (c c' : Bytes) (n n' : Nat) (hc : c.length = 32) (hc' : c'.length = 32) (hn : n < 2^64) (hn' : n' < 2^64)
    (h : genesisRoot H (coinbaseTx c) c n = genesisRoot H (coinbaseTx c') c' n') :
    (c = c' ∧ n = n') ∨ ∃ x y, x ≠ y ∧ H.sha256d x = H.sha256d y := by
  -- a stripped coinbase (130 bytes) is never a pair of txids (64 bytes)
  have hmix : ∀ c x y : Bytes, c.length = 32 → x.length = 32 → y.length = 32 →
      (coinbaseTx c).encStripped ≠ x ++ y := by
    intro c x y hc hx hy heq
    have := congrArg List.length heq
    rw [coinbaseTx_encStripped_length _ hc, List.length_append, hx, hy] at this
    omega
  by_cases h0 : n = 0
  · by_cases h1 : n' = 0
    · rw [genesisRoot_zero h0, genesisRoot_zero h1] at h
      exact (coinbase_txid_commits H c c' hc hc' h).imp_left fun e => ⟨e, h0.trans h1.symm⟩
    · rw [genesisRoot_zero h0, genesisRoot_nonzero h1] at h
      exact .inr ⟨_, _, hmix c _ _ hc (hd _) (hd _), h⟩
  · by_cases h1 : n' = 0
    · rw [genesisRoot_nonzero h0, genesisRoot_zero h1] at h
      exact .inr ⟨_, _, hmix c' _ _ hc' (hd _) (hd _), h.symm⟩
    · rw [genesisRoot_nonzero h0, genesisRoot_nonzero h1] at h
      refine (eq_or_collision h).elim (fun he => ?_) .inr
      exact asset_txid_commits H c c' n n' hc hc' hn hn' hcomb
        (List.append_inj he (by simp only [Tx.txid, hd])).2

theorem entropy_contract_same : rep32 Gen.genesisAssetEntropyByte = rep32 Gen.genesisAssetContractByte := by decide

theorem contract_zero : rep32 Gen.genesisAssetContractByte = List.replicate 32 0 := by decide

/-- the asset of the output of `liquid_genesis_asset_tx` is the asset id `TxIn::issuance_ids` derives for its input -/
theorem assetTx_issuanceIds (H : Hashes) (c : Bytes) (amount : Nat) (i : TxIn) (hi : (assetTx H c amount).input = [i]) :
    (i.issuanceIds H).map Prod.fst = some (genesisAssetId H c) := by
  cases hi
  rw [EV.Proofs.Issuance.txin_ids_eq]
  simp only [EV.Proofs.Issuance.entropyOf, Issuance.zero32, if_true, genesisAssetId, entropy_contract_same,
    Option.map_some]

/-- that asset id is `AssetId::new_issuance` of the outpoint `liquid_genesis_asset_tx` spends, with the zero contract hash -/
theorem newIssuance_genesis (H : Hashes) (c : Bytes) :
    Issuance.newIssuance H ⟨c, Gen.genesisAssetVout⟩ (List.replicate 32 0) = some (genesisAssetId H c) := by
  simp only [Issuance.newIssuance, EV.Proofs.Issuance.entropy_eq, EV.Proofs.Issuance.fromEntropy_eq, genesisAssetId, contract_zero]

theorem digit_byte : ∀ m : Fin 16, UInt8.ofNat (Hex.digit m.val).toNat = hexDigitByte m.val := by decide

theorem nib_hexDigitByte : ∀ m : Fin 16, Hex.nib (Char.ofNat (hexDigitByte m.val).toNat) = some m.val := by decide

theorem hexAscii_eq_hexStr (bs : Bytes) : hexAscii bs = (Text.hexStr bs).map (fun c => UInt8.ofNat c.toNat) := by
  rw [Text.hexStr, List.map_flatMap]
  refine congrArg (bs.flatMap ·) (funext fun b => ?_)
  have := b.toNat_lt
  rw [Hex.ofByte, List.map_cons, List.map_singleton, digit_byte ⟨_, by omega⟩, digit_byte ⟨_, Nat.mod_lt _ (by decide)⟩]

theorem decodeChars_hexAscii (bs : Bytes) :
    Hex.decodeChars ((hexAscii bs).map fun b => Char.ofNat b.toNat) = some bs := by
  rw [hexAscii, List.map_flatMap]
  exact Text.decodeChars_digits (fun n => Char.ofNat (hexDigitByte n).toNat) nib_hexDigitByte bs

theorem hexAscii_inj (a b : Bytes) (h : hexAscii a = hexAscii b) : a = b :=
  Option.some.inj ((decodeChars_hexAscii a).symm.trans (h ▸ decodeChars_hexAscii b))

theorem hexAscii_length (a : Bytes) : (hexAscii a).length = 2 * a.length := by
  simp [hexAscii_eq_hexStr, EV.Text.hexStr_length]

/-- the scriptSig of `liquid_genesis_tx` under the script iterator of C16: the 33 bytes serialize the one instruction
    `push c` -/
theorem push32_parses (c : Bytes) (hc : c.length = 32) (m : Bool) :
    Script.collect m (0x20 :: c).length (0x20 :: c) = ([.push c], none) := by
  have hs : Script.serialize [.push c] = 0x20 :: c := by
    simp only [Script.serialize, Script.encInstr, hc, show Script.pushHeader 32 = some [32] from by decide,
      Option.getD_some, List.append_nil, List.singleton_append]
  rw [← hs]
  refine EV.Proofs.ScriptIter.collect_serialize_nil m _ (List.forall_mem_singleton.mpr ⟨?_, ?_⟩)
  · show c.length < 2^32
    rw [hc]
    decide
  · rintro - b rfl
    cases hc

/-! ### instances showing that the hypotheses used in `Props/C02` are satisfiable -/

def constHashes : GHashes :=
  { sha256d := fun _ => List.replicate 32 0, comb := fun _ _ => List.replicate 32 0, sha256 := fun _ => List.replicate 32 0 }

theorem constHashes_len32 : Len32 constHashes := ⟨fun _ => by simp [constHashes], fun _ => by simp [constHashes], fun _ _ => by simp [constHashes]⟩

theorem liquidv1_ok : ParamsOk NetworkParams.liquidv1 := ⟨by decide +kernel, by decide +kernel⟩

theorem liquidtestnet_ok : ParamsOk NetworkParams.liquidtestnet := ⟨by decide +kernel, by decide +kernel⟩

end EV.Proofs.Genesis
