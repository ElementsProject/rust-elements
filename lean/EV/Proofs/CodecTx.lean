/-
  Laws of the transaction-level codecs (EV.Model.Transaction), built on CodecPrim.  `Value`, `Asset` and `Nonce`
  are one decoder `confDec` at three parameter sets.  The index word of an input with its pegin and issuance bits
  is a bijection `joinWord` / `splitWord` on the canonical triples `WordOk`.  Inputs, outputs and their witnesses
  are products of lawful codecs; a transaction reads the witnesses after the body (`Tx.decWitnesses`), so its
  laws go through the inputs and outputs with their witnesses cleared, and `stripWit` is what the txid sees.
  Last, the byte counts of `scaled_size` against the lengths of the encodings (C12).
-/
import EV.Model.Transaction
import EV.Proofs.CodecPrim
import EV.Proofs.NatBits
namespace EV.Proofs.CodecTx
open EV EV.Codec EV.Proofs.CodecPrim

variable (P : Prims)

/-- split the outermost `match`/`if` of a decoder equation `h`, discard the branches in which `h` is impossible, and
    name the new hypotheses of the rest -/
local macro "dsplit" h:ident " with" xs:(ppSpace colGt Lean.binderIdent)* : tactic =>
  `(tactic| (split at $h:ident <;> try (cases $h:ident; done)) <;> rename_i $xs*)

local macro "dsplits" h:ident : tactic =>
  `(tactic| repeat' (split at $h:ident <;> try (cases $h:ident; done)))

/-- the common shape of the `Value`, `Asset` and `Nonce` decoders: a tag byte, then nothing (`0`), an
    explicit payload read by `dE` (`1`), or the other 32 bytes of a commitment that starts with the tag
    (`p₁` or `p₂`) and satisfies `valid` -/
def confDec {α β : Type} (null : α) (dE : Dec β) (expl : β → α) (conf : Bytes → α) (p₁ p₂ : UInt8)
    (valid : Bytes → Bool) (msg : String) : Dec α := fun bs =>
  match bs with
  | [] => .err "eof"
  | p :: rest =>
    if p = 0 then .ok (null, rest)
    else if p = 1 then dE.map expl rest
    else if p = p₁ ∨ p = p₂ then
      (take 32).bind (fun b r => if valid (p :: b) then .ok (conf (p :: b), r) else .err msg) rest
    else .err "invalid confidential prefix"

/-- `eE`, `wE` are encoder and canonicity of the explicit payload alone -/
theorem conf_lawful {α β : Type} {null : α} {dE : Dec β} {expl : β → α} {conf : Bytes → α} {p₁ p₂ : UInt8}
    {valid : Bytes → Bool} {msg : String} {e : α → Bytes} {eE : β → Bytes} {w : α → Prop} {wE : β → Prop}
    (hE : Lawful dE eE wE) (hp : ¬ (0 = p₁ ∨ 0 = p₂) ∧ ¬ (1 = p₁ ∨ 1 = p₂))
    (hnull : e null = [0] ∧ w null)
    (hexpl : ∀ b, wE b → e (expl b) = 1 :: eE b ∧ w (expl b))
    (hconf : ∀ c, e (conf c) = c ∧
      (w (conf c) ↔ c.length = 33 ∧ (c.head? = some p₁ ∨ c.head? = some p₂) ∧ valid c = true))
    (hcases : ∀ v, w v → v = null ∨ (∃ b, wE b ∧ v = expl b) ∨ ∃ c, v = conf c) :
    Lawful (confDec null dE expl conf p₁ p₂ valid msg) e w := by
  refine .of_sound (fun bs => ?_) fun v r hv => ?_
  · cases bs with
    | nil => exact .err
    | cons p t =>
      simp only [confDec]
      refine .ite (fun h0 => ?_) fun _ => ?_
      · subst h0
        refine .ok ⟨?_, hnull.2⟩
        rw [hnull.1]
        rfl
      refine .ite (fun h1 => ?_) fun _ => ?_
      · subst h1
        refine hE.sound_bind fun b r hb ht => ?_
        subst ht
        refine .ok ⟨?_, (hexpl b hb).2⟩
        rw [(hexpl b hb).1]
        rfl
      refine .ite (fun hp' => ?_) fun _ => .err
      refine (take_lawful 32).sound_bind fun b r hb ht => .ite (fun hv => ?_) fun _ => .err
      subst ht
      refine .ok ⟨?_, (hconf _).2.mpr ⟨congrArg (· + 1) hb, hp'.imp (congrArg some) (congrArg some), hv⟩⟩
      rw [(hconf _).1]
      rfl
  · rcases hcases v hv with rfl | ⟨b, hb, rfl⟩ | ⟨c, rfl⟩
    · rw [hnull.1]
      rfl
    · rw [(hexpl b hb).1]
      simp only [confDec, List.cons_append, if_neg (by decide : ¬ (1 : UInt8) = 0), if_true]
      rw [Dec.map, hE.bind_enc hb]
      rfl
    · obtain ⟨hl, hh, hc⟩ := (hconf c).2.mp hv
      rw [(hconf c).1]
      cases c with
      | nil => cases hl
      | cons p b =>
        have hh' : p = p₁ ∨ p = p₂ := hh.imp Option.some.inj Option.some.inj
        have hb : b.length = 32 := Nat.succ.inj hl
        have d0 : ¬ p = 0 := fun h => hp.1 (h ▸ hh')
        have d1 : ¬ p = 1 := fun h => hp.2 (h ▸ hh')
        simp only [confDec, List.cons_append, if_neg d0, if_neg d1, if_pos hh']
        rw [(take_lawful 32).bind_enc hb, if_pos hc]

set_option smartUnfolding false in
theorem value_dec_eq : Value.dec P =
    confDec .null (take 8) (fun b => .explicit (beNat b)) .conf 8 9 P.commitment "invalid commitment" := rfl

set_option smartUnfolding false in
theorem asset_dec_eq : Asset.dec P =
    confDec .null (take 32) .explicit .conf 0x0a 0x0b P.generator "invalid generator" := rfl

set_option smartUnfolding false in
theorem nonce_dec_eq : Nonce.dec P =
    confDec .null (take 32) .explicit .conf 2 3 P.pubkey "invalid pubkey" := rfl

theorem value_lawful : Lawful (Value.dec P) Value.enc (Value.wf P) := by
  rw [value_dec_eq]
  refine conf_lawful (take_lawful 8) (by decide) ⟨rfl, trivial⟩ (fun b hb => ?_) (fun c => ⟨rfl, Iff.rfl⟩)
    (fun v hv => ?_)
  · exact ⟨congrArg (1 :: ·) (beBytes_beNat hb), beNat_lt hb⟩
  · cases v with
    | null => exact .inl rfl
    | explicit n => exact .inr (.inl ⟨beBytes 8 n, beBytes_length 8 n, by rw [beNat_beBytes 8 n hv]⟩)
    | conf c => exact .inr (.inr ⟨c, rfl⟩)

theorem asset_lawful : Lawful (Asset.dec P) Asset.enc (Asset.wf P) := by
  rw [asset_dec_eq]
  refine conf_lawful (take_lawful 32) (by decide) ⟨rfl, trivial⟩ (fun b hb => ⟨rfl, hb⟩)
    (fun c => ⟨rfl, Iff.rfl⟩) (fun v hv => ?_)
  cases v with
  | null => exact .inl rfl
  | explicit b => exact .inr (.inl ⟨b, hv, rfl⟩)
  | conf c => exact .inr (.inr ⟨c, rfl⟩)

theorem nonce_lawful : Lawful (Nonce.dec P) Nonce.enc (Nonce.wf P) := by
  rw [nonce_dec_eq]
  refine conf_lawful (take_lawful 32) (by decide) ⟨rfl, trivial⟩ (fun b hb => ⟨rfl, hb⟩)
    (fun c => ⟨rfl, Iff.rfl⟩) (fun v hv => ?_)
  cases v with
  | null => exact .inl rfl
  | explicit b => exact .inr (.inl ⟨b, hv, rfl⟩)
  | conf c => exact .inr (.inr ⟨c, rfl⟩)

omit P in
theorem value_isNull_iff (v : Value) : v.isNull = true ↔ v = .null := by
  cases v <;> simp [Value.isNull]

theorem value_enc_length (v : Value) (h : v.wf P) : v.enc.length = v.encodedLength := by
  cases v with
  | null => rfl
  | explicit n => simp [Value.enc, Value.encodedLength, beBytes_length]
  | conf c => exact h.1

theorem asset_enc_length (v : Asset) (h : v.wf P) : v.enc.length = v.encodedLength := by
  cases v with
  | null => rfl
  | explicit n => exact congrArg (· + 1) (show n.length = 32 from h)
  | conf c => exact h.1

theorem nonce_enc_length (v : Nonce) (h : v.wf P) : v.enc.length = v.encodedLength := by
  cases v with
  | null => rfl
  | explicit n => exact congrArg (· + 1) (show n.length = 32 from h)
  | conf c => exact h.1

set_option smartUnfolding false in
theorem issuance_dec_eq : AssetIssuance.dec P = (take 32).bind fun n r =>
    if !P.tweak n then .err "invalid tweak" else
      ((take 32).bind fun e => (Value.dec P).bind fun a => (Value.dec P).bind fun k =>
        Dec.pure ⟨n, e, a, k⟩) r := rfl

theorem issuance_lawful : Lawful (AssetIssuance.dec P) AssetIssuance.enc (AssetIssuance.wf P) := by
  refine .of_sound (fun bs => ?_) fun v r hv => ?_
  · rw [issuance_dec_eq]
    refine (take_lawful 32).sound_bind fun n r1 l1 h1 => .guard fun htw => ?_
    refine (take_lawful 32).sound_bind fun e r2 l2 h2 => (value_lawful P).sound_bind fun a r3 w3 h3 =>
      (value_lawful P).sound_bind fun k r4 w4 h4 => ?_
    subst h1 h2 h3 h4
    exact .ok ⟨by simp only [AssetIssuance.enc, List.append_assoc], l1, by simpa using htw, l2, w3, w4⟩
  · obtain ⟨l1, tw, l2, w3, w4⟩ := hv
    simp only [issuance_dec_eq, AssetIssuance.enc, List.append_assoc, (take_lawful 32).bind_enc l1,
      (take_lawful 32).bind_enc l2, (value_lawful P).bind_enc w3, (value_lawful P).bind_enc w4, tw]
    rfl

set_option smartUnfolding false in
theorem outpoint_dec_eq : OutPoint.dec = ((take 32).pair (le 4)).map fun (t, v) => ⟨t, v⟩ := by
  simp only [Dec.pair, Dec.map, Dec.bind_assoc, Dec.pure_bind]
  rfl

theorem outpoint_lawful : Lawful OutPoint.dec OutPoint.enc OutPoint.wf :=
  (((take_lawful 32).pair (le_lawful 4)).map (g := fun o : OutPoint => (o.txid, o.vout))
    (fun _ h => ⟨rfl, h⟩) (fun _ h => ⟨rfl, h⟩)).congr outpoint_dec_eq (fun _ => rfl)

set_option smartUnfolding false in
theorem optProof_dec_eq (valid : Bytes → Bool) : decOptProof valid = bytesVec.bind fun v r =>
    if v.isEmpty then .ok (none, r) else if valid v then .ok (some v, r) else .err "invalid proof" := rfl

theorem optProof_lawful (valid : Bytes → Bool) :
    Lawful (decOptProof valid) encOptProof (wfOptProof valid) := by
  refine .of_sound (fun bs => ?_) fun v r hv => ?_
  · rw [optProof_dec_eq]
    refine bytesVec_lawful.sound_bind fun b r l1 hb => ?_
    refine .ite (fun he => ?_) fun he => ?_
    · rw [hb, List.isEmpty_iff.mp he]
      exact .ok ⟨rfl, trivial⟩
    refine .ite (fun hv => ?_) fun _ => .err
    exact .ok ⟨hb, by simpa using he, hv, l1⟩
  · cases v with
    | none =>
      rw [optProof_dec_eq, encOptProof, bytesVec_lawful.bind_enc (Nat.zero_le _)]
      rfl
    | some b =>
      obtain ⟨h1, h2, h3⟩ := hv
      rw [optProof_dec_eq, encOptProof, bytesVec_lawful.bind_enc h3, if_neg (by simpa using h1), if_pos h2]

set_option smartUnfolding false in
theorem txInWitness_dec_eq : TxInWitness.dec P =
    ((decOptProof P.rangeproof).pair <| (decOptProof P.rangeproof).pair <| bytesVecVec.pair bytesVecVec).map
      fun (a, k, s, p) => ⟨a, k, s, p⟩ := by
  simp only [Dec.pair, Dec.map, Dec.bind_assoc, Dec.pure_bind]
  rfl

theorem txInWitness_lawful : Lawful (TxInWitness.dec P) TxInWitness.enc (TxInWitness.wf P) :=
  (((optProof_lawful P.rangeproof).pair <| (optProof_lawful P.rangeproof).pair <|
      bytesVecVec_lawful.pair bytesVecVec_lawful).map
    (g := fun w : TxInWitness => (w.amountRangeproof, w.inflationKeysRangeproof, w.scriptWitness, w.peginWitness))
    (fun _ h => ⟨rfl, h⟩) (fun _ h => ⟨rfl, h⟩)).congr (txInWitness_dec_eq P)
    (fun _ => by simp only [TxInWitness.enc, List.append_assoc])

set_option smartUnfolding false in
theorem txOutWitness_dec_eq : TxOutWitness.dec P =
    ((decOptProof P.surjproof).pair (decOptProof P.rangeproof)).map fun (s, r) => ⟨s, r⟩ := by
  simp only [Dec.pair, Dec.map, Dec.bind_assoc, Dec.pure_bind]
  rfl

theorem txOutWitness_lawful : Lawful (TxOutWitness.dec P) TxOutWitness.enc (TxOutWitness.wf P) :=
  (((optProof_lawful P.surjproof).pair (optProof_lawful P.rangeproof)).map
    (g := fun w : TxOutWitness => (w.surjectionProof, w.rangeproof))
    (fun _ h => ⟨rfl, h⟩) (fun _ h => ⟨rfl, h⟩)).congr (txOutWitness_dec_eq P) (fun _ => rfl)

/-- the index word of a serialized input (`TxIn.voutWord`): the index in the low 30 bits, bit 30 = pegin,
    bit 31 = issuance -/
def joinWord (v : Nat) (p q : Bool) : Nat := (v ||| (if p then 2^30 else 0)) ||| (if q then 2^31 else 0)

/-- what `impl Decodable for TxIn` reads off the word; the coinbase word carries no flags -/
def splitWord (w : Nat) : Nat × Bool × Bool :=
  (if w = 0xffffffff then w else w % 2^30, !decide (w = 0xffffffff) && w.testBit 30,
    !decide (w = 0xffffffff) && w.testBit 31)

/-- canonical (index, pegin, issuance) triples, as in `TxIn.wfBody`: an index proper, or the coinbase index
    without flags; index `2^30 - 1` with both flags is left out because its word is the coinbase word -/
def WordOk (v : Nat) (p q : Bool) : Prop :=
  (v < 2^30 ∧ ¬ (v = 2^30 - 1 ∧ p = true ∧ q = true)) ∨ (v = 0xffffffff ∧ p = false ∧ q = false)

theorem joinWord_eq_iff {v w : Nat} {p q : Bool} (hv : v < 2^30) :
    joinWord v p q = w ↔ w < 2^32 ∧ w % 2^30 = v ∧ w.testBit 30 = p ∧ w.testBit 31 = q := by
  have hx : v ||| (if p then 2^30 else 0) < 2^31 := ((NatBits.flag_iff hv).mp rfl).1
  have hm : w % 2^31 % 2^30 = w % 2^30 := Nat.mod_mod_of_dvd _ ⟨2, rfl⟩
  -- the issuance flag sits above the 31-bit field `w % 2^31`, and in that field the pegin flag above the index
  rw [joinWord, NatBits.flag_iff hx, eq_comm (a := w % 2^31), NatBits.flag_iff hv, hm, Nat.testBit_mod_two_pow]
  exact ⟨fun ⟨a, ⟨_, b, c⟩, d⟩ => ⟨a, b, c, d⟩, fun ⟨a, b, c, d⟩ => ⟨a, ⟨Nat.mod_lt _ (Nat.two_pow_pos 31), b, c⟩, d⟩⟩

theorem joinWord_coinbase : ∀ p q : Bool, joinWord 0xffffffff p q = 0xffffffff := by
  decide

theorem joinWord_eq_coinbase_iff {v : Nat} {p q : Bool} (hv : v < 2^30) :
    joinWord v p q = 0xffffffff ↔ v = 2^30 - 1 ∧ p = true ∧ q = true := by
  rw [joinWord_eq_iff hv]
  exact ⟨fun ⟨_, a, b, c⟩ => ⟨a.symm, b.symm, c.symm⟩, fun ⟨a, b, c⟩ => ⟨by decide, a.symm, b.symm, c.symm⟩⟩

theorem splitWord_joinWord {v : Nat} {p q : Bool} (h : WordOk v p q) :
    joinWord v p q < 2^32 ∧ splitWord (joinWord v p q) = (v, p, q) := by
  rcases h with ⟨hv, hne⟩ | ⟨rfl, rfl, rfl⟩
  · obtain ⟨hw, hm, h30, h31⟩ := (joinWord_eq_iff hv).mp rfl
    have hcb : ¬ joinWord v p q = 0xffffffff := fun h => hne ((joinWord_eq_coinbase_iff hv).mp h)
    rw [splitWord, if_neg hcb, decide_eq_false hcb, hm, h30, h31]
    exact ⟨hw, rfl⟩
  · exact ⟨by decide, rfl⟩

theorem joinWord_splitWord {w : Nat} (hw : w < 2^32) :
    WordOk (splitWord w).1 (splitWord w).2.1 (splitWord w).2.2 ∧
      joinWord (splitWord w).1 (splitWord w).2.1 (splitWord w).2.2 = w := by
  by_cases hcb : w = 0xffffffff
  · subst hcb
    exact ⟨.inr ⟨rfl, rfl, rfl⟩, rfl⟩
  · have hm : w % 2^30 < 2^30 := Nat.mod_lt _ (Nat.two_pow_pos 30)
    have hj : joinWord (w % 2^30) (w.testBit 30) (w.testBit 31) = w := (joinWord_eq_iff hm).mpr ⟨hw, rfl, rfl, rfl⟩
    simp only [splitWord, if_neg hcb, decide_eq_false hcb, Bool.not_false, Bool.true_and]
    exact ⟨.inl ⟨hm, fun h => hcb (hj ▸ (joinWord_eq_coinbase_iff hm).mpr h)⟩, hj⟩

theorem null_isNull : AssetIssuance.null.isNull = true := rfl

theorem txIn_enc_of (i : TxIn) (w : Nat) (hw : i.voutWord = w) :
    i.enc = OutPoint.enc ⟨i.previousOutput.txid, w⟩ ++ (encBytesVec i.scriptSig ++ (encLe 4 i.sequence ++
      (if i.hasIssuance then i.assetIssuance.enc else []))) := by
  simp only [TxIn.enc, OutPoint.enc, hw, List.append_assoc]

set_option smartUnfolding false in
theorem txIn_dec_eq : TxIn.dec P =
    OutPoint.dec.bind fun outp => bytesVec.bind fun scriptSig => (le 4).bind fun sequence r3 =>
      let s := splitWord outp.vout
      if s.2.2 then
        (AssetIssuance.dec P).bind (fun iss r4 =>
          if iss.isNull then .err "superfluous asset issuance"
          else .ok (⟨⟨outp.txid, s.1⟩, s.2.1, scriptSig, sequence, iss, TxInWitness.empty⟩, r4)) r3
      else .ok (⟨⟨outp.txid, s.1⟩, s.2.1, scriptSig, sequence, AssetIssuance.null, TxInWitness.empty⟩, r3) := by
  unfold TxIn.dec Dec.bind
  rfl

theorem txIn_complete (i : TxIn) (r : Bytes) (h : i.wfBody P ∧ i.witness = TxInWitness.empty) :
    TxIn.dec P (i.enc ++ r) = .ok (i, r) := by
  obtain ⟨⟨htx, hidx, hss, hsq, hiss⟩, hwit⟩ := h
  have hs : i.voutWord < 2^32 ∧ splitWord i.voutWord = _ := splitWord_joinWord hidx
  rw [txIn_dec_eq, txIn_enc_of i _ rfl, List.append_assoc, List.append_assoc, List.append_assoc,
    outpoint_lawful.bind_enc (a := ⟨i.previousOutput.txid, i.voutWord⟩) ⟨htx, hs.1⟩, bytesVec_lawful.bind_enc hss,
    (le_lawful 4).bind_enc hsq]
  simp only [hs.2]
  cases hq : i.hasIssuance
  · simp only [hq, Bool.false_eq_true, if_false] at hiss ⊢
    rw [← hiss, ← hwit]
    rfl
  · have hn : ¬ i.assetIssuance.isNull = true := by simpa [TxIn.hasIssuance] using hq
    simp only [hq, if_true] at hiss ⊢
    rw [(issuance_lawful P).bind_enc hiss, if_neg hn, ← hwit]

/-- the witness is not serialized, the decoder leaves it empty -/
theorem txIn_lawful :
    Lawful (TxIn.dec P) TxIn.enc (fun i => i.wfBody P ∧ i.witness = TxInWitness.empty) := by
  refine .of_sound (fun bs => ?_) (txIn_complete P)
  rw [txIn_dec_eq]
  refine outpoint_lawful.sound_bind fun ⟨txid, w⟩ r1 ⟨l1, lw⟩ e1 => bytesVec_lawful.sound_bind fun ss r2 l2 e2 =>
    (le_lawful 4).sound_bind fun sq r3 l3 e3 => ?_
  subst e1 e2 e3
  obtain ⟨hok, hj⟩ := joinWord_splitWord lw
  generalize splitWord w = s at hok hj
  obtain ⟨v, p, q⟩ := s
  dsimp only at hok hj ⊢
  cases q
  · refine .ok ⟨?_, ⟨l1, hok, l2, l3, rfl⟩, rfl⟩
    rw [txIn_enc_of (w := w)]
    · simp only [TxIn.hasIssuance, null_isNull, Bool.not_true, Bool.false_eq_true, if_false, List.append_nil,
        List.append_assoc]
    · exact hj
  · refine (issuance_lawful P).sound_bind fun iss r4 w4 e4 => ?_
    subst e4
    refine .guard fun hnull => ?_
    have hI : TxIn.hasIssuance ⟨⟨txid, v⟩, p, ss, sq, iss, TxInWitness.empty⟩ = true := by
      simpa [TxIn.hasIssuance] using hnull
    refine .ok ⟨?_, ⟨l1, ?_, l2, l3, ?_⟩, rfl⟩
    · rw [txIn_enc_of (w := w)]
      · simp only [hI, if_true, List.append_assoc]
      · rw [TxIn.voutWord, hI]
        exact hj
    · rw [hI]
      exact hok
    · simpa only [hI, if_true] using w4

set_option smartUnfolding false in
theorem txOut_dec_eq : TxOut.dec P =
    ((Asset.dec P).pair <| (Value.dec P).pair <| (Nonce.dec P).pair bytesVec).map
      fun (a, v, n, s) => ⟨a, v, n, s, TxOutWitness.empty⟩ := by
  simp only [Dec.pair, Dec.map, Dec.bind_assoc, Dec.pure_bind]
  rfl

theorem txOut_lawful :
    Lawful (TxOut.dec P) TxOut.enc (fun o => o.wfBody P ∧ o.witness = TxOutWitness.empty) :=
  (((asset_lawful P).pair <| (value_lawful P).pair <| (nonce_lawful P).pair bytesVec_lawful).map
    (g := fun o : TxOut => (o.asset, o.value, o.nonce, o.scriptPubkey))
    (fun _ h => ⟨rfl, h, rfl⟩) (fun o h => ⟨by cases o; cases h.2; rfl, h.1⟩)).congr (txOut_dec_eq P)
    (fun _ => by simp only [TxOut.enc, List.append_assoc])

theorem txIn_enc_witness (i : TxIn) (w : TxInWitness) : TxIn.enc { i with witness := w } = TxIn.enc i := rfl

theorem txOut_enc_witness (o : TxOut) (w : TxOutWitness) : TxOut.enc { o with witness := w } = TxOut.enc o := rfl

/-- needed by the vector guard -/
structure SizesPos : Prop where
  txIn : 0 < P.sizeTxIn
  txOut : 0 < P.sizeTxOut
  tx : 0 < P.sizeTx

def stripIn (i : TxIn) : TxIn := { i with witness := TxInWitness.empty }
def stripOut (o : TxOut) : TxOut := { o with witness := TxOutWitness.empty }
/-- the transaction whose serialization is the preimage of the txid (`enc_stripWit`) -/
def stripWit (t : Tx) : Tx := { t with input := t.input.map stripIn, output := t.output.map stripOut }

private def clrIn (i : TxIn) : TxIn := { i with witness := TxInWitness.empty }
private def clrOut (o : TxOut) : TxOut := { o with witness := TxOutWitness.empty }

private theorem stripIn_eq_clrIn : stripIn = clrIn := rfl
private theorem stripOut_eq_clrOut : stripOut = clrOut := rfl

set_option smartUnfolding false in
theorem decWitnesses_cons {α ω : Type} (d : Dec ω) (set : α → ω → α) (a : α) (as : List α) :
    Tx.decWitnesses d set (a :: as) = d.bind fun w => (Tx.decWitnesses d set as).map (set a w :: ·) := rfl

theorem decWitnesses_sound {α ω β : Type} {d : Dec ω} {e : ω → Bytes} {wf : ω → Prop}
    (hl : Lawful d e wf) (set : α → ω → α) (get : α → ω) (f : α → β)
    (hget : ∀ a w, get (set a w) = w) (hf : ∀ a w, f (set a w) = f a) :
    ∀ (l : List α) (bs : Bytes), Sound (fun l' rest =>
      bs = l'.flatMap (fun a => e (get a)) ++ rest ∧ l'.map f = l.map f ∧ ∀ a ∈ l', wf (get a))
      (Tx.decWitnesses d set l bs) := by
  intro l
  induction l with
  | nil =>
    intro bs
    exact .ok ⟨rfl, rfl, nofun⟩
  | cons a as ih =>
    intro bs
    rw [decWitnesses_cons]
    refine hl.sound_bind fun w r1 w1 hb => (ih r1).andThen fun as' r2 ⟨hr, m2, w2⟩ => ?_
    subst hb hr
    have wa : wf (get (set a w)) := (hget a w).symm ▸ w1
    exact .ok ⟨by simp [hget], by simp [hf, m2], List.forall_mem_cons.mpr ⟨wa, w2⟩⟩

theorem decWitnesses_complete {α ω : Type} {d : Dec ω} {e : ω → Bytes} {wf : ω → Prop}
    (hl : Lawful d e wf) (set : α → ω → α) (get : α → ω) (f : α → α)
    (hset : ∀ a, set (f a) (get a) = a) :
    ∀ (l : List α) (r : Bytes), (∀ a ∈ l, wf (get a)) →
      Tx.decWitnesses d set (l.map f) (l.flatMap (fun a => e (get a)) ++ r) = .ok (l, r) := by
  intro l
  induction l with
  | nil => exact fun _ _ => rfl
  | cons a as ih =>
    intro r hw
    obtain ⟨wa, was⟩ := List.forall_mem_cons.mp hw
    rw [List.map_cons, List.flatMap_cons, List.append_assoc, decWitnesses_cons, hl.bind_enc wa,
      Dec.map, Dec.bind_of_ok (ih r was), hset]
    rfl

theorem txInWitness_isEmpty_iff (w : TxInWitness) : w.isEmpty = true ↔ w = TxInWitness.empty := by
  obtain ⟨a, b, c, d⟩ := w
  simp [TxInWitness.isEmpty, TxInWitness.empty, and_assoc]

theorem txOutWitness_isEmpty_iff (w : TxOutWitness) : w.isEmpty = true ↔ w = TxOutWitness.empty := by
  obtain ⟨a, b⟩ := w
  simp [TxOutWitness.isEmpty, TxOutWitness.empty]

theorem txInWitness_empty_wf : TxInWitness.empty.wf P := by
  refine ⟨trivial, trivial, ⟨?_, ?_⟩, ⟨?_, ?_⟩⟩ <;> simp [TxInWitness.empty, maxVecSize]

theorem txOutWitness_empty_wf : TxOutWitness.empty.wf P := ⟨trivial, trivial⟩

theorem hasWitness_eq (t : Tx) :
    t.hasWitness = !(t.input.all (fun i => i.witness.isEmpty) && t.output.all (fun o => o.witness.isEmpty)) := by
  simp only [Tx.hasWitness, Bool.not_and, List.not_all_eq_any_not]

theorem hasWitness_false_iff (t : Tx) :
    t.hasWitness = false ↔
      (∀ i ∈ t.input, i.witness = TxInWitness.empty) ∧ (∀ o ∈ t.output, o.witness = TxOutWitness.empty) := by
  simp only [Tx.hasWitness, Bool.or_eq_false_iff, List.any_eq_false, Bool.not_eq_true',
    Bool.not_eq_false, txInWitness_isEmpty_iff, txOutWitness_isEmpty_iff]

theorem encVec_map {α : Type} {e : α → Bytes} {f : α → α} (h : ∀ a, e (f a) = e a) (l : List α) :
    encVec e (l.map f) = encVec e l :=
  encVec_congr e _ _ (List.map_map.trans (List.map_congr_left fun a _ => h a))

theorem stripIn_eq_self {i : TxIn} (h : i.witness = TxInWitness.empty) : stripIn i = i := by
  rw [stripIn, ← h]

theorem stripOut_eq_self {o : TxOut} (h : o.witness = TxOutWitness.empty) : stripOut o = o := by
  rw [stripOut, ← h]

set_option smartUnfolding false in
theorem tx_dec_eq : Tx.dec P =
    (le 4).bind fun version => u8.bind fun flag => (vecOf P.sizeTxIn (TxIn.dec P)).bind fun input =>
    (vecOf P.sizeTxOut (TxOut.dec P)).bind fun output => (le 4).bind fun lockTime r5 =>
      if flag = 0 then .ok (⟨version, lockTime, input, output⟩, r5)
      else if flag = 1 then
        ((Tx.decWitnesses (TxInWitness.dec P) (fun i w => { i with witness := w }) input).bind fun input' =>
          (Tx.decWitnesses (TxOutWitness.dec P) (fun o w => { o with witness := w }) output).bind
            fun output' r7 =>
              if input'.all (fun i => i.witness.isEmpty) && output'.all (fun o => o.witness.isEmpty)
              then .err "witness flag set but no witnesses were given"
              else .ok (⟨version, lockTime, input', output'⟩, r7)) r5
      else .err "bad witness flag in tx" := by
  unfold Tx.dec Dec.bind
  rfl

theorem u8_zero (r : Bytes) : u8 ([0] ++ r) = .ok (0, r) := rfl

theorem u8_one (r : Bytes) : u8 ([1] ++ r) = .ok (1, r) := rfl

theorem tx_sound (bs : Bytes) : Sound (fun t rest => bs = t.enc ++ rest ∧ t.wf P) (Tx.dec P bs) := by
  rw [tx_dec_eq]
  refine (le_lawful 4).sound_bind fun version r1 l1 e1 => u8_lawful.sound_bind fun flag r2 _ e2 =>
    (vecOf_sound P.sizeTxIn (txIn_lawful P) r2).andThen fun input r3 ⟨e3, l3, w3⟩ =>
    (vecOf_sound P.sizeTxOut (txOut_lawful P) r3).andThen fun output r4 ⟨e4, l4, w4⟩ =>
    (le_lawful 4).sound_bind fun lockTime r5 l5 e5 => ?_
  subst e1 e2 e3 e4 e5
  refine .ite (fun hf => ?_) fun _ => .ite (fun hf1 => ?_) fun _ => .err
  · subst hf
    have hnw : Tx.hasWitness ⟨version, lockTime, input, output⟩ = false :=
      (hasWitness_false_iff _).mpr ⟨fun i hi => (w3 i hi).2, fun o ho => (w4 o ho).2⟩
    refine .ok ⟨?_, l1, l5, l3, l4, ?_, ?_⟩
    · simp only [Tx.enc, hnw, Bool.false_eq_true, if_false, Tx.encStripped, List.append_assoc]
      rfl
    · intro i hi
      exact ⟨(w3 i hi).1, (w3 i hi).2 ▸ txInWitness_empty_wf P⟩
    · intro o ho
      exact ⟨(w4 o ho).1, (w4 o ho).2 ▸ txOutWitness_empty_wf P⟩
  · subst hf1
    refine (decWitnesses_sound (txInWitness_lawful P) (fun (i : TxIn) w => { i with witness := w })
        TxIn.witness stripIn (fun _ _ => rfl) (fun _ _ => rfl) input r5).andThen fun input' r6 ⟨e6, m6, w6⟩ =>
      (decWitnesses_sound (txOutWitness_lawful P) (fun (o : TxOut) w => { o with witness := w })
        TxOut.witness stripOut (fun _ _ => rfl) (fun _ _ => rfl) output r6).andThen fun output' r7 ⟨e7, m7, w7⟩ => ?_
    -- the inputs and outputs read before the witnesses are the returned ones with their witnesses cleared
    rw [List.map_inj_left.mpr fun i hi => stripIn_eq_self (w3 i hi).2, List.map_id'] at m6
    rw [List.map_inj_left.mpr fun o ho => stripOut_eq_self (w4 o ho).2, List.map_id'] at m7
    subst e6 e7 m6 m7
    refine .guard fun hne => ?_
    have hw : Tx.hasWitness ⟨version, lockTime, input', output'⟩ = true := by
      rw [hasWitness_eq, Bool.eq_false_iff.mpr hne]
      rfl
    rw [List.length_map] at l3 l4
    refine .ok ⟨?_, l1, l5, l3, l4, ?_, ?_⟩
    · simp only [Tx.enc, hw, if_true, List.append_assoc, encVec_map (f := stripIn) (txIn_enc_witness · _),
        encVec_map (f := stripOut) (txOut_enc_witness · _)]
      rfl
    · intro i hi
      exact ⟨(w3 _ (List.mem_map_of_mem hi)).1, w6 i hi⟩
    · intro o ho
      exact ⟨(w4 _ (List.mem_map_of_mem ho)).1, w7 o ho⟩

theorem tx_total (bs : Bytes) (s : String) : Tx.dec P bs ≠ .panic s := (tx_sound P bs).ne_panic s

/-- `deserialize` returns what the partial decoder returns when nothing is left over -/
theorem deserialize_of_dec {bs : Bytes} {t : Tx} (h : Tx.dec P bs = .ok (t, [])) : Tx.deserialize P bs = .ok t := by
  rw [Tx.deserialize, h]

theorem stripWit_hasWitness (t : Tx) : (stripWit t).hasWitness = false :=
  (hasWitness_false_iff _).mpr ⟨List.forall_mem_map.mpr fun _ _ => rfl, List.forall_mem_map.mpr fun _ _ => rfl⟩

theorem encStripped_stripWit (t : Tx) : (stripWit t).encStripped = t.encStripped := by
  simp only [Tx.encStripped, stripWit, encVec_map (f := stripIn) (txIn_enc_witness · _),
    encVec_map (f := stripOut) (txOut_enc_witness · _)]

theorem enc_stripWit (t : Tx) : (stripWit t).enc = t.encStripped := by
  simp only [Tx.enc, stripWit_hasWitness, Bool.false_eq_true, if_false]
  exact encStripped_stripWit t

theorem stripWit_wf (t : Tx) (h : t.wf P) : (stripWit t).wf P := by
  obtain ⟨hver, hlock, hnin, hnout, hins, houts⟩ := h
  refine ⟨hver, hlock, ?_, ?_, List.forall_mem_map.mpr fun i hi => ⟨(hins i hi).1, txInWitness_empty_wf P⟩,
    List.forall_mem_map.mpr fun o ho => ⟨(houts o ho).1, txOutWitness_empty_wf P⟩⟩
  · simpa only [stripWit, List.length_map] using hnin
  · simpa only [stripWit, List.length_map] using hnout

theorem stripWit_eq_self_of_no_witness (t : Tx) (h : t.hasWitness = false) : stripWit t = t := by
  obtain ⟨hi, ho⟩ := (hasWitness_false_iff t).mp h
  rw [stripWit, List.map_inj_left.mpr fun i hi' => stripIn_eq_self (hi i hi'),
    List.map_inj_left.mpr fun o ho' => stripOut_eq_self (ho o ho'), List.map_id', List.map_id']

theorem tx_lawful (hs : SizesPos P) : Lawful (Tx.dec P) Tx.enc (Tx.wf P) := by
  refine .of_sound (tx_sound P) fun t r h => ?_
  obtain ⟨hver, hlock, hnin, hnout, hins, houts⟩ := h
  have c1 := (le_lawful 4).bind_enc (β := Tx) hver
  have c5 := (le_lawful 4).bind_enc (β := Tx) hlock
  have c3 := (vecOf_lawful P.sizeTxIn hs.txIn _ _ _ (txIn_lawful P)).bind_enc (β := Tx) (a := t.input.map stripIn)
    ⟨by simpa only [List.length_map] using hnin, List.forall_mem_map.mpr fun i hi => ⟨(hins i hi).1, rfl⟩⟩
  have c4 := (vecOf_lawful P.sizeTxOut hs.txOut _ _ _ (txOut_lawful P)).bind_enc (β := Tx) (a := t.output.map stripOut)
    ⟨by simpa only [List.length_map] using hnout, List.forall_mem_map.mpr fun o ho => ⟨(houts o ho).1, rfl⟩⟩
  rw [encVec_map (f := stripIn) (txIn_enc_witness · _)] at c3
  rw [encVec_map (f := stripOut) (txOut_enc_witness · _)] at c4
  cases hw : t.hasWitness
  · simp only [tx_dec_eq, Tx.enc, hw, Bool.false_eq_true, if_false, Tx.encStripped, List.append_assoc,
      c1, Dec.bind_of_ok (u8_zero _), c3, c4, c5, if_true]
    exact congrArg (fun t => Res.ok (t, r)) (stripWit_eq_self_of_no_witness t hw)
  · have c6 := fun rr => decWitnesses_complete (txInWitness_lawful P)
      (fun (i : TxIn) w => { i with witness := w }) TxIn.witness stripIn (fun _ => rfl) t.input rr
      (fun i h => (hins i h).2)
    have c7 := fun rr => decWitnesses_complete (txOutWitness_lawful P)
      (fun (o : TxOut) w => { o with witness := w }) TxOut.witness stripOut (fun _ => rfl) t.output rr
      (fun o h => (houts o h).2)
    have hne : (t.input.all (fun i => i.witness.isEmpty) && t.output.all (fun o => o.witness.isEmpty)) = false := by
      rw [← Bool.not_eq_true', ← hasWitness_eq, hw]
    simp only [tx_dec_eq, Tx.enc, hw, if_true, List.append_assoc, c1, Dec.bind_of_ok (u8_one _), c3, c4, c5,
      Dec.bind_of_ok (c6 _), Dec.bind_of_ok (c7 _), if_neg (by decide : ¬ (1 : Nat) = 0), hne,
      Bool.false_eq_true, if_false]

theorem encStripped_injective (hs : SizesPos P) (a b : Tx) (ha : a.wf P) (hb : b.wf P)
    (h : a.encStripped = b.encStripped) : stripWit a = stripWit b :=
  enc_injective_of_complete (tx_lawful P hs) (stripWit a) (stripWit b) (stripWit_wf P a ha)
    (stripWit_wf P b hb) (by rw [enc_stripWit, enc_stripWit, h])

theorem enc_injective (hs : SizesPos P) (a b : Tx) (ha : a.wf P) (hb : b.wf P)
    (h : a.enc = b.enc) : a = b :=
  enc_injective_of_complete (tx_lawful P hs) a b ha hb h

theorem enc_eq_encStripped_iff (t : Tx) : t.enc = t.encStripped ↔ t.hasWitness = false := by
  constructor
  · intro h
    cases hw : t.hasWitness
    · rfl
    · exfalso
      simp only [Tx.enc, hw, if_true, Tx.encStripped, List.append_assoc, encLe] at h
      have h2 := List.append_cancel_left h
      simp only [List.cons_append, List.cons.injEq] at h2
      exact absurd h2.1 (by decide)
  · intro h
    simp only [Tx.enc, h, Bool.false_eq_true, if_false]

theorem encOptProof_length (o : Option Bytes) :
    (encOptProof o).length = varintSize (Tx.optLen o) + Tx.optLen o := by
  cases o <;> simp only [encOptProof, Tx.optLen, encBytesVec_length, List.length_nil]

theorem encBytesVecVec_length (l : List Bytes) : (encBytesVecVec l).length = Tx.stackSize l := by
  simp only [encBytesVecVec, encVec, List.length_append, encVarint_length, List.length_flatMap, encBytesVec_length,
    Tx.stackSize]

/-- non-witness bytes of an input as counted by `scaled_size`; `inWit` its witness bytes -/
private def inBase (i : TxIn) : Nat :=
  32 + 4 + 4 + varintSize i.scriptSig.length + i.scriptSig.length +
    (if i.hasIssuance then 64 + i.assetIssuance.amount.encodedLength + i.assetIssuance.inflationKeys.encodedLength else 0)

private def inWit (i : TxIn) : Nat :=
  varintSize (Tx.optLen i.witness.amountRangeproof) + Tx.optLen i.witness.amountRangeproof +
  varintSize (Tx.optLen i.witness.inflationKeysRangeproof) + Tx.optLen i.witness.inflationKeysRangeproof +
  Tx.stackSize i.witness.scriptWitness + Tx.stackSize i.witness.peginWitness

private def outBase (o : TxOut) : Nat :=
  o.asset.encodedLength + o.value.encodedLength + o.nonce.encodedLength +
    varintSize o.scriptPubkey.length + o.scriptPubkey.length

private def outWit (o : TxOut) : Nat :=
  varintSize o.witness.surjectionproofLen + o.witness.surjectionproofLen +
  varintSize o.witness.rangeproofLen + o.witness.rangeproofLen

theorem txIn_enc_length (i : TxIn) (h : i.wfBody P) : (TxIn.enc i).length = inBase i := by
  obtain ⟨htx, _, _, _, hiss⟩ := h
  simp only [TxIn.enc, inBase, List.length_append, encLe, leBytes_length, encBytesVec_length, htx]
  cases hq : i.hasIssuance
  · simp only [Bool.false_eq_true, if_false, List.length_nil]
    omega
  · simp only [hq, if_true] at hiss ⊢
    obtain ⟨l1, _, l2, w1, w2⟩ := hiss
    simp only [AssetIssuance.enc, List.length_append, l1, l2, value_enc_length P _ w1,
      value_enc_length P _ w2]
    omega

theorem txInWitness_enc_length (i : TxIn) : i.witness.enc.length = inWit i := by
  simp only [TxInWitness.enc, inWit, List.length_append, encOptProof_length, encBytesVecVec_length]
  omega

theorem txOut_enc_length (o : TxOut) (h : o.wfBody P) : (TxOut.enc o).length = outBase o := by
  obtain ⟨w1, w2, w3, _⟩ := h
  simp only [TxOut.enc, outBase, List.length_append, encBytesVec_length, asset_enc_length P _ w1,
    value_enc_length P _ w2, nonce_enc_length P _ w3]
  omega

theorem txOutWitness_enc_length (w : TxOutWitness) :
    w.enc.length = varintSize w.surjectionproofLen + w.surjectionproofLen +
      varintSize w.rangeproofLen + w.rangeproofLen := by
  have h1 : w.surjectionproofLen = Tx.optLen w.surjectionProof := rfl
  have h2 : w.rangeproofLen = Tx.optLen w.rangeproof := rfl
  simp only [TxOutWitness.enc, List.length_append, encOptProof_length, h1, h2]
  omega

theorem inputScaled_eq (k : Nat) (f : Bool) (i : TxIn) :
    Tx.inputScaled k f i = k * inBase i + (if f then inWit i else 0) := rfl

theorem outputScaled_eq (k : Nat) (f : Bool) (o : TxOut) :
    Tx.outputScaled k f o = k * outBase o + (if f then outWit o else 0) := rfl

theorem sum_scaled {α : Type} (k : Nat) (f : Bool) (size : α → Nat) (e ew : α → Bytes) (l : List α)
    (h : ∀ a ∈ l, size a = k * (e a).length + if f then (ew a).length else 0) :
    (l.map size).sum = k * (l.flatMap e).length + if f then (l.flatMap ew).length else 0 := by
  induction l with
  | nil => simp
  | cons a as ih =>
    simp only [List.map_cons, List.sum_cons, List.flatMap_cons, List.length_append, Nat.mul_add,
      ih fun i hi => h i (List.mem_cons_of_mem _ hi), h a List.mem_cons_self]
    cases f
    · simp only [Bool.false_eq_true, if_false]
      omega
    · simp only [if_true]
      omega

theorem encStripped_length (t : Tx) :
    t.encStripped.length = 4 + 1 + (varintSize t.input.length + (t.input.flatMap TxIn.enc).length) +
      (varintSize t.output.length + (t.output.flatMap TxOut.enc).length) + 4 := by
  simp only [Tx.encStripped, encVec, List.length_append, encLe, leBytes_length, encVarint_length,
    List.length_cons, List.length_nil]

theorem tx_enc_length (t : Tx) :
    t.enc.length = t.encStripped.length +
      ((if t.hasWitness then (t.input.flatMap (fun i => i.witness.enc)).length else 0) +
       (if t.hasWitness then (t.output.flatMap (fun o => o.witness.enc)).length else 0)) := by
  cases hw : t.hasWitness
  · simp only [Tx.enc, hw, Bool.false_eq_true, if_false, Nat.add_zero]
  · simp only [Tx.enc, hw, if_true, Tx.encStripped, List.length_append, List.length_cons,
      List.length_nil]
    omega

/-- `scaled_size` counts the stripped bytes `k` times and the witness bytes once -/
theorem scaledSize_eq (t : Tx) (h : t.wf P) (k : Nat) :
    t.scaledSize k + t.encStripped.length = k * t.encStripped.length + t.enc.length := by
  obtain ⟨_, _, _, _, hins, houts⟩ := h
  have h1 := sum_scaled k t.hasWitness (Tx.inputScaled k t.hasWitness) TxIn.enc (·.witness.enc) t.input
    fun i hi => by rw [inputScaled_eq, txIn_enc_length P i (hins i hi).1, txInWitness_enc_length]
  have h2 := sum_scaled k t.hasWitness (Tx.outputScaled k t.hasWitness) TxOut.enc (·.witness.enc) t.output
    fun o ho => by rw [outputScaled_eq, txOut_enc_length P o (houts o ho).1, txOutWitness_enc_length, outWit]
  rw [tx_enc_length t, encStripped_length t]
  simp only [Tx.scaledSize, h1, h2, Nat.mul_add]
  omega

theorem size_eq_enc_length (t : Tx) (h : t.wf P) : t.size = t.enc.length := by
  have := scaledSize_eq P t h 1
  simp only [Tx.size]
  omega

theorem weight_eq (t : Tx) (h : t.wf P) : t.weight = 3 * t.encStripped.length + t.enc.length := by
  have := scaledSize_eq P t h 4
  simp only [Tx.weight]
  omega

end EV.Proofs.CodecTx
