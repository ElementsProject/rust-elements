/-
  `PartiallySignedTransaction::merge` as a whole: the `zip` of inputs and outputs (`zipMerge`), the unique-id gate
  (`merge_post`), nothing is lost, the id is kept, commutativity on compatible operands (`Compat`), associativity.
  Three operands (`mergeL`, `mergeRt`): regrouping needs only `Kin` (same identifying fields, agreeing xpub sources),
  exchanging a pair needs `Compat` of that pair.
-/
import EV.Proofs.PsetMerge
import EV.Proofs.PsetId
namespace EV
open Codec EV.Proofs.PsetId

theorem zipMerge_length {α} (f : α → α → α) : ∀ (a b : List α), (zipMerge f a b).length = a.length
  | [], _ => rfl
  | _ :: _, [] => rfl
  | _ :: xs, _ :: ys => congrArg Nat.succ (zipMerge_length f xs ys)

theorem zipMerge_getElem? {α} (f : α → α → α) (a b : List α) (j : Nat) (x y : α)
    (hx : a[j]? = some x) (hy : b[j]? = some y) : (zipMerge f a b)[j]? = some (f x y) := by
  induction a generalizing b j with
  | nil => nomatch hx
  | cons _ xs ih =>
    match b, j, hx, hy with
    | _ :: _, 0, hx, hy =>
      cases hx
      cases hy
      rfl
    | _ :: ys, j+1, hx, hy => exact ih ys j hx hy

theorem zipMerge_getElem?_tail {α} (f : α → α → α) :
    ∀ (a b : List α) (j : Nat), b.length ≤ j → (zipMerge f a b)[j]? = a[j]?
  | [], _, _, _ => rfl
  | _ :: _, [], _, _ => rfl
  | _ :: _, _ :: _, 0, h => nomatch h
  | _ :: xs, _ :: ys, j+1, h => zipMerge_getElem?_tail f xs ys j (Nat.le_of_succ_le_succ h)

theorem map_zipMerge {α β} (f : α → α → α) (g : α → β) (hf : ∀ x y, g x = g y → g (f x y) = g x) :
    ∀ xs ys : List α, xs.map g = ys.map g → (zipMerge f xs ys).map g = xs.map g
  | [], _, _ => rfl
  | _ :: _, [], _ => rfl
  | x :: xs, y :: ys, h => by
    simp only [List.map_cons, List.cons.injEq] at h
    simp only [zipMerge, List.map_cons, hf x y h.1, map_zipMerge f g hf xs ys h.2]

theorem zipMerge_comm {α} {R : α → α → Prop} (f : α → α → α) {a b : List α} (h : ListRel R a b) :
    (∀ x ∈ a, ∀ y ∈ b, R x y → f x y = f y x) → zipMerge f a b = zipMerge f b a :=
  h.inductionOn (fun _ => rfl) fun hxy _ ih hf => by
    rw [zipMerge, zipMerge, hf _ (List.mem_cons_self ..) _ (List.mem_cons_self ..) hxy,
      ih fun x hx y hy => hf x (List.mem_cons_of_mem _ hx) y (List.mem_cons_of_mem _ hy)]

theorem zipMerge_assoc {α} (f : α → α → α) (S : α → Prop)
    (hf : ∀ x y z, S x → S y → S z → f (f x y) z = f x (f y z)) (a b c : List α)
    (h1 : a.length = b.length) (sa : ∀ x ∈ a, S x) (sb : ∀ x ∈ b, S x) (sc : ∀ x ∈ c, S x) :
    zipMerge f (zipMerge f a b) c = zipMerge f a (zipMerge f b c) := by
  induction a generalizing b c with
  | nil => rfl
  | cons x xs ih =>
    match b, c, h1 with -- `b` is a cons: as long as `x :: xs`
    | _ :: _, [], _ => rfl
    | y :: ys, z :: zs, h1 =>
      obtain ⟨sx, sa⟩ := List.forall_mem_cons.mp sa
      obtain ⟨sy, sb⟩ := List.forall_mem_cons.mp sb
      obtain ⟨sz, sc⟩ := List.forall_mem_cons.mp sc
      simp only [zipMerge]
      rw [hf x y z sx sy sz, ih ys zs (Nat.succ.inj h1) sa sb sc]

theorem mem_zipMerge {α} (f : α → α → α) (a b : List α) (z : α) (hz : z ∈ zipMerge f a b) :
    (∃ (j : Nat) (x y : α), a[j]? = some x ∧ b[j]? = some y ∧ z = f x y) ∨ z ∈ a := by
  induction a generalizing b with
  | nil => nomatch hz
  | cons x xs ih =>
    cases b with
    | nil => exact .inr hz
    | cons y ys =>
      rcases List.mem_cons.mp hz with e | hz
      · exact .inl ⟨0, x, y, rfl, rfl, e⟩
      · rcases ih ys hz with ⟨j, x', y', hx', hy', e⟩ | h
        · exact .inl ⟨j + 1, x', y', hx', hy', e⟩
        · exact .inr (List.mem_cons_of_mem _ h)

theorem zipMerge_all {α} (f : α → α → α) (S : α → Prop) (hf : ∀ x y, S x → S (f x y)) (a b : List α)
    (h : ∀ x ∈ a, S x) : ∀ z ∈ zipMerge f a b, S z := fun z hz => by
  rcases mem_zipMerge f a b z hz with ⟨_, x, y, hx, _, rfl⟩ | hz
  · exact hf x y (h x (List.mem_of_getElem? hx))
  · exact h z hz

theorem zipMerge_rel {α} {R : α → α → Prop} (f : α → α → α) (hf : ∀ x y, R x y → R (f x y) x)
    {a b : List α} (h : ListRel R a b) : ListRel R (zipMerge f a b) a :=
  h.inductionOn trivial fun hxy _ ih => ⟨hf _ _ hxy, ih⟩

theorem zipMerge_rel3 {α} {R : α → α → Prop} (f : α → α → α) {a c : List α} (h : ListRel R a c) :
    ∀ b, (∀ x, ∀ y ∈ b, ∀ z, R x z → R y z → R (f x y) z) → ListRel R b c → ListRel R (zipMerge f a b) c :=
  h.inductionOn (fun _ _ _ => trivial) fun hxz _ ih b hf hbc =>
    match b, hbc with -- `b` is a cons: related to a cons
    | y :: ys, hbc =>
      ⟨hf _ y (List.mem_cons_self ..) _ hxz hbc.1, ih ys (fun x y hy => hf x y (List.mem_cons_of_mem _ hy)) hbc.2⟩

theorem PsetInput.merge_idEq {x y : PsetInput} (h : PsetInput.IdEq x y) : PsetInput.IdEq (x.merge y) x where
  previousTxid := rfl
  previousOutputIndex := rfl
  requiredTimeLocktime := maxOpt_same h.requiredTimeLocktime
  requiredHeightLocktime := maxOpt_same h.requiredHeightLocktime
  issuanceValueAmount := mergeOpt_same h.issuanceValueAmount
  issuanceValueComm := mergeOpt_same h.issuanceValueComm
  issuanceInflationKeys := mergeOpt_same h.issuanceInflationKeys
  issuanceInflationKeysComm := mergeOpt_same h.issuanceInflationKeysComm
  issuanceBlindingNonce := mergeOpt_same h.issuanceBlindingNonce
  issuanceAssetEntropy := mergeOpt_same h.issuanceAssetEntropy

theorem PsetOutput.merge_idEq {x y : PsetOutput} (h : PsetOutput.IdEq x y) : PsetOutput.IdEq (x.merge y) x where
  amount := mergeOpt_same h.amount
  amountComm := mergeOpt_same h.amountComm
  scriptPubkey := rfl
  asset := mergeOpt_same h.asset
  assetComm := mergeOpt_same h.assetComm
  ecdhPubkey := mergeOpt_same h.ecdhPubkey

theorem PsetInput.Compat.idEq {x y : PsetInput} (h : PsetInput.Compat x y) : PsetInput.IdEq x y :=
  ⟨h.previousTxid, h.previousOutputIndex, h.requiredTimeLocktime, h.requiredHeightLocktime, h.issuanceValueAmount,
   h.issuanceValueComm, h.issuanceInflationKeys, h.issuanceInflationKeysComm, h.issuanceBlindingNonce,
   h.issuanceAssetEntropy⟩

theorem PsetOutput.Compat.idEq {x y : PsetOutput} (h : PsetOutput.Compat x y) : PsetOutput.IdEq x y :=
  ⟨h.amount, h.amountComm, h.scriptPubkey, h.asset, h.assetComm, h.ecdhPubkey⟩

namespace Pset

/-- operands that agree wherever both define a value and whose identifying fields coincide (as do two descendants of
    one PSET to which non-identifying fields were added, the same ones or different ones) -/
structure Compat (a b : Pset) : Prop where
  global : PsetGlobal.Compat a.global b.global
  inputs : ListRel PsetInput.Compat a.inputs b.inputs
  outputs : ListRel PsetOutput.Compat a.outputs b.outputs

theorem Compat.idEq {a b : Pset} (h : Compat a b) : Pset.IdEq a b :=
  ⟨⟨h.global.txVersion, h.global.fallbackLocktime, h.global.inputCount, h.global.outputCount⟩,
   ListRel.imp (fun _ _ => PsetInput.Compat.idEq) h.inputs, ListRel.imp (fun _ _ => PsetOutput.Compat.idEq) h.outputs⟩

theorem merge_eq (H : Hashes) (a b : Pset) :
    merge H a b = (a.uniqueId H).bind fun u => (b.uniqueId H).bind fun v =>
      if u ≠ v then .err "UniqueIdMismatch" else a.mergeCore b := by
  unfold merge
  cases a.uniqueId H <;> try rfl
  cases b.uniqueId H <;> rfl

theorem mergeCore_eq (a b : Pset) :
    a.mergeCore b = (a.global.merge b.global).bind fun g =>
      .ok { global := g, inputs := zipMerge PsetInput.merge a.inputs b.inputs,
            outputs := zipMerge PsetOutput.merge a.outputs b.outputs } := by
  unfold mergeCore
  cases a.global.merge b.global <;> rfl

theorem merge_of_uid_eq (H : Hashes) (a b : Pset) (u : Bytes) (ha : a.uniqueId H = .ok u) (hb : b.uniqueId H = .ok u) :
    merge H a b = a.mergeCore b := by
  rw [merge_eq, ha, hb]
  exact if_neg (not_not_intro rfl)

theorem merge_of_idTx_eq (H : Hashes) (a b : Pset) (hid : idTx a = idTx b) (hok : (idTx a).isOk = true) :
    merge H a b = a.mergeCore b := by
  obtain ⟨t, ht⟩ := ok_of_isOk (idTx a) hok
  exact merge_of_uid_eq H a b (t.txid H) (uniqueId_of_idTx H ht) (uniqueId_of_idTx H (hid ▸ ht))

theorem mergeCore_post (a b : Pset) :
    Res.Post (fun m => a.global.merge b.global = .ok m.global ∧ m.inputs = zipMerge PsetInput.merge a.inputs b.inputs ∧
      m.outputs = zipMerge PsetOutput.merge a.outputs b.outputs) (a.mergeCore b) := by
  rw [mergeCore_eq]
  exact .bind ((PsetGlobal.merge_post _ _).imp fun g hg _ => .ok ⟨hg, rfl, rfl⟩)

theorem merge_post (H : Hashes) (a b : Pset) :
    Res.Post (fun m => ∃ u, a.uniqueId H = .ok u ∧ b.uniqueId H = .ok u ∧ a.mergeCore b = .ok m) (merge H a b) := by
  rw [merge_eq]
  refine .bind ((Res.Post.self (uniqueId_no_panic H a)).imp fun u hu _ => ?_)
  refine .bind ((Res.Post.self (uniqueId_no_panic H b)).imp fun v hv _ => .guard fun huv => ?_)
  cases Decidable.not_not.mp huv
  exact (mergeCore_post a b).imp fun m hm _ => ⟨u, hu, hv, hm⟩

theorem merge_no_panic (H : Hashes) (a b : Pset) (s : String) : merge H a b ≠ .panic s := (merge_post H a b).ne_panic s

theorem merge_ok_ids (H : Hashes) (a b m : Pset) (h : merge H a b = .ok m) :
    ∃ u, a.uniqueId H = .ok u ∧ b.uniqueId H = .ok u ∧ a.mergeCore b = .ok m :=
  (merge_post H a b).of_ok h

theorem merge_ok (H : Hashes) (a b m : Pset) (h : merge H a b = .ok m) :
    a.uniqueId H = b.uniqueId H ∧ a.mergeCore b = .ok m := by
  obtain ⟨u, ha, hb, hc⟩ := merge_ok_ids H a b m h
  exact ⟨by rw [ha, hb], hc⟩

theorem merge_ok_core (H : Hashes) (a b m : Pset) (h : merge H a b = .ok m) : a.mergeCore b = .ok m :=
  (merge_ok H a b m h).2

theorem merge_err_of_no_id (H : Hashes) (a b : Pset) (h : (∃ e, a.uniqueId H = .err e) ∨ (∃ e, b.uniqueId H = .err e)) :
    ∃ e, merge H a b = .err e :=
  -- `merge` never panics, so where it cannot succeed it is refused
  (merge_post H a b).err_of_not fun m hm => by
    obtain ⟨u, ha, hb, _⟩ := hm
    rcases h with ⟨e, he⟩ | ⟨e, he⟩
    · exact nomatch ha.symm.trans he
    · exact nomatch hb.symm.trans he

theorem mergeCore_ok (a b m : Pset) (h : a.mergeCore b = .ok m) :
    a.global.merge b.global = .ok m.global ∧ m.inputs = zipMerge PsetInput.merge a.inputs b.inputs ∧
    m.outputs = zipMerge PsetOutput.merge a.outputs b.outputs :=
  (mergeCore_post a b).of_ok h

theorem Sorted.global {a : Pset} (h : a.Sorted) : a.global.Sorted := h.1

theorem Sorted.inputs {a : Pset} (h : a.Sorted) : ∀ x ∈ a.inputs, x.Sorted := h.2.1

theorem Sorted.outputs {a : Pset} (h : a.Sorted) : ∀ x ∈ a.outputs, x.Sorted := h.2.2

/-- nothing lost, for a whole PSET: global fields, and position by position every input and output -/
structure Keeps (a b m : Pset) : Prop where
  global : PsetGlobal.Keeps a.global b.global m.global
  nInputs : m.inputs.length = a.inputs.length
  nOutputs : m.outputs.length = a.outputs.length
  inputs : ∀ (j : Nat) x y, a.inputs[j]? = some x → b.inputs[j]? = some y →
    ∃ z, m.inputs[j]? = some z ∧ PsetInput.Keeps x y z
  outputs : ∀ (j : Nat) x y, a.outputs[j]? = some x → b.outputs[j]? = some y →
    ∃ z, m.outputs[j]? = some z ∧ PsetOutput.Keeps x y z

theorem mergeCore_keeps (a b m : Pset) (h : a.mergeCore b = .ok m) : Keeps a b m := by
  obtain ⟨hg, hi, ho⟩ := mergeCore_ok a b m h
  refine ⟨PsetGlobal.merge_keeps _ _ _ hg, ?_, ?_, ?_, ?_⟩
  · rw [hi, zipMerge_length]
  · rw [ho, zipMerge_length]
  · intro j x y hx hy
    refine ⟨x.merge y, ?_, PsetInput.merge_keeps x y⟩
    rw [hi]
    exact zipMerge_getElem? _ _ _ j x y hx hy
  · intro j x y hx hy
    refine ⟨x.merge y, ?_, PsetOutput.merge_keeps x y⟩
    rw [ho]
    exact zipMerge_getElem? _ _ _ j x y hx hy

theorem mergeCore_sorted (a b m : Pset) (ha : a.Sorted) (h : a.mergeCore b = .ok m) : m.Sorted := by
  obtain ⟨hg, hi, ho⟩ := mergeCore_ok a b m h
  refine ⟨PsetGlobal.merge_sorted _ _ _ ha.global hg, ?_, ?_⟩
  · rw [hi]
    exact zipMerge_all _ _ (fun x y hx => PsetInput.merge_sorted x y hx) _ _ ha.inputs
  · rw [ho]
    exact zipMerge_all _ _ (fun x y hx => PsetOutput.merge_sorted x y hx) _ _ ha.outputs

theorem mergeCore_idEq (a b m : Pset) (hid : Pset.IdEq a b) (h : a.mergeCore b = .ok m) : Pset.IdEq m a := by
  obtain ⟨hg, hi, ho⟩ := mergeCore_ok a b m h
  have hd := PsetGlobal.merge_txData hg
  refine ⟨⟨hd.txVersion, ?_, hd.inputCount, hd.outputCount⟩, ?_, ?_⟩
  · rw [hd.fallbackLocktime]
    exact mergeOpt_same hid.global.fallbackLocktime
  · rw [hi]
    exact zipMerge_rel _ (fun x y hxy => PsetInput.merge_idEq hxy) hid.inputs
  · rw [ho]
    exact zipMerge_rel _ (fun x y hxy => PsetOutput.merge_idEq hxy) hid.outputs

def XpubAgree (a b : Pset) : Prop := KV.Agree a.global.xpub b.global.xpub

/-- what the unique-id gate and regrouping need of two operands; no field value outside the identifying ones is
    compared -/
structure Kin (a b : Pset) : Prop where
  idEq : Pset.IdEq a b
  xpub : XpubAgree a b

theorem Kin.symm {a b : Pset} (h : Kin a b) : Kin b a := ⟨h.idEq.symm, KV.agree_symm h.xpub⟩

theorem Kin.uid (H : Hashes) {a b : Pset} (h : Kin a b) {u : Bytes} (hu : a.uniqueId H = .ok u) : b.uniqueId H = .ok u :=
  uniqueId_congr H h.idEq ▸ hu

theorem Compat.kin {a b : Pset} (h : Compat a b) : Kin a b := ⟨h.idEq, h.global.xpub⟩

theorem merge_comm (H : Hashes) (a b : Pset) (ha : a.Sorted) (hb : b.Sorted) (hc : Compat a b) :
    merge H a b = merge H b a := by
  rw [merge_eq, merge_eq, mergeCore_eq, mergeCore_eq, ← uniqueId_congr H hc.idEq,
    PsetGlobal.merge_comm _ _ ha.global hb.global hc.global,
    zipMerge_comm _ hc.inputs fun x hx y hy => PsetInput.merge_comm x y (ha.inputs x hx) (hb.inputs y hy),
    zipMerge_comm _ hc.outputs fun x hx y hy => PsetOutput.merge_comm x y (ha.outputs x hx) (hb.outputs y hy)]

theorem merge_assoc (H : Hashes) (a b c ab bc : Pset) (ha : a.Sorted) (hb : b.Sorted) (hc : c.Sorted)
    (kab : Kin a b) (kbc : Kin b c) (xac : XpubAgree a c)
    (h1 : merge H a b = .ok ab) (h2 : merge H b c = .ok bc) : merge H ab c = merge H a bc := by
  obtain ⟨u, ua, ub, c1⟩ := merge_ok_ids H a b ab h1
  obtain ⟨ubc, c2⟩ := merge_ok H b c bc h2
  -- both intermediate results have the id of the three, so both outer merges pass the gate
  have uab' := (uniqueId_congr H (mergeCore_idEq a b ab kab.idEq c1)).trans ua
  have ubc' := (uniqueId_congr H (mergeCore_idEq b c bc kbc.idEq c2)).trans ub
  rw [merge_of_uid_eq H ab c u uab' (ubc ▸ ub), merge_of_uid_eq H a bc u ua ubc']
  obtain ⟨g1, i1, o1⟩ := mergeCore_ok a b ab c1
  obtain ⟨g2, i2, o2⟩ := mergeCore_ok b c bc c2
  rw [mergeCore_eq, mergeCore_eq,
    PsetGlobal.merge_assoc a.global b.global c.global ab.global bc.global ha.global hb.global hc.global
      kab.xpub kbc.xpub xac g1 g2,
    i1, i2, o1, o2,
    zipMerge_assoc PsetInput.merge PsetInput.Sorted PsetInput.merge_assoc _ _ _ kab.idEq.inputs.length_eq
      ha.inputs hb.inputs hc.inputs,
    zipMerge_assoc PsetOutput.merge PsetOutput.Sorted PsetOutput.merge_assoc _ _ _ kab.idEq.outputs.length_eq
      ha.outputs hb.outputs hc.outputs]

theorem merge_of_kin (H : Hashes) (a b : Pset) (u : Bytes) (hu : a.uniqueId H = .ok u) (hb : b.Sorted)
    (hk : Kin a b) : ∃ m, merge H a b = .ok m := by
  rw [merge_of_uid_eq H a b u hu (hk.uid H hu), mergeCore_eq,
    PsetGlobal.merge_of_agree _ _ hb.global.xpub hk.xpub]
  exact ⟨_, rfl⟩

theorem mergeCore_compat (a b c ab : Pset) (hb : b.Sorted) (hab : Compat a b) (hac : Compat a c) (hbc : Compat b c)
    (h : a.mergeCore b = .ok ab) : Compat ab c := by
  obtain ⟨hg, hi, ho⟩ := mergeCore_ok a b ab h
  refine ⟨PsetGlobal.merge_compat _ _ _ _ hb.global hab.global.xpub hac.global hbc.global hg, ?_, ?_⟩
  · rw [hi]
    exact zipMerge_rel3 _ hac.inputs _ (fun x y hy z => PsetInput.merge_compat x y z (hb.inputs y hy)) hbc.inputs
  · rw [ho]
    exact zipMerge_rel3 _ hac.outputs _ (fun x y hy z => PsetOutput.merge_compat x y z (hb.outputs y hy)) hbc.outputs

/-- `merge` lifted to results: the first failure wins -/
def mergeR (H : Hashes) (x y : Res Pset) : Res Pset :=
  match x, y with
  | .ok a, .ok b => merge H a b
  | .ok _, .err e => .err e
  | .ok _, .panic s => .panic s
  | .err e, _ => .err e
  | .panic s, _ => .panic s

/-- a family: sorted maps (what `BTreeMap`s are), pairwise compatible -/
structure Family3 (a b c : Pset) : Prop where
  sa : a.Sorted
  sb : b.Sorted
  sc : c.Sorted
  ab : Compat a b
  ac : Compat a c
  bc : Compat b c

/-- the grouping to the left, `a.merge(b)?` then `.merge(c)` -/
def mergeL (H : Hashes) (a b c : Pset) : Res Pset := mergeR H (mergeR H (.ok a) (.ok b)) (.ok c)

/-- the grouping to the right, `b.merge(c)?` then `a.merge(_)` -/
def mergeRt (H : Hashes) (a b c : Pset) : Res Pset := mergeR H (.ok a) (mergeR H (.ok b) (.ok c))

theorem mergeR_eq_bind (H : Hashes) (x y : Res Pset) : mergeR H x y = x.bind fun a => y.bind (merge H a) := by
  cases x <;> cases y <;> rfl

theorem mergeL_eq (H : Hashes) (a b c : Pset) : mergeL H a b c = (merge H a b).bind fun ab => merge H ab c :=
  mergeR_eq_bind H (merge H a b) (.ok c)

theorem mergeRt_eq (H : Hashes) (a b c : Pset) : mergeRt H a b c = (merge H b c).bind fun bc => merge H a bc :=
  mergeR_eq_bind H (.ok a) (merge H b c)

structure Kin3 (a b c : Pset) : Prop where
  sa : a.Sorted
  sb : b.Sorted
  sc : c.Sorted
  ab : Kin a b
  ac : Kin a c
  bc : Kin b c

theorem Kin3.swap12 {a b c : Pset} (h : Kin3 a b c) : Kin3 b a c := ⟨h.sb, h.sa, h.sc, h.ab.symm, h.bc, h.ac⟩

theorem Kin3.swap23 {a b c : Pset} (h : Kin3 a b c) : Kin3 a c b := ⟨h.sa, h.sc, h.sb, h.ac, h.ab, h.bc.symm⟩

theorem Family3.kin3 {a b c : Pset} (h : Family3 a b c) : Kin3 a b c :=
  ⟨h.sa, h.sb, h.sc, h.ab.kin, h.ac.kin, h.bc.kin⟩

theorem mergeL_eq_mergeRt (H : Hashes) {a b c : Pset} (h : Kin3 a b c) (u : Bytes) (hu : a.uniqueId H = .ok u) :
    mergeL H a b c = mergeRt H a b c := by
  obtain ⟨ab, hab⟩ := merge_of_kin H a b u hu h.sb h.ab
  obtain ⟨bc, hbc⟩ := merge_of_kin H b c u (h.ab.uid H hu) h.sc h.bc
  rw [mergeL_eq, mergeRt_eq, hab, hbc]
  exact merge_assoc H a b c ab bc h.sa h.sb h.sc h.ab h.bc h.ac.xpub hab hbc

theorem mergeL_comm12 (H : Hashes) {a b : Pset} (c : Pset) (sa : a.Sorted) (sb : b.Sorted) (hc : Compat a b) :
    mergeL H a b c = mergeL H b a c := by
  rw [mergeL_eq, mergeL_eq, merge_comm H a b sa sb hc]

theorem mergeL_comm23 (H : Hashes) {a b c : Pset} (h : Kin3 a b c) (u : Bytes) (hu : a.uniqueId H = .ok u)
    (hc : Compat b c) : mergeL H a b c = mergeL H a c b := by
  rw [mergeL_eq_mergeRt H h u hu, mergeL_eq_mergeRt H h.swap23 u hu, mergeRt_eq, mergeRt_eq,
    merge_comm H b c h.sb h.sc hc]

theorem mergeR_outer_comm (H : Hashes) {a b c : Pset} (h : Family3 a b c) (u : Bytes) (hu : a.uniqueId H = .ok u) :
    mergeR H (.ok c) (mergeR H (.ok a) (.ok b)) = mergeL H a b c := by
  obtain ⟨ab, hab⟩ := merge_of_kin H a b u hu h.sb h.ab.kin
  obtain ⟨_, cab⟩ := merge_ok H a b ab hab
  show mergeR H (.ok c) (merge H a b) = mergeL H a b c
  rw [mergeL_eq, hab]
  have hs : ab.Sorted := mergeCore_sorted a b ab h.sa cab
  have hc : Compat ab c := mergeCore_compat a b c ab h.sb h.ab h.ac h.bc cab
  exact (merge_comm H ab c hs h.sc hc).symm

end Pset
end EV
