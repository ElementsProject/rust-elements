/-
  A successful `merge` keeps the unique id when the operands, whose ids the gate has found equal, also state the same
  per-input lock-time requirements (`merge_keeps_id_of_equal_ids`): the identifying transaction of the result is that
  of `self` up to the unserialized default issuance, or the hash collides.  Without the lock-time hypothesis this is
  false in the real code: `Props.C14.merge_can_change_locktime`.
-/
import EV.Proofs.PsetMergeTop
namespace EV.Proofs.PsetMergeId
open EV EV.Codec EV.Proofs.CodecTx EV.Proofs.PsetId

/-- after `merge!` on both components: a commitment decides the value whatever the explicit amount -/
theorem pairValue_merge {xa ya : Option Nat} {xc yc : Option Bytes}
    (h : PsetInput.pairValue xa xc = PsetInput.pairValue ya yc) :
    PsetInput.pairValue (mergeOpt xa ya) (mergeOpt xc yc) = PsetInput.pairValue xa xc :=
  mergeOpt_pair PsetInput.pairValue (fun a a' _ => by cases a <;> cases a' <;> rfl) h

theorem idOutOf_merge {x y : PsetOutput} (h : idOutOf x = idOutOf y) : idOutOf (x.merge y) = idOutOf x := by
  simp only [idOutOf, BridgePsetSize.outOf, stripOut, PsetOutput.merge]
  rw [mergeOpt_pair PsetOutput.pairAsset (fun _ _ _ => rfl) (congrArg TxOut.asset h),
    pairValue_merge (congrArg TxOut.value h), apply_mergeOpt PsetOutput.nonceOf (congrArg TxOut.nonce h)]

theorem idOuts_merge (xs ys : List PsetOutput) (h : xs.map idOutOf = ys.map idOutOf) :
    idOuts (zipMerge PsetOutput.merge xs ys) = idOuts xs := by
  rw [idOuts_eq_idOutOf, idOuts_eq_idOutOf, map_zipMerge _ idOutOf (fun _ _ => idOutOf_merge) xs ys h]

theorem assetIssuance_merge (x y : PsetInput) :
    (x.merge y).assetIssuance =
      { nonce := (mergeOpt x.issuanceBlindingNonce y.issuanceBlindingNonce).getD zero32
        entropy := (mergeOpt x.issuanceAssetEntropy y.issuanceAssetEntropy).getD zero32
        amount := PsetInput.pairValue (mergeOpt x.issuanceValueAmount y.issuanceValueAmount)
          (mergeOpt x.issuanceValueComm y.issuanceValueComm)
        inflationKeys := PsetInput.pairValue (mergeOpt x.issuanceInflationKeys y.issuanceInflationKeys)
          (mergeOpt x.issuanceInflationKeysComm y.issuanceInflationKeysComm) } := by
  simp only [PsetInput.assetIssuance, PsetInput.merge]

theorem canonIss_merge (x y : PsetInput) (h : canonIss x.assetIssuance = canonIss y.assetIssuance) :
    canonIss (x.merge y).assetIssuance = canonIss x.assetIssuance := by
  have ha : x.assetIssuance.amount = y.assetIssuance.amount := by
    rw [← (canonIss_values _).1, h, (canonIss_values _).1]
  have hk : x.assetIssuance.inflationKeys = y.assetIssuance.inflationKeys := by
    rw [← (canonIss_values _).2, h, (canonIss_values _).2]
  -- so the merged amount and keys are those of `x`; nonce and entropy matter only for a proper issuance
  have hm : (x.merge y).assetIssuance = { x.assetIssuance with
      nonce := (mergeOpt x.issuanceBlindingNonce y.issuanceBlindingNonce).getD zero32
      entropy := (mergeOpt x.issuanceAssetEntropy y.issuanceAssetEntropy).getD zero32 } := by
    rw [assetIssuance_merge, pairValue_merge ha, pairValue_merge hk]
    rfl
  have hmn : (x.merge y).assetIssuance.isNull = x.assetIssuance.isNull := by
    rw [hm]
    rfl
  have hn : y.assetIssuance.isNull = x.assetIssuance.isNull := by
    rw [AssetIssuance.isNull, AssetIssuance.isNull, ha, hk]
  unfold canonIss at h ⊢
  rw [hmn]
  by_cases hx : x.assetIssuance.isNull = true
  · rw [if_pos hx, if_pos hx]
  · rw [hn, if_neg hx, if_neg hx] at h
    rw [if_neg hx, if_neg hx, hm, apply_mergeOpt (·.getD zero32) (congrArg AssetIssuance.nonce h),
      apply_mergeOpt (·.getD zero32) (congrArg AssetIssuance.entropy h)]
    rfl

theorem idIn_merge (x y : PsetInput) (h : canonIn (idIn x) = canonIn (idIn y)) :
    canonIn (idIn (x.merge y)) = canonIn (idIn x) := by
  rw [canonIn_eq, canonIn_eq] at h
  have h' : canonIss x.assetIssuance = canonIss y.assetIssuance := congrArg TxIn.assetIssuance h
  rw [canonIn_eq, canonIn_eq]
  show ({ idIn x with assetIssuance := canonIss (x.merge y).assetIssuance } : TxIn) =
    { idIn x with assetIssuance := canonIss x.assetIssuance }
  rw [canonIss_merge x y h']

theorem lockReqs_merge (a b : Pset) (h : a.lockReqs = b.lockReqs) :
    (zipMerge PsetInput.merge a.inputs b.inputs).map (fun i => (i.requiredTimeLocktime, i.requiredHeightLocktime)) = a.lockReqs :=
  map_zipMerge _ _ (fun _ _ hxy => Prod.ext (maxOpt_same (congrArg Prod.fst hxy))
    (maxOpt_same (congrArg Prod.snd hxy))) _ _ h

theorem idTx_mergeCore (a b m : Pset) (ta tb : Tx) (ha : idTx a = .ok ta) (hb : idTx b = .ok tb)
    (he : stripWit (canon ta) = stripWit (canon tb)) (hl : a.lockReqs = b.lockReqs)
    (hm : a.mergeCore b = .ok m) : ∃ tm, idTx m = .ok tm ∧ canon tm = canon ta := by
  obtain ⟨sa, lta, oa, la, hoa, rfl⟩ := idTx_ok a ta ha
  obtain ⟨_, ltb, ob, lb, hob, rfl⟩ := idTx_ok b tb hb
  obtain ⟨hg, hi, ho⟩ := Pset.mergeCore_ok a b m hm
  have hd := PsetGlobal.merge_txData hg
  obtain ⟨ca, cb⟩ := (PsetExtract.sanityCheck_eq_ok a ()).mp sa
  have hlt : lta = ltb := congrArg Tx.lockTime he
  have hin := congrArg Tx.input he
  have hout := congrArg Tx.output he
  simp only [stripWit, canon] at hin hout
  rw [canon_strip_inputs, canon_strip_inputs] at hin
  rw [← idOuts_ok _ _ hoa, ← idOuts_ok _ _ hob, map_stripOut_idOutOf, map_stripOut_idOutOf] at hout
  have sm : m.sanityCheck = .ok () := by
    refine (PsetExtract.sanityCheck_eq_ok m ()).mpr ⟨?_, ?_⟩
    · rw [hd.inputCount, hi, zipMerge_length]
      exact ca
    · rw [hd.outputCount, ho, zipMerge_length]
      exact cb
  have lm : m.locktime = .ok lta := by
    have e : m.lockReqs = a.lockReqs := by
      simp only [Pset.lockReqs, hi]
      exact lockReqs_merge a b hl
    -- either fallback lock time gives `lta` with these requirements
    have lb' : locktimeOf b.global.fallbackLocktime a.lockReqs = .ok lta := by
      rw [hl, hlt]
      exact lb
    rw [Pset.locktime, e, hd.fallbackLocktime, apply_mergeOpt (locktimeOf · a.lockReqs) (la.trans lb'.symm)]
    exact la
  have om : idOuts m.outputs = .ok oa := by
    rw [ho, idOuts_merge _ _ hout]
    exact hoa
  refine ⟨{ version := m.global.txVersion, lockTime := lta, input := m.inputs.map idIn, output := oa }, ?_, ?_⟩
  · rw [idTx_eq_bind, sm, lm, om]
    rfl
  · simp only [canon, List.map_map, hd.txVersion, hi]
    congr 1
    exact map_zipMerge _ _ idIn_merge _ _ hin

/-- `wa` and `wb` are what `uniqueId_commits` asks; that the two ids are equal follows from `hm` -/
theorem merge_keeps_id_of_equal_ids (P : Prims) (hs : SizesPos P) (H : Hashes) (a b m : Pset) (ta tb : Tx)
    (hm : Pset.merge H a b = .ok m) (ha : idTx a = .ok ta) (hb : idTx b = .ok tb)
    (wa : (canon ta).wf P) (wb : (canon tb).wf P) (hl : a.lockReqs = b.lockReqs) :
    m.uniqueId H = a.uniqueId H ∨ Collision H.sha256d := by
  obtain ⟨hu, hc⟩ := Pset.merge_ok H a b m hm
  cases uniqueId_commits P hs H a b ta tb ha hb wa wb hu with
  | inr h => exact Or.inr h
  | inl he =>
    left
    obtain ⟨tm, h1, h2⟩ := idTx_mergeCore a b m ta tb ha hb he hl hc
    rw [uniqueId_of_idTx H h1, uniqueId_of_idTx H ha, Tx.txid, Tx.txid, ← canon_encStripped tm, h2, canon_encStripped]

end EV.Proofs.PsetMergeId
