/-
  The address payload of property C16 (`EV.Script.Payload`, hashes and witness programs as `Bytes`, what
  `Address::from_script` / `Address::script_pubkey` work on) and that of property C06 (`EV.Addr.Payload`, the same
  data as `List Nat` byte values, what `Display` / `from_str` work on) are two views of the one Rust type
  `address::Payload`: `toAddrPayload` / `ofAddrPayload` convert between them, are mutually inverse on byte-valued
  lists, and carry C16's `Payload.standard` to C06's `PayloadStd` and back (`payloadStd_iff`).
-/
import EV.Proofs.ScriptAddress
import EV.Proofs.AddrRoundtrip
namespace EV.Proofs.BridgeScriptAddress
open EV

def toNats (b : Bytes) : List Nat := b.map UInt8.toNat

/-- entries are reduced mod 256; the identity on `bytesOk` lists -/
def ofNats (l : List Nat) : Bytes := l.map UInt8.ofNat

def toAddrPayload : Script.Payload → Addr.Payload
  | .pubkeyHash h => .pkh (toNats h)
  | .scriptHash h => .sh (toNats h)
  | .witnessProgram v prog => .wit v (toNats prog)

def ofAddrPayload : Addr.Payload → Script.Payload
  | .pkh h => .pubkeyHash (ofNats h)
  | .sh h => .scriptHash (ofNats h)
  | .wit v prog => .witnessProgram v (ofNats prog)

def toAddress (params : Gen.AddrParamsB) (p : Script.Payload) (blinder : Option (List Nat)) : Addr.Address :=
  { params := params, payload := toAddrPayload p, blinder := blinder }

theorem toNats_length (b : Bytes) : (toNats b).length = b.length := List.length_map _

theorem ofNats_length (l : List Nat) : (ofNats l).length = l.length := List.length_map _

theorem toNats_bytesOk (b : Bytes) : Addr.bytesOk (toNats b) := by
  intro x hx
  obtain ⟨y, _, rfl⟩ := List.mem_map.mp hx
  exact UInt8.toNat_lt y

theorem ofNats_toNats (b : Bytes) : ofNats (toNats b) = b := by
  rw [ofNats, toNats, List.map_map]
  exact List.map_id'' (fun _ => UInt8.ofNat_toNat) b

theorem toNats_ofNats (l : List Nat) (h : Addr.bytesOk l) : toNats (ofNats l) = l := by
  rw [toNats, ofNats, List.map_map]
  exact Bech32.map_eq_self fun x hx => UInt8.toNat_ofNat'.trans (Nat.mod_eq_of_lt (h x hx))

theorem of_to_payload (p : Script.Payload) : ofAddrPayload (toAddrPayload p) = p := by
  cases p <;> simp [toAddrPayload, ofAddrPayload, ofNats_toNats]

theorem toAddrPayload_injective (p q : Script.Payload) (h : toAddrPayload p = toAddrPayload q) : p = q := by
  rw [← of_to_payload p, ← of_to_payload q, h]

theorem payloadStd_iff (p : Script.Payload) : Addr.PayloadStd (toAddrPayload p) ↔ p.standard := by
  cases p with
  | pubkeyHash hh | scriptHash hh =>
    exact ⟨fun h => (toNats_length hh).symm.trans h.1, fun h => ⟨(toNats_length hh).trans h, toNats_bytesOk hh⟩⟩
  | witnessProgram v prog =>
    simp only [toAddrPayload, Addr.PayloadStd, toNats_length, toNats_bytesOk prog, and_true, Script.Payload.standard]
    omega

theorem payloadStd_of_standard (p : Script.Payload) (h : p.standard) : Addr.PayloadStd (toAddrPayload p) :=
  (payloadStd_iff p).mpr h

theorem standard_of_payloadStd (q : Addr.Payload) (h : Addr.PayloadStd q) :
    (ofAddrPayload q).standard ∧ toAddrPayload (ofAddrPayload q) = q := by
  have e : toAddrPayload (ofAddrPayload q) = q := by
    cases q with
    | pkh hh | sh hh => simp only [ofAddrPayload, toAddrPayload, toNats_ofNats hh h.2]
    | wit v prog => simp only [ofAddrPayload, toAddrPayload, toNats_ofNats prog h.2.2.2.2]
  exact ⟨(payloadStd_iff _).mp (e.symm ▸ h), e⟩

theorem wf_toAddress (P : Addr.Prims) (p : Script.Payload) (h : p.standard) (params : Gen.AddrParamsB)
    (hp : params ∈ Gen.allParamsB) (blinder : Option (List Nat)) (hb : Addr.BlinderOk P blinder) :
    Addr.WF P (toAddress params p blinder) :=
  ⟨hp, payloadStd_of_standard p h, hb⟩

end EV.Proofs.BridgeScriptAddress
