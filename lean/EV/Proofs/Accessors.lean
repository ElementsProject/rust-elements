/-
  The accessors of `EV.Model.Accessors` (C10), and `from_pegin_witness` against `peginWitnessOk`.
  The instruction iterator `EV.Acc.step` (`Instructions::next` with every bounds check spelt out) is the
  iterator `EV.Script.next` of the script model, arm by arm (`step_eq_next`, `instructions_eq`); the
  accessors that run the iterator are read through it.  Each of the others is walked once, for the statement
  its no-panic and shape theorems follow from.  Of `is_null_data` and `pegout_data` only totality is here.
-/
import EV.Model.TxAccessors
import EV.Proofs.CodecPrim
import EV.Proofs.Res
import EV.Proofs.ScriptIter
namespace EV.Proofs.TxAccessors
open EV EV.TxAcc

/- From the script model's types to the accessor model's; in the namespace of `EV.Proofs.TxAccessors`
   because C12 (`instruction_models_agree`) is stated in them. -/

def errOfScript : Script.IErr → String
  | .earlyEnd => "EarlyEndOfScript"
  | .nonMinimal => "NonMinimalPush"

def stepOfScript : Script.Step → Acc.Step
  | .done => .done
  | .fail e => .error (errOfScript e)
  | .item i rest => .item (instrOfScript i) rest

def pairOfScript (r : List Script.Instr × Option Script.IErr) : List Acc.Instr × Option String :=
  (r.1.map instrOfScript, r.2.map errOfScript)

end EV.Proofs.TxAccessors

namespace EV.Proofs.Accessors
open EV EV.Codec EV.Acc EV.Res EV.Proofs.TxAccessors EV.Proofs.ScriptIter

theorem idx_ok {α} (v : List α) (i : Nat) (s : String) (h : i < v.length) : idx v i s = .ok v[i] := by
  simp [idx, List.getElem?_eq_getElem h]

theorem idx_not_panic {α} (v : List α) (i : Nat) (s s' : String) (h : i < v.length) :
    idx v i s ≠ .panic s' := by
  rw [idx_ok v i s h]
  nofun

theorem slice_ok (v : Bytes) (a b : Nat) (s : String) (h : a ≤ b ∧ b ≤ v.length) :
    slice v a b s = .ok ((v.drop a).take (b - a)) :=
  if_pos h

theorem sliceFrom_ok (v : Bytes) (a : Nat) (s : String) (h : a ≤ v.length) :
    sliceFrom v a s = .ok (v.drop a) :=
  if_pos h

theorem slice_eight (v : Bytes) (a : Nat) (s : String) (h : a + 8 ≤ v.length) :
    ∃ b, slice v a (a + 8) s = .ok b ∧ b.length = 8 :=
  ⟨_, slice_ok v a (a + 8) s ⟨Nat.le_add_right a 8, h⟩, by
    rw [List.length_take, List.length_drop, Nat.add_sub_cancel_left]
    exact Nat.min_eq_left (Nat.le_sub_of_add_le' h)⟩

theorem ite_ne {α} {c : Prop} [Decidable c] {a b x : α} (ha : a ≠ x) (hb : b ≠ x) :
    (if c then a else b) ≠ x := by
  split <;> assumption

theorem ite_ok {α} {c : Prop} [Decidable c] {a b : Res α} (ha : ∃ r, a = .ok r) (hb : ∃ r, b = .ok r) :
    ∃ r, (if c then a else b) = .ok r := by
  split <;> assumption

theorem ne_panic_of_ok {α} {r : Res α} (h : ∃ a, r = .ok a) (s : String) : r ≠ .panic s := by
  obtain ⟨a, rfl⟩ := h
  nofun

theorem pushItem_eq (data : Bytes) (a b : Nat) (h1 : a ≤ b) (h2 : b ≤ data.length) :
    pushItem data a b = .item (.push ((data.drop a).take (b - a))) (data.drop b) := by
  rw [pushItem, slice_ok data a b _ ⟨h1, h2⟩, sliceFrom_ok data b _ h2]

theorem pushItem_cons (b : UInt8) (tl : Bytes) (a n : Nat) (h : n + a ≤ tl.length) :
    pushItem (b :: tl) (a + 1) (n + (a + 1)) = .item (.push ((tl.drop a).take n)) (tl.drop (n + a)) := by
  rw [pushItem_eq _ _ _ (Nat.le_add_left _ _) (Nat.succ_le_succ h), Nat.add_sub_cancel]
  rfl

/-- `Acc.pushData` tests minimality before or after the second length test (`minFirst`); `pushdataArm` tests it
    first and lets `lenFirst` choose the error when both fail -/
theorem pushData_eq (m : Bool) (w minLen : Nat) (lenFirst : Bool) (b : UInt8) (tl : Bytes) :
    pushData m w minLen (!lenFirst) (b :: tl) = stepOfScript (pushdataArm m w minLen lenFirst tl) := by
  rw [pushData, pushdataArm, List.length_cons]
  by_cases h0 : tl.length < w
  · rw [if_pos h0, if_pos (Nat.succ_lt_succ h0)]
    rfl
  rw [if_neg h0, if_neg (mt Nat.lt_of_succ_lt_succ h0), sliceFrom_ok _ 1 _ (Nat.le_add_left 1 _)]
  simp only [List.drop_succ_cons, List.drop_zero, readUint, if_neg h0, ← Nat.add_assoc, Nat.add_lt_add_iff_right]
  by_cases hmin : m = true ∧ leNat (tl.take w) < minLen
  · cases lenFirst
    · simp [hmin, stepOfScript, errOfScript]
    · by_cases hlen : tl.length < leNat (tl.take w) + w <;> simp [hmin, hlen, stepOfScript, errOfScript]
  · by_cases hlen : tl.length < leNat (tl.take w) + w
    · simp [hmin, hlen, stepOfScript, errOfScript]
    · simp only [hmin, hlen, and_false, if_false]
      rw [Nat.add_assoc, pushItem_cons b tl w _ (Nat.le_of_not_lt hlen)]
      rfl

theorem smallNum_eq (t : UInt8) :
    (t == 0x81 || (decide (t.toNat > 0) && decide (t.toNat ≤ 16))) = Script.smallNumByte t := by
  unfold Script.smallNumByte
  simp [UInt8.lt_iff_toNat_lt, UInt8.le_iff_toNat_le]

/-- `data[1]` is read only for a push of one byte, which is then there -/
theorem directPush_eq (b : UInt8) (tl : Bytes) (n : Nat) (h : n ≤ tl.length) :
    directPushNonMinimal (b :: tl) n = .ok (n == 1 && Script.smallNumByte (tl.getD 0 0)) := by
  unfold directPushNonMinimal
  by_cases hn : n = 1
  · subst hn
    match tl, h with
    | t0 :: _, _ =>
      rw [if_pos rfl, idx_ok _ 1 _ (by simp)]
      exact congrArg Res.ok (smallNum_eq t0)
  · rw [if_neg hn, beq_false_of_ne hn]
    rfl

theorem step_eq_next (m : Bool) (d : Bytes) : Acc.step m d = stepOfScript (Script.next m d) := by
  cases d with
  | nil => rfl
  | cons b tl =>
    -- a direct push, one of the three `PUSHDATA` opcodes, or any other opcode
    rcases opcode_kind b with hb | ⟨k, bound, hp⟩ | hb
    · have hb' : b.toNat ≤ 0x4b := UInt8.le_iff_toNat_le.mp hb
      rw [Acc.step, if_pos hb', next_direct hb, List.length_cons]
      by_cases hl : tl.length < b.toNat
      · rw [if_pos hl]
        simp only [if_pos (Nat.succ_lt_succ hl)]
        rfl
      rw [if_neg hl]
      simp only [if_neg (mt Nat.lt_of_succ_lt_succ hl), directPush_eq b tl b.toNat (Nat.le_of_not_lt hl),
        pushItem_cons b tl 0 b.toNat (Nat.le_of_not_lt hl)]
      cases m
      · rfl
      · rw [Bool.true_and]
        cases b.toNat == 1 && Script.smallNumByte (tl.getD 0 0) <;> rfl
    · rw [next_pushdata hp, ← pushData_eq m k bound (k == 1) b]
      cases hp <;> rfl
    · have hn : 78 < b.toNat := UInt8.lt_iff_toNat_lt.mp hb
      have ne : ∀ c : UInt8, c.toNat ≤ 78 → ¬ b = c := fun c hc e => Nat.not_le.mpr hn (e ▸ hc)
      rw [Acc.step, if_neg (fun h => by omega), if_neg (ne _ (by decide)), if_neg (ne _ (by decide)),
        if_neg (ne _ (by decide)), sliceFrom_ok _ 1 _ (Nat.le_add_left 1 _), next_op hb]
      rfl

/-- an instruction consumes what `push_slice`/`push_opcode` write for it, at least one byte -/
theorem next_shorter {m : Bool} {d : Bytes} {i : Script.Instr} {rest : Bytes}
    (h : Script.next m d = .item i rest) : rest.length < d.length := by
  have hle := (next_sound h).2.1
  have := List.length_pos_iff.mpr (encInstr_ne_nil i)
  rw [List.length_append] at hle
  omega

theorem collect_eq (m : Bool) (f : Nat) (d : Bytes) (hd : d.length ≤ f) :
    Acc.collect m (f + 1) d = .ok (pairOfScript (Script.collect m f d)) := by
  induction f generalizing d with
  | zero =>
    obtain rfl : d = [] := List.length_eq_zero_iff.mp (Nat.le_zero.mp hd)
    rfl
  | succ f ih =>
    rw [Acc.collect, Script.collect, step_eq_next]
    cases hn : Script.next m d with
    | done => rfl
    | fail e => rfl
    | item i rest =>
      have := next_shorter hn
      simp only [stepOfScript]
      rw [ih rest (Nat.le_of_lt_succ (Nat.lt_of_lt_of_le this hd))]
      rfl

/-- `script.instructions()` -/
theorem instructions_eq (m : Bool) (s : Bytes) :
    Acc.instructions m s = .ok (pairOfScript (Script.collect m s.length s)) :=
  collect_eq m s.length s (Nat.le_refl _)

theorem directPush_no_err (data : Bytes) (n : Nat) (h : n + 1 ≤ data.length) (e : String) :
    directPushNonMinimal data n ≠ .err e := by
  match data, h with
  | b :: tl, h =>
    rw [directPush_eq b tl n (by simpa using h)]
    nofun

theorem instructions_no_err (minimal : Bool) (script : Bytes) (e : String) :
    instructions minimal script ≠ .err e := by
  rw [instructions_eq]
  nofun

theorem isNullData_total (s : Bytes) : ∃ b, isNullData s = .ok b := by
  unfold isNullData
  rw [instructions_eq]
  simp only
  split
  · split <;> exact ⟨_, rfl⟩
  · exact ⟨_, rfl⟩

theorem isOpReturn_eq (script : Bytes) : isOpReturn script = .ok (script.head? == some opReturn) := by
  cases script <;> rfl

theorem isOpReturn_no_err (script : Bytes) (e : String) : isOpReturn script ≠ .err e := by
  rw [isOpReturn_eq]
  nofun

theorem pegoutData_total (o : TxOut) : ∃ r, pegoutData o = .ok r := by
  unfold pegoutData
  obtain ⟨b, hb⟩ := isNullData_total o.scriptPubkey
  rw [hb, instructions_eq]
  cases b
  · exact ⟨_, rfl⟩
  cases o.value with
  | explicit v =>
    simp only
    split
    · refine ite_ok ⟨_, rfl⟩ (ite_ok ⟨_, rfl⟩ ?_)
      split <;> exact ⟨_, rfl⟩
    · exact ⟨_, rfl⟩
  | _ => exact ⟨_, rfl⟩

/-- `minimum_value` with default `mv`: the one case that can panic is a range proof of at most 10 bytes -/
theorem minimumValueWith_cases (mv : Nat) (o : TxOut) (hmv : mv < 2^64) :
    (∃ v, minimumValueWith mv o = .ok v ∧ (o.value = .explicit v ∨ v < 2^64)) ∨
    (∃ prf s, o.witness.rangeproof = some prf ∧ prf.length ≤ 10 ∧ minimumValueWith mv o = .panic s) := by
  unfold minimumValueWith
  cases o.value with
  | null => exact .inl ⟨mv, rfl, .inr hmv⟩
  | explicit n => exact .inl ⟨n, rfl, .inl rfl⟩
  | conf c =>
    cases o.witness.rangeproof with
    | none => exact .inl ⟨mv, rfl, .inr hmv⟩
    | some prf =>
      by_cases hl : prf.length > 10
      · left
        -- in the context so that the bound of every `prf[0]` below is found by assumption
        have h0 : 0 < prf.length := Nat.lt_trans (by decide) hl
        simp only [if_neg (not_not_intro hl), idx_ok prf 0 _ h0]
        by_cases hmin : prf[0].toNat &&& 32 = 32
        · simp only [if_neg (not_not_intro hmin)]
          generalize hoff : (if prf[0].toNat &&& 64 = 64 then 2 else 1) = off
          have hoff2 : off ≤ 2 := by rw [← hoff]; split <;> decide
          obtain ⟨b, hs, hb⟩ := slice_eight prf off "transaction.rs minimum_value &prf[2..10] / &prf[1..9]"
            (Nat.le_trans (Nat.add_le_add_right hoff2 8) (Nat.le_of_lt hl))
          simp only [hs, if_pos hb]
          refine ⟨_, rfl, .inr ?_⟩
          exact EV.Proofs.CodecPrim.beNat_lt hb
        · exact ⟨mv, if_pos hmin, .inr hmv⟩
      · exact .inr ⟨prf, _, rfl, by omega, if_pos hl⟩

theorem minimumValue_eq (o : TxOut) :
    minimumValue o = minimumValueWith (if (o.scriptPubkey.head? == some opReturn) = true then 1 else 0) o := by
  rw [minimumValue, isOpReturn_eq]

/-- the default is 1 for an `OP_RETURN` script and 0 otherwise -/
theorem minimumValue_cases (o : TxOut) :
    (∃ v, minimumValue o = .ok v ∧ (o.value = .explicit v ∨ v < 2^64)) ∨
    (∃ prf s, o.witness.rangeproof = some prf ∧ prf.length ≤ 10 ∧ minimumValue o = .panic s) := by
  rw [minimumValue_eq]
  refine minimumValueWith_cases _ o ?_
  split <;> decide

theorem fromPeginWitness_six (H : Bytes → Bytes) (w0 w1 w2 w3 w4 w5 txid : Bytes) (vout : Nat) :
    fromPeginWitness H [w0, w1, w2, w3, w4, w5] txid vout =
      if w5.length < 80 then .err "merkle proof too short"
      else if w0.length ≠ 8 then .err "invalid value"
      else if w1.length ≠ 32 then .err "invalid asset"
      else if w2.length ≠ 32 then .err "invalid genesis hash"
      else .ok ⟨txid, vout, leNat w0, w1, w2, w3, w4, w5, H (w5.take 80)⟩ :=
  rfl

theorem fromPeginWitness_of_length_ne (H : Bytes → Bytes) (w : List Bytes) (txid : Bytes) (vout : Nat)
    (h : w.length ≠ 6) : fromPeginWitness H w txid vout = .err "size not 6" :=
  if_pos h

theorem eq_of_length_six {α} {w : List α} (h : w.length = 6) : ∃ a b c d e f, w = [a, b, c, d, e, f] :=
  match w, h with
  | [a, b, c, d, e, f], _ => ⟨a, b, c, d, e, f, rfl⟩

theorem peginWitnessOk_iff (w : List Bytes) :
    TxAcc.peginWitnessOk w = true ↔ ∃ w0 w1 w2 w3 w4 w5, w = [w0, w1, w2, w3, w4, w5] ∧
      w0.length = 8 ∧ w1.length = 32 ∧ w2.length = 32 ∧ 80 ≤ w5.length := by
  constructor
  · intro h
    simp only [TxAcc.peginWitnessOk, Bool.and_eq_true, beq_iff_eq, decide_eq_true_eq] at h
    obtain ⟨⟨⟨⟨hl, h5⟩, h0⟩, h1⟩, h2⟩ := h
    obtain ⟨w0, w1, w2, w3, w4, w5, rfl⟩ := eq_of_length_six hl
    exact ⟨w0, w1, w2, w3, w4, w5, rfl, h0, h1, h2, h5⟩
  · rintro ⟨w0, w1, w2, w3, w4, w5, rfl, h0, h1, h2, h5⟩
    simp only [TxAcc.peginWitnessOk, Bool.and_eq_true, beq_iff_eq, decide_eq_true_eq]
    exact ⟨⟨⟨⟨rfl, h5⟩, h0⟩, h1⟩, h2⟩

/-- `from_pegin_witness` succeeds exactly on the witnesses `peginWitnessOk` accepts -/
theorem fromPeginWitness_cases (H : Bytes → Bytes) (w : List Bytes) (txid : Bytes) (vout : Nat) :
    (TxAcc.peginWitnessOk w = true ∧ fromPeginWitness H w txid vout =
      .ok ⟨txid, vout, leNat (w.getD 0 []), w.getD 1 [], w.getD 2 [], w.getD 3 [], w.getD 4 [], w.getD 5 [],
           H ((w.getD 5 []).take 80)⟩) ∨
    (TxAcc.peginWitnessOk w = false ∧ ∃ e, fromPeginWitness H w txid vout = .err e) := by
  by_cases hk : TxAcc.peginWitnessOk w = true
  · obtain ⟨w0, w1, w2, w3, w4, w5, rfl, h0, h1, h2, h5⟩ := (peginWitnessOk_iff w).mp hk
    refine .inl ⟨hk, ?_⟩
    rw [fromPeginWitness_six, if_neg (Nat.not_lt.mpr h5), if_neg (fun h => h h0), if_neg (fun h => h h1),
      if_neg (fun h => h h2)]
    rfl
  · refine .inr ⟨Bool.eq_false_iff.mpr hk, ?_⟩
    by_cases hl : w.length = 6
    · obtain ⟨w0, w1, w2, w3, w4, w5, rfl⟩ := eq_of_length_six hl
      rw [fromPeginWitness_six]
      -- test by test with `if_neg` of those passed: `split` on the chain is slow to check
      by_cases h5 : w5.length < 80
      · exact ⟨_, if_pos h5⟩
      by_cases h0 : w0.length ≠ 8
      · rw [if_neg h5]
        exact ⟨_, if_pos h0⟩
      by_cases h1 : w1.length ≠ 32
      · rw [if_neg h5, if_neg h0]
        exact ⟨_, if_pos h1⟩
      by_cases h2 : w2.length ≠ 32
      · rw [if_neg h5, if_neg h0, if_neg h1]
        exact ⟨_, if_pos h2⟩
      exact absurd ((peginWitnessOk_iff _).mpr ⟨w0, w1, w2, w3, w4, w5, rfl, Decidable.of_not_not h0,
        Decidable.of_not_not h1, Decidable.of_not_not h2, Nat.le_of_not_lt h5⟩) hk
    · exact ⟨_, fromPeginWitness_of_length_ne H w txid vout hl⟩

theorem fromPeginWitness_no_panic (H : Bytes → Bytes) (w : List Bytes) (txid : Bytes) (vout : Nat) (s : String) :
    fromPeginWitness H w txid vout ≠ .panic s := by
  rcases fromPeginWitness_cases H w txid vout with ⟨_, h⟩ | ⟨_, e, h⟩ <;> rw [h] <;> nofun

theorem peginData_total (H : Bytes → Bytes) (i : TxIn) : ∃ r, peginData H i = .ok r := by
  unfold peginData
  cases i.isPegin with
  | false => exact ⟨_, rfl⟩
  | true =>
    cases hr : fromPeginWitness H i.witness.peginWitness i.previousOutput.txid i.previousOutput.vout with
    | ok d => exact ⟨_, rfl⟩
    | err e => exact ⟨_, rfl⟩
    | panic s => exact absurd hr (fromPeginWitness_no_panic H _ _ _ s)

/-- `SchnorrSig::from_slice` -/
theorem schnorrSig_post (sl : Bytes) :
    (schnorrSigFromSlice sl).Post fun p =>
      p.1.length = 64 ∧ ((sl = p.1 ∧ p.2 = 0) ∨ (sl = p.1 ++ [p.2] ∧ schnorrSighashOfU8 p.2 = true)) := by
  unfold schnorrSigFromSlice
  by_cases h64 : sl.length = schnorrSignatureSize
  · rw [if_pos h64]
    exact .ok ⟨h64, .inl ⟨rfl, rfl⟩⟩
  rw [if_neg h64]
  cases hlast : sl.getLast? with
  | none => exact .err trivial
  | some last =>
    obtain ⟨ys, rfl⟩ := List.getLast?_eq_some_iff.mp hlast
    rw [List.dropLast_concat]
    refine .guard fun hs => ?_
    by_cases hd : ys.length = schnorrSignatureSize
    · rw [if_pos hd]
      exact .ok ⟨hd, .inr ⟨rfl, by simpa using hs⟩⟩
    · rw [if_neg hd]
      exact .err trivial

theorem chunks32_flatten (l : List Bytes) (hl : ∀ c ∈ l, c.length = 32) : chunks32 l.length l.flatten = .ok l := by
  induction l with
  | nil => rfl
  | cons a l ih =>
    obtain ⟨ha, hl⟩ := List.forall_mem_cons.1 hl
    rw [List.length_cons, List.flatten_cons, chunks32]
    simp only [List.take_left' ha, List.drop_left' ha, ih hl, ha, ne_eq, not_true_eq_false, if_false]

/-- `TaprootMerkleBranch::from_slice` -/
theorem merkleBranch_post (sl : Bytes) :
    (merkleBranchFromSlice sl).Post fun l => l.length ≤ 128 ∧ ∀ c ∈ l, c.length = 32 := by
  refine .guard fun h1 => .guard fun h2 => ?_
  have e2 : EV.Gen.c10TaprootControlNodeSize * EV.Gen.c10TaprootControlMaxNodeCount = 32 * 128 := rfl
  -- past the size test the slice is whole chunks, so the `expect` on each chunk holds
  obtain ⟨l, rfl, hn, hc⟩ := CodecPrim.exists_chunks 32 (sl.length / 32) sl
    (Nat.mul_div_cancel' (Nat.dvd_of_mod_eq_zero (Decidable.not_not.1 h1))).symm
  rw [← hn, chunks32_flatten l hc]
  exact .ok ⟨hn ▸ Nat.div_le_of_le_mul (Nat.le_of_not_lt (e2 ▸ h2)), hc⟩

end EV.Proofs.Accessors
