/-
  Bridge C06 × C17.  C06 proves that the text `Display` produces for a standard address parses back
  (`segwit_roundtrip`); C17 proves that a one- or two-symbol corruption of an ACCEPTED segwit string is rejected
  (`corrupted_address_rejected`).  Both are about the same parser, so they compose: the shape of `Display` for segwit
  addresses is made explicit (`display_shape_wf`: hrp ‖ '1' ‖ lower-case alphabet characters), and detection is stated
  about the strings `Display` produces — for alphabet replacements (C17's hypothesis), then for replacements by ANY
  byte other than the separator '1'.
-/
import EV.Proofs.AddrDetect
import EV.Proofs.AddrRoundtrip
namespace EV.Addr
open EV.Bech32 EV.Base58 EV.Bech32.Code

/-- the decoder `from_bech32` uses for this address: blech32 for blinded, the bech32 crate otherwise -/
def segFlavor (a : Address) : Flavor := match a.blinder with | some _ => blechFlavor | none => crateFlavor

/-- the human-readable part `Display` prints -/
def displayHrp (a : Address) : Text := match a.blinder with | some _ => a.params.blechHrp | none => a.params.bechHrp

/-- the 5-bit symbols `Display` prints after the separator: witness version, regrouped payload, checksum -/
def segSyms (a : Address) : List Nat :=
  match a.payload with
  | .wit ver prog =>
    match a.blinder with
    | some pk => (ver :: bytesToFes (pk ++ prog)) ++
        createChecksum (blechFlavor.variant ver) (hrpExpand a.params.blechHrp ++ ver :: bytesToFes (pk ++ prog))
    | none => (ver :: bytesToFes prog) ++
        createChecksum (crateFlavor.variant ver) (hrpExpand a.params.bechHrp ++ ver :: bytesToFes prog)
  | _ => []

def dataPart (a : Address) : Text := (segSyms a).map toChar

theorem displayHrp_eq (a : Address) : displayHrp a = hrpOf a.blinder.isSome a.params := by
  unfold displayHrp
  cases a.blinder <;> rfl

theorem segFlavor_eq (a : Address) : segFlavor a = if a.blinder.isSome then blechFlavor else crateFlavor := by
  unfold segFlavor
  cases a.blinder <;> rfl

theorem displayHrp_mem (a : Address) (hn : a.params ∈ Gen.allParamsB) :
    displayHrp a ∈ Gen.allParamsB.flatMap hrps :=
  displayHrp_eq a ▸ hrpOf_mem _ _ hn

/-- `impl Display for Address`, segwit forms; for a standard address the hrp is printed as it is in the network
    table -/
theorem display_shape_wf (P : Prims) (a : Address) (hw : WF P a) (hs : a.payload.isSegwit = true) :
    display P a = displayHrp a ++ 49 :: dataPart a := by
  rw [← hrpOk_lower _ (hrps_ok _ (displayHrp_mem a hw.net)).1]
  obtain ⟨p, pl, bl⟩ := a
  obtain ⟨ver, prog, rfl⟩ := Payload.eq_wit hs
  cases bl <;> rfl

theorem segSyms_lt (P : Prims) (a : Address) (hw : WF P a) : ∀ x ∈ segSyms a, x < 32 := by
  obtain ⟨p, pl, bl⟩ := a
  cases pl with
  | wit ver prog =>
    have hv : ver < 32 := Nat.lt_of_le_of_lt hw.payload.1 (by decide)
    cases bl with
    | none | some pk =>
      exact List.forall_mem_append.2 ⟨List.forall_mem_cons.2 ⟨hv, bytesToFes_lt _⟩, createChecksum_lt _ _⟩
  | pkh h | sh h => nofun

theorem sym_toChar (x : Nat) (hx : x < 32) : sym (toChar x) = x :=
  sym_cmap_toChar false x hx

theorem dataPart_syms (P : Prims) (a : Address) (hw : WF P a) : (dataPart a).map sym = segSyms a := by
  unfold dataPart
  rw [List.map_map]
  exact map_eq_self (fun x hx => sym_toChar x (segSyms_lt P a hw x hx))

theorem dataPart_clean (P : Prims) (a : Address) (hw : WF P a) :
    ∀ c ∈ dataPart a, (fromChar c).isSome = true ∧ isUpper c = false := by
  intro c hc
  simp only [dataPart, List.mem_map] at hc
  obtain ⟨x, hx, rfl⟩ := hc
  have hx32 := segSyms_lt P a hw x hx
  exact ⟨by simp [fromChar_toChar x hx32], isUpper_toChar x hx32⟩

/-- **Alphabet replacements**: `corrupted_address_rejected` on the string `Display` prints, which `from_str` accepts
    (`segwit_roundtrip`). -/
theorem corrupted_display_rejected (P : Prims) (a : Address) (hw : WF P a) (hs : a.payload.isSegwit = true)
    (d' : Text) (hd' : ∀ c ∈ d', (fromChar c).isSome = true) (hlen : d'.length = (dataPart a).length)
    (h1 : 1 ≤ diffCount (segSyms a) (d'.map sym)) (h2 : diffCount (segSyms a) (d'.map sym) ≤ 2) :
    (∃ k, fromStr P (displayHrp a ++ 49 :: d') = .err k) ∧
    (∃ k, parseWithParams P (displayHrp a ++ 49 :: d') a.params = .err k) ∧
    (∀ q ∈ Gen.allParamsB, (∃ k, parseWithParams P (displayHrp a ++ 49 :: d') q = .err k) ∨
      (decodeCheck P.sha256d (displayHrp a ++ 49 :: d')).isSome = true) := by
  have hsy := dataPart_syms P a hw
  have hok := (segwit_roundtrip P a hw hs false).1
  rw [map_cmap_false, display_shape_wf P a hw hs] at hok
  rw [← hsy] at h1 h2
  exact corrupted_address_rejected P (displayHrp a) (dataPart a) d' a hok hs
    (fun c hc => (dataPart_clean P a hw c hc).1) hd' hlen h1 h2

/-- a byte outside the alphabet after the (only) separator, or an upper-case letter there while the hrp has a
    lower-case one: `check_characters` fails -/
theorem segwitNew_err_of_bad_char (f : Flavor) (h d' : Text) (hsep : ∀ c ∈ d', c ≠ 49) (c : Nat) (hc : c ∈ d')
    (hbad : (fromChar c).isSome = true → isUpper c = true ∧ h.any isLower = true) :
    ∃ k, segwitNew f (h ++ 49 :: d') = .err k := by
  refine segwitNew_err_of_not_ok _ _ fun r hok => ?_
  obtain ⟨d, _, hun, _⟩ := (segwitNew_eq_ok_iff f _ r).mp hok
  obtain ⟨e, _, hal, hmix⟩ := (uncheckedNew_eq_some_iff _ _ d).mp hun
  obtain ⟨_, rfl⟩ := sep_split_inj _ _ _ _ hsep (no_sep_of_alphabet d hal) e
  obtain ⟨hup, hlow⟩ := hbad (hal c hc)
  rw [List.any_eq_true.2 ⟨c, by simp [hc], hup⟩, List.any_append, hlow] at hmix
  cases hmix

theorem toChar_eq_iff (x c : Nat) (hx : x < 32) (hc : (fromChar c).isSome = true) (hu : isUpper c = false) :
    toChar x = c ↔ x = sym c := by
  constructor
  · intro h
    rw [← h, sym_toChar x hx]
  · intro h
    have := lowerByte_alphabet c hc
    rw [EV.Bech32.lowerByte_of_not_upper c hu] at this
    rw [h, ← this]

theorem diffCount_map (f g : Nat → Nat) (l d' : List Nat) (h : ∀ x ∈ l, ∀ c ∈ d', f x = c ↔ x = g c) :
    diffCount (l.map f) d' = diffCount l (d'.map g) := by
  induction l generalizing d' with
  | nil => simp [diffCount]
  | cons x xs ih =>
    cases d' with
    | nil => simp [diffCount]
    | cons c cs =>
      simp only [List.map_cons, diffCount, h x List.mem_cons_self c List.mem_cons_self,
        ih cs fun y hy e he => h y (List.mem_cons_of_mem _ hy) e (List.mem_cons_of_mem _ he)]

/-- **Arbitrary replacements**, by anything but the separator `'1'`.  If all of them are lower-case alphabet
    characters, differing characters are differing symbols and the theorem above applies; otherwise `check_characters`
    fails in the decoder to which `from_str` and `parse_with_params` of `a`'s network send a string with `a`'s hrp. -/
theorem corrupted_display_rejected_any (P : Prims) (a : Address) (hw : WF P a) (hs : a.payload.isSegwit = true)
    (d' : Text) (hlen : d'.length = (dataPart a).length) (hsep : ∀ c ∈ d', c ≠ 49)
    (h1 : 1 ≤ diffCount (dataPart a) d') (h2 : diffCount (dataPart a) d' ≤ 2) :
    (∃ k, fromStr P (displayHrp a ++ 49 :: d') = .err k) ∧
    (∃ k, parseWithParams P (displayHrp a ++ 49 :: d') a.params = .err k) := by
  by_cases hall : ∀ c ∈ d', (fromChar c).isSome = true ∧ isUpper c = false
  · have hdc : diffCount (dataPart a) d' = diffCount (segSyms a) (d'.map sym) :=
      diffCount_map toChar sym _ _ fun x hx c hc => toChar_eq_iff x c (segSyms_lt P a hw x hx) (hall c hc).1 (hall c hc).2
    rw [hdc] at h1 h2
    obtain ⟨r1, r2, _⟩ := corrupted_display_rejected P a hw hs d' (fun c hc => (hall c hc).1) hlen h1 h2
    exact ⟨r1, r2⟩
  · obtain ⟨c, hc⟩ := Classical.not_forall.1 hall
    obtain ⟨hcm, hcbad⟩ := Classical.not_imp.1 hc
    obtain ⟨k, hk⟩ := segwitNew_err_of_bad_char (segFlavor a) (displayHrp a) d' hsep c hcm fun hca =>
      ⟨Bool.of_not_eq_false fun hcu => hcbad ⟨hca, hcu⟩, (hrps_ok _ (displayHrp_mem a hw.net)).2.2⟩
    rw [segFlavor_eq] at hk
    obtain ⟨r1, r2⟩ := parse_segwit_err P (displayHrp a ++ 49 :: d') a.params hw.net a.blinder.isSome
      (by rw [findPrefix_split _ d' hsep, displayHrp_eq]; exact lower_hrpOf _ _ hw.net) k hk
    exact ⟨⟨k, r1⟩, ⟨k, r2⟩⟩

end EV.Addr
