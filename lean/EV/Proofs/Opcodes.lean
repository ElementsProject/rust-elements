/-
  Finite facts about the generated opcode tables (EV.Model.Opcodes).  The 256 names are pairwise distinct
  (`name_injective`) because their `key`s are.  Each fact about `classify` is one pass over a 256-entry table
  (`tableAll`, the `…_pass` theorems), checked by `decide +kernel` and transferred to `∀ b : UInt8` by
  `classify_of_tableAll`: indexing a long literal list under a quantifier is slow in the kernel, one traversal is not.
-/
import EV.Model.Opcodes
import EV.Proofs.NatBits
namespace EV.Proofs.Opcodes
open EV EV.Opcodes EV.Gen

theorem getD_of_all_zipIdx {α} {l : List α} {f : α × Nat → Bool} (h : l.zipIdx.all f = true) (d : α) {i : Nat}
    (hi : i < l.length) : f (l.getD i d, i) = true := by
  have hm : (l[i], i) ∈ l.zipIdx := by
    rw [List.mem_zipIdx_iff_getElem?]
    simp [hi]
  have := List.all_eq_true.mp h _ hm
  have e : l.getD i d = l[i] := by simp [List.getD, hi]
  rw [e]
  exact this

/-- A set of opcodes as a bit mask: membership is asked 256 times per pass, and on a mask it is one `testBit` of a
    literal instead of a walk along the list. -/
def codes : List UInt8 → Nat
  | [] => 0
  | b :: t => 1 <<< b.toNat ||| codes t

theorem testBit_codes (l : List UInt8) (b : UInt8) : (codes l).testBit b.toNat = true ↔ b ∈ l := by
  induction l with
  | nil => simp [codes]
  | cons a t ih =>
    rw [codes, Nat.testBit_or, Nat.one_shiftLeft, Nat.testBit_two_pow, Bool.or_eq_true, ih, decide_eq_true_eq,
      UInt8.toNat_inj, List.mem_cons, eq_comm]

/-- Small, so that a set of keys fits a bit mask.  The modulus is arbitrary: any for which the keys of the table come
    out distinct will do. -/
def key (cs : List Char) : Nat := cs.foldl (fun a c => (a * 256 + c.toNat) % 1000003) 0

theorem opNameTable_length : opNameTable.length = 256 := by decide +kernel

theorem opNameTable_nodup : opNameTable.Nodup :=
  (NatBits.nodup_of_distinct (l := opNameTable.map key) (m := 0) (by decide +kernel)).1.of_map key fun _ _ h e => h (e ▸ rfl)

theorem name_eq_getElem (b : UInt8) : name b = opNameTable[b.toNat]'(by rw [opNameTable_length]; exact b.toNat_lt) := by
  have : b.toNat < opNameTable.length := by
    rw [opNameTable_length]
    exact b.toNat_lt
  simp [name, List.getD, this]

theorem name_mem (b : UInt8) : name b ∈ opNameTable := by rw [name_eq_getElem]; exact List.getElem_mem _

theorem name_injective {a b : UInt8} (h : name a = name b) : a = b := by
  rw [name_eq_getElem, name_eq_getElem] at h
  exact UInt8.toNat_inj.mp ((List.getElem_inj opNameTable_nodup).mp h)

theorem classTable_length (ctx : Ctx) : (classTable ctx).length = 256 := by cases ctx <;> decide +kernel

/-- `P b c` holds at every index `b` of the class table of `ctx` with the class `c` stored there -/
def tableAll (ctx : Ctx) (P : UInt8 → Option Class → Prop) [∀ b c, Decidable (P b c)] : Bool :=
  (classTable ctx).zipIdx.all fun e => decide (P (UInt8.ofNat e.2) (decodeClass e.1))

theorem classify_of_tableAll {ctx : Ctx} {P : UInt8 → Option Class → Prop} [∀ b c, Decidable (P b c)]
    (h : tableAll ctx P = true) (b : UInt8) : P b (classify ctx b) := by
  have hi : b.toNat < (classTable ctx).length := by
    rw [classTable_length]
    exact b.toNat_lt
  -- `(7, 0)` is the default of the `getD` in `classify`: with it `this` is about `classify ctx b` itself, unfolded
  have := getD_of_all_zipIdx (f := fun e => decide (P (UInt8.ofNat e.2) (decodeClass e.1))) h (7, 0) hi
  rw [UInt8.ofNat_toNat] at this
  exact of_decide_eq_true this

/-- `try_from_all` -/
theorem tryFromAll_eq (b : UInt8) : tryFromAll b = if b ∈ ordinaryOpcodes then some b else none := by
  unfold tryFromAll
  cases h : ordinaryOpcodes.find? (· == b) with
  | none =>
    have := List.find?_eq_none.mp h
    have hn : b ∉ ordinaryOpcodes := fun hm => by simpa using this b hm
    simp [hn]
  | some x =>
    have hx : x = b := by simpa using List.find?_some h
    have hm : x ∈ ordinaryOpcodes := List.mem_of_find?_eq_some h
    subst hx
    simp [hm]

theorem tryFromAll_iff (b o : UInt8) : tryFromAll b = some o ↔ (o = b ∧ b ∈ ordinaryOpcodes) := by
  rw [tryFromAll_eq]
  by_cases c : b ∈ ordinaryOpcodes
  · simp only [c, if_true, and_true]
    exact ⟨fun e => (Option.some.inj e).symm, fun e => by rw [e]⟩
  · simp [c]

theorem tryFromAll_mask (b : UInt8) :
    tryFromAll b = if (codes ordinaryOpcodes).testBit b.toNat then some b else none := by
  rw [tryFromAll_eq]
  simp only [testBit_codes]

def isPushBytes : Option Class → Bool
  | some (.pushBytes _) => true
  | _ => false

def isPushNum : Option Class → Bool
  | some (.pushNum _) => true
  | _ => false

def isOrdinary : Option Class → Bool
  | some (.ordinary _) => true
  | _ => false

theorem eq_arms_pass (ctx : Ctx) : tableAll ctx (fun b c => c = classifyArms ctx b) = true := by
  unfold tableAll
  -- the kernel evaluates a comparison of `toNat`s faster than one of two `UInt8`
  simp only [classifyArms, tryFromAll_mask, ← UInt8.toNat_inj, UInt8.le_iff_toNat_le]
  cases ctx <;> decide +kernel

theorem classify_eq_arms (ctx : Ctx) (b : UInt8) : classify ctx b = classifyArms ctx b :=
  classify_of_tableAll (eq_arms_pass ctx) b

theorem legacy_total_pass : tableAll .legacy (fun _ c => c.isSome) = true := by decide +kernel

theorem tapscript_none_pass : tableAll .tapScript (fun b c => c = none ↔
    (b = opChecksigadd ∨ b = opReturn192 ∨ (opSha256initialize ≤ b ∧ b ≤ opTweakverify))) = true := by
  decide +kernel

theorem pushBytes_pass (ctx : Ctx) : tableAll ctx (fun b c =>
    if b ≤ opPushbytes75 then c = some (.pushBytes b.toNat) else isPushBytes c = false) = true := by
  cases ctx <;> decide +kernel

/-- `OP_PUSHNUM_NEG1` is two below `OP_PUSHNUM_1`, so one formula gives the number of all seventeen -/
theorem pushNum_pass (ctx : Ctx) : tableAll ctx (fun b c =>
    if b = opPushnumNeg1 ∨ (opPushnum1 ≤ b ∧ b ≤ opPushnum16) then
      c = some (.pushNum (Int.ofNat b.toNat - Int.ofNat opPushnum1.toNat + 1))
    else isPushNum c = false) = true := by
  cases ctx <;> decide +kernel

/-- the opcodes that are in the `ordinary_opcode!` list but are classified otherwise in a context -/
def ordinaryElsewhere : Ctx → List UInt8
  | .legacy => [opCat, opSubstr, opLeft, opRight, opInvert, opAnd, opOr, opXor, opLshift, opRshift,
                opChecksigfromstack, opChecksigfromstackverify, opSubstrLazy]
  | .tapScript => [opCheckmultisig, opCheckmultisigverify]

theorem ordinary_pass (ctx : Ctx) : tableAll ctx (fun b c =>
    if (codes ordinaryOpcodes).testBit b.toNat ∧ ¬ (codes (ordinaryElsewhere ctx)).testBit b.toNat then
      c = some (.ordinary b)
    else isOrdinary c = false) = true := by
  cases ctx <;> decide +kernel

/-- how the three passes above are read (`isK` is the recogniser of the constructor `K`) -/
theorem eq_some_iff_of_pass {α} {K : α → Class} {isK : Option Class → Bool} {G : Prop} [Decidable G]
    {c : Option Class} {v : α} (h : if G then c = some (K v) else isK c = false)
    (hK : ∀ x, isK (some (K x)) = true) (inj : ∀ {x y}, K x = K y → x = y) (x : α) :
    c = some (K x) ↔ G ∧ x = v := by
  split at h
  · next g => exact h ▸ ⟨fun e => ⟨g, (inj (Option.some.inj e)).symm⟩, fun e => by rw [e.2]⟩
  · next g => exact ⟨fun e => Bool.noConfusion ((hK x).symm.trans (e ▸ h)), fun e => absurd e.1 g⟩

/-- class `Ordinary(o)`: `try_from_all` accepts the opcode and no earlier arm claims it -/
theorem classify_ordinary_iff (ctx : Ctx) (b o : UInt8) :
    classify ctx b = some (.ordinary o) ↔ (o = b ∧ tryFromAll b = some b ∧ b ∉ ordinaryElsewhere ctx) := by
  have h := classify_of_tableAll (ordinary_pass ctx) b
  simp only [testBit_codes] at h
  rw [tryFromAll_iff, and_iff_right rfl]
  exact (eq_some_iff_of_pass h (fun _ => rfl) Class.ordinary.inj o).trans and_comm

theorem legacy_classes_pass : tableAll .legacy (fun b c =>
    (c = some .returnOp ↔ ((codes [opReturn, opReserved, opReserved1, opReserved2, opVer]).testBit b.toNat ∨
        (opChecksigadd ≤ b ∧ b ≠ opInvalidopcode))) ∧
    (c = some .illegalOp ↔ (codes [opVerif, opVernotif, opInvalidopcode, opCat, opSubstr, opLeft, opRight, opInvert,
        opAnd, opOr, opXor, op2mul, op2div, opMul, opDiv, opMod, opLshift, opRshift]).testBit b.toNat) ∧
    (c = some .noOp ↔ (b = opNop ∨ (opNop1 ≤ b ∧ b ≤ opNop10))) ∧
    c ≠ some .successOp) = true := by
  decide +kernel

theorem tapscript_classes_pass : tableAll .tapScript (fun b c =>
    (c = some .returnOp ↔ (codes [opReturn, opCheckmultisig, opCheckmultisigverify]).testBit b.toNat) ∧
    (c = some .illegalOp ↔ (codes [opVerif, opVernotif, opInvalidopcode]).testBit b.toNat) ∧
    (c = some .noOp ↔ (b = opNop ∨ (opNop1 ≤ b ∧ b ≤ opNop10))) ∧
    (c = some .successOp ↔ (b.toNat = 80 ∨ b.toNat = 98 ∨ (137 ≤ b.toNat ∧ b.toNat ≤ 138) ∨
        (141 ≤ b.toNat ∧ b.toNat ≤ 142) ∨ (149 ≤ b.toNat ∧ b.toNat ≤ 151) ∨ (187 ≤ b.toNat ∧ b.toNat ≤ 191) ∨
        (229 ≤ b.toNat ∧ b.toNat ≤ 254)))) = true := by
  decide +kernel

/-- how many byte values fall in each class: (PushNum, PushBytes, ReturnOp, SuccessOp, IllegalOp, NoOp, Ordinary,
    panic); `C16.class_counts` evaluates it -/
def classCounts (ctx : Ctx) : List Nat :=
  let cs := (classTable ctx).map decodeClass
  [cs.countP isPushNum, cs.countP isPushBytes, cs.count (some .returnOp), cs.count (some .successOp),
   cs.count (some .illegalOp), cs.count (some .noOp), cs.countP isOrdinary, cs.count none]

end EV.Proofs.Opcodes
