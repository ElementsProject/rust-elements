/-
  EV.Proofs.BridgePsetSize — `PartiallySignedTransaction::extract_tx` builds a `Transaction` from PSET fields; the
  codec laws and the size theorems speak about canonical transactions (`Tx.wf`).  Here canonicity of the extracted
  transaction is characterised by conditions on the PSET fields themselves (`PsetFieldsOk`, per input and output
  equivalent to that of the `TxIn`, `TxOut` built; `extract_wf_iff`), so that `Props.C12` can state the codec round
  trip and `Transaction::size()`, `weight()`, `vsize()` of what `extract_tx` returns; the scaled size is an explicit
  sum over the PSET maps (`extract_scaledSize_formula`).
  Every PSET made by `from_tx` out of a canonical transaction satisfies the conditions (`fromTx_fieldsOk`), also
  where `extract_tx (from_tx tx) ≠ tx` (explicit nonces, finding class F12bc).
-/
import EV.Model.Pset
import EV.Proofs.CodecTx
import EV.Proofs.PsetRoundTrip
import EV.Proofs.PsetExtract
namespace EV.Proofs.BridgePsetSize
open EV EV.Codec EV.Proofs.CodecTx EV.Proofs.PsetExtract EV.Proofs.PsetRoundTrip

/-- an (explicit amount, commitment) field pair as `extract_tx` reads it (the commitment wins): a commitment
    accepted by `PedersenCommitment::from_slice`; an explicit amount alone is a `u64` -/
def PairValueOk (P : Prims) : Option Nat → Option Bytes → Prop
  | _, some c => c.length = 33 ∧ (c.head? = some 8 ∨ c.head? = some 9) ∧ P.commitment c = true
  | some x, none => x < 2^64
  | none, none => True

/-- an (asset id, asset generator) field pair (the generator wins), the generator accepted by `Generator::from_slice` -/
def PairAssetOk (P : Prims) : Option Bytes → Option Bytes → Prop
  | _, some g => g.length = 33 ∧ (g.head? = some 0x0a ∨ g.head? = some 0x0b) ∧ P.generator g = true
  | some a, none => a.length = 32
  | none, none => True

/-- the `ecdh_pubkey` field: absent, or a key whose compressed form (`pk.inner`) `PublicKey::from_slice` accepts -/
def NonceOk (P : Prims) : Option Bytes → Prop
  | none => True
  | some k => (compressPk k).length = 33 ∧ ((compressPk k).head? = some 2 ∨ (compressPk k).head? = some 3) ∧
      P.pubkey (compressPk k) = true

/-- the fields of one PSET input that `extract_tx` reads, constrained so that the `TxIn` it builds is
    canonical.  An index whose low 30 bits are all ones and whose pegin bit (30) is set — for a `u32` that is
    `0x7fffffff` and the coinbase index `0xffffffff` — allows no issuance (with the issuance flag it would
    serialize as / already is the flag-less coinbase index).  With an issuance (`Input::has_issuance`: one of
    the four amount fields is set) the nonce (default: 32 zero bytes) is accepted by `Tweak::from_inner`;
    without, a nonce or entropy that is set is all-zero (a stray one would not be serialized). -/
def InputFieldsOk (P : Prims) (i : PsetInput) : Prop :=
  i.previousTxid.length = 32 ∧
  ((i.previousOutputIndex % 2^30 = 2^30 - 1 ∧ i.previousOutputIndex.testBit 30 = true) → i.hasIssuance = false) ∧
  (∀ s, i.finalScriptSig = some s → s.length ≤ maxVecSize) ∧
  (∀ n, i.sequence = some n → n < 2^32) ∧
  (if i.hasIssuance then
     (i.issuanceBlindingNonce.getD zero32).length = 32 ∧
     P.tweak (i.issuanceBlindingNonce.getD zero32) = true ∧
     (i.issuanceAssetEntropy.getD zero32).length = 32 ∧
     PairValueOk P i.issuanceValueAmount i.issuanceValueComm ∧
     PairValueOk P i.issuanceInflationKeys i.issuanceInflationKeysComm
   else
     i.issuanceBlindingNonce.getD zero32 = zero32 ∧ i.issuanceAssetEntropy.getD zero32 = zero32) ∧
  wfOptProof P.rangeproof i.issuanceValueRangeproof ∧
  wfOptProof P.rangeproof i.issuanceKeysRangeproof ∧
  (∀ w, i.finalScriptWitness = some w → TxInWitness.wfStack w) ∧
  (∀ w, i.peginWitness = some w → TxInWitness.wfStack w)

def OutputFieldsOk (P : Prims) (o : PsetOutput) : Prop :=
  PairAssetOk P o.asset o.assetComm ∧
  PairValueOk P o.amount o.amountComm ∧
  NonceOk P o.ecdhPubkey ∧
  o.scriptPubkey.length ≤ maxVecSize ∧
  wfOptProof P.surjproof o.assetSurjectionProof ∧
  wfOptProof P.rangeproof o.valueRangeproof

def LockFieldsOk (p : Pset) : Prop :=
  (∀ x, p.global.fallbackLocktime = some x → x < 2^32) ∧
  (∀ i ∈ p.inputs, (∀ x, i.requiredTimeLocktime = some x → x < 2^32) ∧
                   (∀ x, i.requiredHeightLocktime = some x → x < 2^32))

/-- the two products are the vector-allocation bounds of the decoder (`len * size_of::<T>() ≤ MAX_VEC_SIZE`) -/
def PsetFieldsOk (P : Prims) (p : Pset) : Prop :=
  p.global.txVersion < 2^32 ∧
  LockFieldsOk p ∧
  p.inputs.length * P.sizeTxIn ≤ maxVecSize ∧
  p.outputs.length * P.sizeTxOut ≤ maxVecSize ∧
  (∀ i ∈ p.inputs, InputFieldsOk P i) ∧
  (∀ o ∈ p.outputs, OutputFieldsOk P o)

theorem pairValueOk_iff (P : Prims) (a : Option Nat) (c : Option Bytes) :
    PairValueOk P a c ↔ (PsetInput.pairValue a c).wf P := by
  cases a <;> cases c <;> exact Iff.rfl

theorem pairAssetOk_iff (P : Prims) (a g : Option Bytes) :
    PairAssetOk P a g ↔ (PsetOutput.pairAsset a g).wf P := by
  cases a <;> cases g <;> exact Iff.rfl

theorem nonceOk_iff (P : Prims) (k : Option Bytes) : NonceOk P k ↔ (PsetOutput.nonceOf k).wf P := by
  cases k <;> exact Iff.rfl

theorem opt_getD_iff {α : Type} (o : Option α) (d : α) (Q : α → Prop) (hd : Q d) :
    (∀ x, o = some x → Q x) ↔ Q (o.getD d) := by
  cases o with
  | none => exact ⟨fun _ => hd, fun _ x h => by cases h⟩
  | some v => exact ⟨fun h => h v rfl, fun h x e => by cases e; exact h⟩

theorem wfStack_nil : TxInWitness.wfStack [] :=
  ⟨by simp only [List.length_nil, Nat.zero_mul, Nat.zero_le], fun b hb => by cases hb⟩

/-- `Input::has_issuance` is `TxIn::has_issuance` of the extracted input -/
theorem toTxIn_hasIssuance (i : PsetInput) : i.toTxIn.hasIssuance = i.hasIssuance := rfl

theorem hasIssuance_false_iff (i : PsetInput) :
    i.hasIssuance = false ↔
      i.issuanceValueAmount = none ∧ i.issuanceValueComm = none ∧
      i.issuanceInflationKeys = none ∧ i.issuanceInflationKeysComm = none := by
  unfold PsetInput.hasIssuance PsetInput.assetIssuance AssetIssuance.isNull
  rw [Bool.not_eq_false', Bool.and_eq_true, value_isNull_iff, value_isNull_iff, pairValue_eq_null_iff,
    pairValue_eq_null_iff, and_assoc]

theorem assetIssuance_null_iff (i : PsetInput) (h : i.hasIssuance = false) :
    i.assetIssuance = AssetIssuance.null ↔
      (i.issuanceBlindingNonce.getD zero32 = zero32 ∧ i.issuanceAssetEntropy.getD zero32 = zero32) := by
  obtain ⟨h1, h2, h3, h4⟩ := (hasIssuance_false_iff i).mp h
  unfold PsetInput.assetIssuance AssetIssuance.null
  rw [h1, h2, h3, h4]
  constructor
  · intro e
    injection e with e1 e2
    exact ⟨e1, e2⟩
  · rintro ⟨e1, e2⟩
    rw [e1, e2]
    rfl

/-- the index condition of `TxIn.wfBody` in terms of the raw PSET index `w` -/
theorem wordOk_splitWord_iff (w : Nat) (q : Bool) :
    WordOk (splitWord w).1 (splitWord w).2.1 q ↔ ((w % 2^30 = 2^30 - 1 ∧ w.testBit 30 = true) → q = false) := by
  unfold WordOk splitWord
  by_cases hc : w = 0xffffffff
  · -- the coinbase index: no pegin flag is read, and it has the thirty ones and bit 30
    rw [hc]
    cases q <;> decide
  · have hlt : w % 2^30 < 2^30 := Nat.mod_lt _ (by decide)
    have hne : w % 2^30 ≠ 0xffffffff := fun h => absurd (h ▸ hlt) (by decide)
    rw [if_neg hc, decide_eq_false hc, Bool.not_false, Bool.true_and]
    simp only [hlt, hne, true_and, false_and, or_false, not_and, Bool.not_eq_true, and_imp]

theorem inputFieldsOk_iff (P : Prims) (i : PsetInput) : InputFieldsOk P i ↔ i.toTxIn.wf P := by
  -- conjunct by conjunct, paired by position: `InputFieldsOk` lists its conditions in the order of `TxIn.wfBody` (the
  -- first five, grouped apart in `TxIn.wf`) and then of `TxInWitness.wf`; `Iff.rfl` where the two conjuncts are the
  -- same text once `AssetIssuance.wf` and these are unfolded
  refine Iff.trans ?_ and_assoc.symm
  refine and_congr Iff.rfl (Iff.trans ?_ and_assoc.symm)
  refine and_congr (wordOk_splitWord_iff i.previousOutputIndex i.hasIssuance).symm (Iff.trans ?_ and_assoc.symm)
  refine and_congr (opt_getD_iff _ [] _ (Nat.zero_le _)) (Iff.trans ?_ and_assoc.symm)
  refine and_congr (opt_getD_iff _ 0xffffffff _ (by decide)) (and_congr ?_ ?_)
  · rw [toTxIn_hasIssuance]
    cases hq : i.hasIssuance
    · rw [if_neg Bool.false_ne_true, if_neg Bool.false_ne_true]
      exact (assetIssuance_null_iff i hq).symm
    · rw [if_pos rfl, if_pos rfl, pairValueOk_iff, pairValueOk_iff]
      exact Iff.rfl
  · exact and_congr Iff.rfl (and_congr Iff.rfl
      (and_congr (opt_getD_iff _ [] _ wfStack_nil) (opt_getD_iff _ [] _ wfStack_nil)))

theorem outputFieldsOk_iff (P : Prims) (o : PsetOutput) : OutputFieldsOk P o ↔ (outOf o).wf P := by
  refine Iff.trans ?_ and_assoc.symm
  refine and_congr (pairAssetOk_iff P _ _) (Iff.trans ?_ and_assoc.symm)
  refine and_congr (pairValueOk_iff P _ _) (Iff.trans ?_ and_assoc.symm)
  exact and_congr (nonceOk_iff P _) Iff.rfl

/-- `locktime()` returns one of the stated lock times (or the default 0) -/
theorem locktime_lt (p : Pset) (lt : Nat) (hl : LockFieldsOk p) (h : p.locktime = .ok lt) : lt < 2^32 := by
  have hmem := EV.Proofs.PsetLocktime.locktimeOf_mem h
  rw [Pset.lockReqs, List.filterMap_map, List.filterMap_map] at hmem
  rcases hmem with rfl | hm | hm
  · cases hf : p.global.fallbackLocktime with
    | none => decide
    | some x => exact hl.1 x hf
  · obtain ⟨i, hi, hx⟩ := List.mem_filterMap.mp hm
    exact (hl.2 i hi).2 lt hx
  · obtain ⟨i, hi, hx⟩ := List.mem_filterMap.mp hm
    exact (hl.2 i hi).1 lt hx

theorem extract_wf_iff (P : Prims) (p : Pset) (t : Tx) (h : p.extractTx = .ok t) :
    t.wf P ↔
      (p.global.txVersion < 2^32 ∧ t.lockTime < 2^32 ∧
       p.inputs.length * P.sizeTxIn ≤ maxVecSize ∧ p.outputs.length * P.sizeTxOut ≤ maxVecSize ∧
       (∀ i ∈ p.inputs, InputFieldsOk P i) ∧ (∀ o ∈ p.outputs, OutputFieldsOk P o)) := by
  have ht := extractTx_ok h
  unfold Tx.wf
  rw [ht.version, ht.input, ht.output, List.length_map, List.length_map, List.forall_mem_map, List.forall_mem_map]
  simp only [inputFieldsOk_iff, outputFieldsOk_iff]

/-- whether the extracted transaction is serialized with witnesses, from the PSET fields -/
def pHasWitness (p : Pset) : Bool :=
  p.inputs.any (fun i => i.issuanceValueRangeproof.isSome || i.issuanceKeysRangeproof.isSome ||
      !(i.finalScriptWitness.getD []).isEmpty || !(i.peginWitness.getD []).isEmpty) ||
  p.outputs.any (fun o => o.assetSurjectionProof.isSome || o.valueRangeproof.isSome)

theorem inWitness_nonEmpty (i : PsetInput) :
    (!i.toTxIn.witness.isEmpty) =
      (i.issuanceValueRangeproof.isSome || i.issuanceKeysRangeproof.isSome ||
        !(i.finalScriptWitness.getD []).isEmpty || !(i.peginWitness.getD []).isEmpty) := by
  show (!(i.issuanceValueRangeproof.isNone && i.issuanceKeysRangeproof.isNone &&
      (i.finalScriptWitness.getD []).isEmpty && (i.peginWitness.getD []).isEmpty)) = _
  rw [Bool.not_and, Bool.not_and, Bool.not_and]
  cases i.issuanceValueRangeproof <;> cases i.issuanceKeysRangeproof <;> rfl

theorem outWitness_nonEmpty (o : PsetOutput) :
    (!(outOf o).witness.isEmpty) = (o.assetSurjectionProof.isSome || o.valueRangeproof.isSome) := by
  show (!(o.assetSurjectionProof.isNone && o.valueRangeproof.isNone)) = _
  cases o.assetSurjectionProof <;> cases o.valueRangeproof <;> rfl

theorem extract_hasWitness (p : Pset) (t : Tx) (h : p.extractTx = .ok t) : t.hasWitness = pHasWitness p := by
  rw [Tx.hasWitness, (extractTx_ok h).input, (extractTx_ok h).output, List.any_map, List.any_map]
  simp only [Function.comp_def, inWitness_nonEmpty, outWitness_nonEmpty, pHasWitness]

/-- no canonicity needed: this is the arithmetic of `Transaction::scaled_size` on what `extract_tx` builds -/
theorem extract_scaledSize_formula (p : Pset) (t : Tx) (h : p.extractTx = .ok t) (k : Nat) :
    t.scaledSize k =
      k * (4 + 4 + varintSize p.inputs.length + varintSize p.outputs.length + 1) +
      (p.inputs.map (fun i => Tx.inputScaled k (pHasWitness p) i.toTxIn)).sum +
      (p.outputs.map (fun o => Tx.outputScaled k (pHasWitness p) (outOf o))).sum := by
  have hw := extract_hasWitness p t h
  unfold Tx.scaledSize
  rw [hw, (extractTx_ok h).input, (extractTx_ok h).output, List.length_map, List.length_map, List.map_map, List.map_map]
  rfl

/-- also where the round trip fails: a pegin witness on a non-pegin input, or issuance range proofs without an
    issuance, are dropped by `from_txin` -/
theorem fromTxIn_fieldsOk (P : Prims) (i : TxIn) (h : i.wf P) : InputFieldsOk P (PsetInput.fromTxIn i) := by
  obtain ⟨⟨h1, h2, h3, h4, h5⟩, hw1, hw2, hw3, hw4⟩ := h
  -- on a canonical input the index, the pegin flag and the issuance are read back unchanged
  have hs : splitWord i.voutWord = _ := (splitWord_joinWord h2).2
  have hiss : (if i.hasIssuance then i.assetIssuance else AssetIssuance.null) = i.assetIssuance := by
    cases hq : i.hasIssuance
    · rw [hq] at h5
      exact h5.symm
    · rfl
  rw [inputFieldsOk_iff, toTxIn_fromTxIn, hs, hiss]
  refine ⟨⟨h1, h2, h3, h4, h5⟩, ?_, ?_, hw3, ?_⟩
  · cases i.hasIssuance
    · exact trivial
    · exact hw1
  · cases i.hasIssuance
    · exact trivial
    · exact hw2
  · cases i.isPegin
    · exact wfStack_nil
    · exact hw4

/-- also for a null asset or value, where `extract_tx` fails, and for an explicit nonce, which `from_txout` drops -/
theorem fromTxOut_fieldsOk (P : Prims) (o : TxOut) (h : o.wf P) : OutputFieldsOk P (PsetOutput.fromTxOut o) := by
  obtain ⟨⟨ha, hv, hn, hs⟩, hsp, hrp⟩ := h
  rw [outputFieldsOk_iff, outOf_fromTxOut]
  refine ⟨⟨ha, hv, ?_, hs⟩, hsp, hrp⟩
  cases PsetOutput.txOutPartiallyBlinded o
  · exact trivial
  · cases hnn : o.nonce with
    | null => exact trivial
    | explicit b => exact trivial
    | conf pk =>
      rw [hnn] at hn
      show (Nonce.conf (compressPk pk)).wf P
      rw [compressPk_of_length pk hn.1]
      exact hn

theorem fromTx_fieldsOk (P : Prims) (t : Tx) (h : t.wf P) : PsetFieldsOk P (Pset.fromTx t) := by
  obtain ⟨h1, h2, h3, h4, h5, h6⟩ := h
  refine ⟨h1, ⟨?_, List.forall_mem_map.mpr fun x _ => ?_⟩, ?_, ?_,
    List.forall_mem_map.mpr fun x hx => fromTxIn_fieldsOk P x (h5 x hx),
    List.forall_mem_map.mpr fun x hx => fromTxOut_fieldsOk P x (h6 x hx)⟩
  · intro x hx
    cases (hx : some t.lockTime = some x)
    exact h2
  · rw [fromTxIn_eq]
    exact ⟨nofun, nofun⟩
  · show (t.input.map PsetInput.fromTxIn).length * P.sizeTxIn ≤ maxVecSize
    rw [List.length_map]
    exact h3
  · show (t.output.map PsetOutput.fromTxOut).length * P.sizeTxOut ≤ maxVecSize
    rw [List.length_map]
    exact h4

/-! The field conditions are decidable (given the primitives): used for the concrete example in C12. -/

instance pairValueOkDec (P : Prims) : (a : Option Nat) → (c : Option Bytes) → Decidable (PairValueOk P a c)
  | none, none => isTrue trivial
  | some x, none => inferInstanceAs (Decidable (x < 2^64))
  | none, some c => inferInstanceAs
      (Decidable (c.length = 33 ∧ (c.head? = some 8 ∨ c.head? = some 9) ∧ P.commitment c = true))
  | some _, some c => inferInstanceAs
      (Decidable (c.length = 33 ∧ (c.head? = some 8 ∨ c.head? = some 9) ∧ P.commitment c = true))

instance pairAssetOkDec (P : Prims) : (a g : Option Bytes) → Decidable (PairAssetOk P a g)
  | none, none => isTrue trivial
  | some a, none => inferInstanceAs (Decidable (a.length = 32))
  | none, some g => inferInstanceAs
      (Decidable (g.length = 33 ∧ (g.head? = some 0x0a ∨ g.head? = some 0x0b) ∧ P.generator g = true))
  | some _, some g => inferInstanceAs
      (Decidable (g.length = 33 ∧ (g.head? = some 0x0a ∨ g.head? = some 0x0b) ∧ P.generator g = true))

instance nonceOkDec (P : Prims) : (k : Option Bytes) → Decidable (NonceOk P k)
  | none => isTrue trivial
  | some k => inferInstanceAs (Decidable ((compressPk k).length = 33 ∧
      ((compressPk k).head? = some 2 ∨ (compressPk k).head? = some 3) ∧ P.pubkey (compressPk k) = true))

instance wfOptProofDec (valid : Bytes → Bool) : (o : Option Bytes) → Decidable (wfOptProof valid o)
  | none => isTrue trivial
  | some b => inferInstanceAs (Decidable (b ≠ [] ∧ valid b = true ∧ b.length ≤ maxVecSize))

instance wfStackDec (l : List Bytes) : Decidable (TxInWitness.wfStack l) :=
  inferInstanceAs (Decidable (l.length * 24 ≤ maxVecSize ∧ ∀ b ∈ l, b.length ≤ maxVecSize))

instance inputFieldsOkDec (P : Prims) (i : PsetInput) : Decidable (InputFieldsOk P i) := by
  delta InputFieldsOk
  infer_instance

instance outputFieldsOkDec (P : Prims) (o : PsetOutput) : Decidable (OutputFieldsOk P o) := by
  delta OutputFieldsOk
  infer_instance

instance lockFieldsOkDec (p : Pset) : Decidable (LockFieldsOk p) := by
  delta LockFieldsOk
  infer_instance

instance psetFieldsOkDec (P : Prims) (p : Pset) : Decidable (PsetFieldsOk P p) := by
  delta PsetFieldsOk; infer_instance

end EV.Proofs.BridgePsetSize
