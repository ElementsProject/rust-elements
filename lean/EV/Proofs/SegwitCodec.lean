/-
  EV.Proofs.SegwitCodec — the encoder and the two segwit decoders are inverse to each other: decoding the
  encoding (as written or entirely upper-cased) returns the encoded parts (`segwitNew_encode`); every accepted
  string, lower-cased, is the encoding of what was decoded from it (`encode_of_segwitNew`).
-/
import EV.Proofs.SegwitDecode
import EV.Proofs.Checksum
namespace EV.Bech32
open Code

/-- the two spellings in which the decoders accept an encoded string: as the encoder writes it (`up = false`)
    or with every letter upper-cased -/
def cmap (up : Bool) (c : Nat) : Nat := if up then upperByte c else c

/-- a human-readable part as the encoder is used with: accepted by `Hrp::parse`, lower case,
    without the separator character -/
def HrpOk (h : Text) : Prop :=
  h ≠ [] ∧ h.length ≤ Ref.maxHrpLen ∧ ∀ b ∈ h, 33 ≤ b ∧ b ≤ 126 ∧ isUpper b = false ∧ b ≠ 49

theorem cmap_false (c : Nat) : cmap false c = c := by simp [cmap]

theorem cmap_true (c : Nat) : cmap true c = upperByte c := by simp [cmap]

theorem cmap_sep (up : Bool) : cmap up 49 = 49 := by cases up <;> decide

theorem lowerByte_cmap (up : Bool) (b : Nat) : lowerByte (cmap up b) = lowerByte b := by
  cases up
  · rw [cmap_false]
  · rw [cmap_true, lowerByte_upperByte]

theorem cmap_range (up : Bool) (b : Nat) (h : 33 ≤ b ∧ b ≤ 126) : 33 ≤ cmap up b ∧ cmap up b ≤ 126 := by
  cases up
  · rw [cmap_false]
    exact h
  · rw [cmap_true]
    exact upperByte_range b h

theorem fromChar_cmap_toChar (up : Bool) (x : Nat) (hx : x < 32) :
    fromChar (cmap up (toChar x)) = some x := by
  cases up
  · rw [cmap_false]
    exact fromChar_toChar x hx
  · rw [cmap_true]
    exact fromChar_upper_toChar x hx

theorem sym_cmap_toChar (up : Bool) (x : Nat) (hx : x < 32) : sym (cmap up (toChar x)) = x := by
  simp [sym, fromChar_cmap_toChar up x hx]

theorem lowerByte_alphabet (c : Nat) (h : (fromChar c).isSome = true) : lowerByte c = toChar (sym c) := by
  cases hc : fromChar c with
  | none => simp [hc] at h
  | some x => simp [sym, hc, (fromChar_spec c x hc).1]

theorem alphabet_cmap_toChar (up : Bool) (xs : List Nat) (h : ∀ x ∈ xs, x < 32) :
    ∀ c ∈ (xs.map toChar).map (cmap up), (fromChar c).isSome = true := by
  intro c hc
  simp only [List.mem_map] at hc
  obtain ⟨_, ⟨x, hx, rfl⟩, rfl⟩ := hc
  simp [fromChar_cmap_toChar up x (h x hx)]

theorem variant_target_lt (f : Flavor) (hf : IsFlavor f) (ver : Nat) :
    (f.variant ver).target < 2 ^ (5 * (f.variant ver).code.len) := by
  unfold Flavor.variant
  split
  · exact (flavorFacts f hf).v0_target_lt
  · exact (flavorFacts f hf).vm_target_lt

theorem variant_good (f : Flavor) (hf : IsFlavor f) (ver : Nat) : (f.variant ver).code.Good := by
  rw [variant_code f hf]
  exact (flavorFacts f hf).good

/-- `CODE_LENGTH` (1023 for bech32/bech32m) is never reached by a string within `segwit::MAX_STRING_LENGTH` -/
theorem codeLength_ok (f : Flavor) (hf : IsFlavor f) (ver n : Nat) (htl : f.tooLong n = false)
    (hc : f.checkCodeLength = true) : n ≤ (f.variant ver).codeLength := by
  rcases hf with rfl | rfl
  · rw [tooLong_crate] at htl
    have : (crateFlavor.variant ver).codeLength = 1023 := by
      unfold Flavor.variant
      split <;> rfl
    rw [this]
    omega
  · cases hc

theorem map_eq_self {α : Type} {l : List α} {g : α → α} (h : ∀ b ∈ l, g b = b) : l.map g = l :=
  (List.map_congr_left h).trans (List.map_id l)

theorem hrpOk_lower (h : Text) (hh : HrpOk h) : lower h = h :=
  map_eq_self fun b hb => lowerByte_of_not_upper b (hh.2.2 b hb).2.2.1

theorem map_sym_cmap_toChar (up : Bool) (xs : List Nat) (h : ∀ x ∈ xs, x < 32) :
    ((xs.map toChar).map (cmap up)).map sym = xs := by
  rw [List.map_map, List.map_map]
  exact map_eq_self (fun x hx => sym_cmap_toChar up x (h x hx))

theorem no_mixed (up : Bool) (l : Text) (h : ∀ b ∈ l, isUpper b = false) :
    ((l.map (cmap up)).any isUpper && (l.map (cmap up)).any isLower) = false := by
  rw [Bool.and_eq_false_iff, List.any_eq_false, List.any_eq_false]
  cases up
  · left
    intro c hc
    obtain ⟨b, hb, rfl⟩ := List.mem_map.mp hc
    rw [cmap_false, h b hb]
    simp
  · right
    intro c hc
    obtain ⟨b, _, rfl⟩ := List.mem_map.mp hc
    rw [cmap_true, isLower_upperByte]
    simp

theorem hrpExpand_cmap (up : Bool) (h : Text) : hrpExpand (h.map (cmap up)) = hrpExpand h := by
  simp [hrpExpand, List.map_map, Function.comp_def, lowerByte_cmap]

theorem hrpExpand_lower (h : Text) : hrpExpand (lower h) = hrpExpand h := by
  simp [hrpExpand, lower, List.map_map, Function.comp_def, lowerByte_lowerByte]

theorem lower_map_cmap_lower (up : Bool) (h : Text) : lower ((lower h).map (cmap up)) = lower h := by
  simp only [lower, List.map_map]
  exact List.map_congr_left fun b _ => (lowerByte_cmap up _).trans (lowerByte_lowerByte b)

theorem hrpParse_cmap (up : Bool) (hrp : Text) (hh : HrpOk hrp) : hrpParse (hrp.map (cmap up)) = true := by
  obtain ⟨hne, hhl, hhb⟩ := hh
  unfold hrpParse
  rw [no_mixed up hrp (fun b hb => (hhb b hb).2.2.1)]
  simp only [Bool.not_false, Bool.and_true, Bool.and_eq_true, Bool.not_eq_true', decide_eq_true_eq,
    List.all_eq_true]
  refine ⟨⟨?_, by simpa using hhl⟩, ?_⟩
  · cases hrp with
    | nil => exact absurd rfl hne
    | cons a l => rfl
  · intro c hc
    obtain ⟨b, hb, rfl⟩ := List.mem_map.mp hc
    exact cmap_range up b ⟨(hhb b hb).1, (hhb b hb).2.1⟩

theorem encode_map_split (v : Variant) (hrp : Text) (ver : Nat) (fes : List Nat) (up : Bool)
    (hver : ver < 32) (hfes : ∀ x ∈ fes, x < 32) :
    ∃ d, (encode v hrp ver fes).map (cmap up) = (lower hrp).map (cmap up) ++ 49 :: d ∧
      (∀ c ∈ d, (fromChar c).isSome = true) ∧
      d.map sym = ver :: fes ++ createChecksum v (hrpExpand hrp ++ ver :: fes) ∧
      (((encode v hrp ver fes).map (cmap up)).any isUpper &&
        ((encode v hrp ver fes).map (cmap up)).any isLower) = false := by
  have hall : ∀ x ∈ ver :: fes ++ createChecksum v (hrpExpand hrp ++ ver :: fes), x < 32 :=
    List.forall_mem_append.mpr ⟨List.forall_mem_cons.mpr ⟨hver, hfes⟩, createChecksum_lt _ _⟩
  refine ⟨_, ?_, alphabet_cmap_toChar up _ hall, map_sym_cmap_toChar up _ hall, no_mixed up _ ?_⟩
  · simp only [encode, List.map_append, List.map_cons, cmap_sep]
  · -- nothing is upper case before `cmap`: lower-cased hrp, separator, characters of symbols
    refine List.forall_mem_append.mpr ⟨fun b hb => ?_, List.forall_mem_cons.mpr ⟨rfl, fun b hb => ?_⟩⟩
    · obtain ⟨c, _, rfl⟩ := List.mem_map.mp hb
      exact isUpper_lowerByte c
    · obtain ⟨x, hx, rfl⟩ := List.mem_map.mp hb
      exact isUpper_toChar x (hall x hx)

theorem segwitNew_encode (f : Flavor) (hf : IsFlavor f) (up : Bool) (hrp : Text) (hh : HrpOk hrp)
    (ver : Nat) (fes : List Nat) (hver : ver ≤ 16) (hfes : ∀ x ∈ fes, x < 32)
    (hpad : validatePadding fes = true)
    (hlen : validateLength f ver (fes.length * 5 / 8) = true)
    (htl : f.tooLong (hrp.length + 1 + (1 + fes.length + f.v0.code.len)) = false) :
    segwitNew f ((encode (f.variant ver) hrp ver fes).map (cmap up))
      = .ok { hrp := hrp.map (cmap up), version := ver, fes := fes } := by
  have hpoly := polymod_createChecksum (f.variant ver) (variant_good f hf ver) (variant_target_lt f hf ver)
    (hrpExpand hrp ++ ver :: fes)
  obtain ⟨d, hs, hal, hsym, hmix⟩ := encode_map_split (f.variant ver) hrp ver fes up (by omega) hfes
  rw [hrpOk_lower hrp hh] at hs
  have hckl := createChecksum_length (f.variant ver) (hrpExpand hrp ++ ver :: fes)
  have hl : ((encode (f.variant ver) hrp ver fes).map (cmap up)).length
      = hrp.length + 1 + (1 + fes.length + f.v0.code.len) := by
    have := congrArg List.length hsym
    rw [hs, ← variant_code f hf ver, ← hckl]
    simp only [List.length_append, List.length_cons, List.length_map] at this ⊢
    omega
  rw [← hl] at htl
  have hverify : verify (f.variant ver) (hrp.map (cmap up)) (d.map sym) = true := by
    rw [hsym, verify_eq_true_iff, hrpExpand_cmap, ← List.append_assoc]
    exact hpoly
  exact (segwitNew_eq_ok_iff f _ _).mpr ⟨d, _,
    (uncheckedNew_eq_some_iff _ _ _).mpr ⟨hs, hrpParse_cmap up hrp hh, hal, hmix⟩,
    hsym, hckl, htl, hver, codeLength_ok f hf ver _ htl, hverify, hpad, hlen⟩

theorem lower_alphabet (d : Text) (h : ∀ c ∈ d, (fromChar c).isSome = true) :
    d.map lowerByte = (d.map sym).map toChar := by
  rw [List.map_map]
  exact List.map_congr_left (fun c hc => lowerByte_alphabet c (h c hc))

theorem encode_of_segwitNew (f : Flavor) (hf : IsFlavor f) (s : Text) (seg : Seg)
    (h : segwitNew f s = .ok seg) :
    lower s = encode (f.variant seg.version) seg.hrp seg.version seg.fes ∧
    seg.version ≤ 16 ∧ (∀ x ∈ seg.fes, x < 32) ∧ validatePadding seg.fes = true ∧
    validateLength f seg.version (seg.fes.length * 5 / 8) = true ∧
    (∃ d, s = seg.hrp ++ 49 :: d ∧ (∀ c ∈ d, (fromChar c).isSome = true) ∧
      (d.map sym).head? = some seg.version ∧ verify (f.variant seg.version) seg.hrp (d.map sym) = true) := by
  obtain ⟨d, ck, hun, e, hck, _, hv16, _, hver, hpad, hvl⟩ := (segwitNew_eq_ok_iff f s seg).mp h
  obtain ⟨rfl, _, hal, _⟩ := (uncheckedNew_eq_some_iff s _ d).mp hun
  obtain ⟨hfes, hcks⟩ := List.forall_mem_append.mp (List.forall_mem_cons.mp (e ▸ map_sym_lt d)).2
  -- the checksum symbols are the encoder's
  obtain rfl : ck = createChecksum _ (hrpExpand seg.hrp ++ seg.version :: seg.fes) :=
    checksum_unique _ (variant_target_lt f hf _) _ ck hcks hck
      (by
        rw [List.append_assoc, ← e]
        exact (verify_eq_true_iff _ _ _).mp hver)
  refine ⟨?_, hv16, hfes, hpad, hvl, d, rfl, hal, e ▸ rfl, hver⟩
  rw [encode, ← e, ← lower_alphabet d hal]
  exact List.map_append

end EV.Bech32
