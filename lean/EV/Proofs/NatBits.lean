/-
  Bits of a natural number as the model tests and sets them: `n &&& 2^i` against zero is `n.testBit i` (the masks of a
  sequence number), one flag bit above a `k`-bit field (`flag_iff`: the index word of a serialized input), `^^^` and `&&&`
  of numbers written as a high part above a `w`-bit field (`split_xor`, `split_and`: the polymod step and its tables), and
  a mask as a set of small numbers (`distinct`: that a table has no repetition, in one pass the kernel can evaluate).
-/
namespace EV.NatBits

theorem and_two_pow (n i : Nat) : n &&& 2^i = if n.testBit i then 2^i else 0 := by
  apply Nat.eq_of_testBit_eq
  intro j
  rw [Nat.testBit_and, Nat.testBit_two_pow]
  by_cases hij : i = j
  · subst hij
    cases n.testBit i <;> simp
  · cases n.testBit i <;> simp [hij]

theorem and_two_pow_eq_zero (n i : Nat) : (n &&& 2^i == 0) = !n.testBit i := by
  rw [and_two_pow]
  cases n.testBit i <;> simp

theorem and_two_pow_pos (n i : Nat) : decide (n &&& 2^i > 0) = n.testBit i := by
  rw [and_two_pow]
  cases n.testBit i <;> simp [Nat.two_pow_pos]

theorem testBit_false_of_lt {x i j : Nat} (h : x < 2^i) (hij : i ≤ j) : x.testBit j = false :=
  Nat.testBit_lt_two_pow (Nat.lt_of_lt_of_le h (Nat.pow_le_pow_right (by decide) hij))

theorem flag_iff {k v w : Nat} {b : Bool} (hv : v < 2^k) :
    v ||| (if b then 2^k else 0) = w ↔ w < 2^(k+1) ∧ w % 2^k = v ∧ w.testBit k = b := by
  have hj : v ||| (if b then 2^k else 0) = 2^k * b.toNat + v := by
    cases b
    · simp
    · rw [if_pos rfl, Nat.or_two_pow_eq_add_of_lt hv, Bool.toNat_true, Nat.mul_one, Nat.add_comm]
  rw [hj]
  constructor
  · rintro rfl
    refine ⟨?_, ?_, ?_⟩
    · rw [Nat.pow_succ]
      calc 2^k * b.toNat + v < 2^k * b.toNat + 2^k := Nat.add_lt_add_left hv _
        _ = 2^k * (b.toNat + 1) := (Nat.mul_succ ..).symm
        _ ≤ 2^k * 2 := Nat.mul_le_mul_left _ (Bool.toNat_lt b)
    · rw [Nat.mul_add_mod, Nat.mod_eq_of_lt hv]
    · rw [Nat.testBit_two_pow_mul_add _ hv, if_neg (Nat.lt_irrefl k), Nat.sub_self]
      cases b
      · rfl
      · rfl
  · rintro ⟨hw, rfl, rfl⟩
    -- `w / 2^k` is 0 or 1, so it is the flag read as a number
    rw [Nat.pow_succ] at hw
    rw [Nat.toNat_testBit, Nat.mod_eq_of_lt (Nat.div_lt_of_lt_mul hw), Nat.div_add_mod]

theorem split_xor (w X Y x y : Nat) (hx : x < 2 ^ w) (hy : y < 2 ^ w) :
    (2 ^ w * X + x) ^^^ (2 ^ w * Y + y) = 2 ^ w * (X ^^^ Y) + (x ^^^ y) := by
  apply Nat.eq_of_testBit_eq
  intro j
  rw [Nat.testBit_xor, Nat.testBit_two_pow_mul_add _ hx, Nat.testBit_two_pow_mul_add _ hy,
    Nat.testBit_two_pow_mul_add _ (Nat.xor_lt_two_pow hx hy)]
  split <;> rw [Nat.testBit_xor]

theorem split_and (w X Y x y : Nat) (hx : x < 2 ^ w) (hy : y < 2 ^ w) :
    (2 ^ w * X + x) &&& (2 ^ w * Y + y) = 2 ^ w * (X &&& Y) + (x &&& y) := by
  apply Nat.eq_of_testBit_eq
  intro j
  rw [Nat.testBit_and, Nat.testBit_two_pow_mul_add _ hx, Nat.testBit_two_pow_mul_add _ hy,
    Nat.testBit_two_pow_mul_add _ (Nat.and_lt_two_pow x hy)]
  split <;> rw [Nat.testBit_and]

/-- no repetition in a list of small naturals: one bit of the mask `m` is tested and set per element -/
def distinct : List Nat → Nat → Bool
  | [], _ => true
  | k :: t, m => !m.testBit k && distinct t (m ||| 1 <<< k)

theorem nodup_of_distinct {l : List Nat} {m : Nat} (h : distinct l m = true) :
    l.Nodup ∧ ∀ k ∈ l, m.testBit k = false := by
  induction l generalizing m with
  | nil => exact ⟨List.nodup_nil, fun _ hk => nomatch hk⟩
  | cons k t ih =>
    simp only [distinct, Bool.and_eq_true, Bool.not_eq_true'] at h
    obtain ⟨hn, hm⟩ := ih h.2
    have hb : ∀ j ∈ t, m.testBit j = false ∧ k ≠ j := fun j hj => by
      simpa [Nat.testBit_or, Nat.one_shiftLeft, Nat.testBit_two_pow] using hm j hj
    refine ⟨List.nodup_cons.mpr ⟨fun hk => (hb k hk).2 rfl, hn⟩, fun j hj => ?_⟩
    rcases List.mem_cons.mp hj with rfl | hj
    · exact h.1
    · exact (hb j hj).1

end EV.NatBits
