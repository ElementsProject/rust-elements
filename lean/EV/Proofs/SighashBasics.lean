/-
  What the sighash proofs share.  For refinement and agreement: the specifications' bit masks evaluated on the
  hash-type enumerations; the committed issuance `issuanceOf` in terms of `has_issuance()`; the legacy record in terms
  of the enumeration (`legacyView_input?`: its `k`-th input as a function of the `k`-th input of the transaction,
  without default element or length condition); the BIP143 and the taproot serialisation written piecewise; the stages
  of the taproot record, and in `namespace VA` what a stage that succeeded returned.
  For the two Commits files, at the end: prefix-free encoders (`PF`) and canonicity of the parts of a canonical
  transaction.
  Trap: `open EV.Proofs.CodecPrim` brings `CodecPrim.Sound` (a postcondition on a decoder's result) into scope here and
  in the two Commits files; `EV.Sighash.Sound` of SighashCacheProofs (a cache computation keeps the invariant and
  returns a given result) is unrelated, and that file does not open `CodecPrim`.
-/
import EV.Proofs.SighashDefs
import EV.Proofs.Res
namespace EV.Sighash
open EV EV.Codec EV.Proofs.CodecPrim EV.Proofs.CodecTx

theorem ecdsa_acp_iff (ty : EcdsaTy) : (ty.asU32 &&& SIGHASH_ANYONECANPAY ≠ 0) ↔ ty.acp = true := by
  cases ty <;> decide

theorem ecdsa_single_iff (ty : EcdsaTy) : (ty.asU32 &&& 0x1f = SIGHASH_SINGLE) ↔ ty.base = .single := by
  cases ty <;> decide

theorem ecdsa_none_iff (ty : EcdsaTy) : (ty.asU32 &&& 0x1f = SIGHASH_NONE) ↔ ty.base = .none := by
  cases ty <;> decide

theorem asU32_lt (ty : EcdsaTy) : ty.asU32 < 2^32 := by
  cases ty <;> decide

theorem schnorr_valid (ty : SchnorrTy) (h : ty ≠ .reserved) :
    ty.byte ≤ 0x03 ∨ (0x81 ≤ ty.byte ∧ ty.byte ≤ 0x83) := by
  cases ty <;> first | exact absurd rfl h | decide

theorem schnorr_acp_iff (ty : SchnorrTy) (h : ty ≠ .reserved) :
    (ty.byte &&& SIGHASH_INPUT_MASK = SIGHASH_ANYONECANPAY) ↔ ty.acp = true := by
  cases ty <;> first | exact absurd rfl h | decide

theorem schnorr_single_iff (ty : SchnorrTy) (h : ty ≠ .reserved) :
    ((if ty.byte = 0 then SIGHASH_ALL else ty.byte &&& SIGHASH_OUTPUT_MASK) = SIGHASH_SINGLE) ↔ ty.isSingle = true := by
  cases ty <;> first | exact absurd rfl h | decide

theorem schnorr_none_iff (ty : SchnorrTy) (h : ty ≠ .reserved) :
    ((if ty.byte = 0 then SIGHASH_ALL else ty.byte &&& SIGHASH_OUTPUT_MASK) = SIGHASH_NONE) ↔ ty.isNone = true := by
  cases ty <;> first | exact absurd rfl h | decide

theorem schnorr_nacp (ty : SchnorrTy) (hty : ty ≠ .reserved) (h : ty.acp = false) : ty.byte &&& 0x80 = 0 := by
  revert h
  cases ty <;> first | exact absurd rfl hty | decide

theorem schnorr_out_bits (ty : SchnorrTy) (hty : ty ≠ .reserved) :
    (ty.isSingle = true → ty.byte &&& 3 = 3) ∧ (ty.isSingle = false → ty.isNone = true → ty.byte &&& 3 = 2) ∧
    (ty.isSingle = false → ty.isNone = false → ty.byte = 0 ∨ ty.byte &&& 3 = 1) := by
  cases ty <;> first | exact absurd rfl hty | decide

/-- `encLe` is `leBytes` behind a definition that `rw` and `simp only` do not see through -/
theorem encLe_length (k n : Nat) : (encLe k n).length = k := leBytes_length k n

theorem encLe4_mod (n : Nat) : encLe 4 (n % 2 ^ 32) = encLe 4 n := leBytes_mod 4 n

/-! ### lists and options, nothing about sighashes -/

theorem map_eq_of_factor {α β γ} {g : α → β} {f : α → γ} (f' : β → γ) (hf : ∀ a, f a = f' (g a))
    {l l' : List α} (h : l.map g = l'.map g) : l.map f = l'.map f := by
  have e : ∀ l : List α, l.map f = (l.map g).map f' := fun l => by
    rw [List.map_map]; exact List.map_congr_left (fun a _ => hf a)
  rw [e l, e l', h]

theorem flatMap_eq_of_factor {α β γ} {g : α → β} {f : α → List γ} (f' : β → List γ) (hf : ∀ a, f a = f' (g a))
    {l l' : List α} (h : l.map g = l'.map g) : l.flatMap f = l'.flatMap f := by
  rw [List.flatMap_def, List.flatMap_def, map_eq_of_factor f' hf h]

theorem map_modify_inv {α β} (f : α → α) (g : α → β) (hg : ∀ x, g (f x) = g x) :
    ∀ (l : List α) (i : Nat), (l.modify i f).map g = l.map g
  | [], _ => by simp only [List.modify_nil]
  | a :: l, 0 => by simp only [List.modify_zero_cons, List.map_cons, hg]
  | a :: l, i + 1 => by
    simp only [List.modify_succ_cons, List.map_cons, map_modify_inv f g hg l i]

theorem flatMap_modify_inv {α β} (f : α → α) (g : α → List β) (hg : ∀ x, g (f x) = g x)
    (l : List α) (i : Nat) : (l.modify i f).flatMap g = l.flatMap g := by
  simp only [List.flatMap_def, map_modify_inv f g hg]

theorem map_pair_iff {α β γ} {f : α → β} {g : α → γ} {l l' : List α} :
    l.map (fun x => (f x, g x)) = l'.map (fun x => (f x, g x)) ↔ l.map f = l'.map f ∧ l.map g = l'.map g := by
  constructor
  · intro h
    exact ⟨map_eq_of_factor Prod.fst (fun _ => rfl) h, map_eq_of_factor Prod.snd (fun _ => rfl) h⟩
  · intro ⟨hf, hg⟩
    rw [← List.zip_map', ← List.zip_map', hf, hg]

theorem map_eq_iff_getElem? {α β} {g : α → β} {l l' : List α} :
    l.map g = l'.map g ↔ ∀ k : Nat, (l[k]?).map g = (l'[k]?).map g := by
  simp only [List.ext_getElem?_iff, List.getElem?_map]

theorem getElem?_map_eq_iff {α β} (g : α → β) {la lb : List α} {k : Nat} (ha : k < la.length) (hb : k < lb.length) :
    (la[k]?).map g = (lb[k]?).map g ↔ g la[k] = g lb[k] := by
  rw [List.getElem?_eq_getElem ha, List.getElem?_eq_getElem hb, Option.map_some, Option.map_some, Option.some.injEq]

theorem option_isSome_eq_cases {α β} {x : Option α} {y : Option β} (h : x.isSome = y.isSome) :
    (x = none ∧ y = none) ∨ ∃ a b, x = some a ∧ y = some b := by
  cases x with
  | none =>
    cases y with
    | none => exact Or.inl ⟨rfl, rfl⟩
    | some b => cases h
  | some a =>
    cases y with
    | none => cases h
    | some b => exact Or.inr ⟨a, b, rfl, rfl⟩

theorem option_map_eq_cases {α β} {g : α → β} {x y : Option α} (h : x.map g = y.map g) :
    (x = none ∧ y = none) ∨ ∃ a b, x = some a ∧ y = some b ∧ g a = g b := by
  cases x with
  | none =>
    cases y with
    | none => exact Or.inl ⟨rfl, rfl⟩
    | some b => cases h
  | some a =>
    cases y with
    | none => cases h
    | some b => exact Or.inr ⟨a, b, rfl, rfl, Option.some.inj h⟩

theorem lt_length_iff_of_getElem?_map_eq {α β} {g : α → β} {la lb : List α} {k : Nat}
    (h : (la[k]?).map g = (lb[k]?).map g) : k < la.length ↔ k < lb.length := by
  have e : ∀ l : List α, k < l.length ↔ (l[k]?).map g ≠ none := fun l => by
    rw [Ne, Option.map_eq_none_iff, List.getElem?_eq_none_iff]; omega
  rw [e la, e lb, h]

theorem getD_lt {α} (l : List α) (k : Nat) (d : α) (hk : k < l.length) : l.getD k d = l[k] := by
  simp only [List.getD_eq_getElem?_getD, List.getElem?_eq_getElem hk, Option.getD_some]

theorem getD_of_forall {α} {p : α → Prop} {l : List α} (h : ∀ x ∈ l, p x) {d : α} (hd : p d) (k : Nat) :
    p (l.getD k d) := by
  rw [List.getD_eq_getElem?_getD]
  cases hk : l[k]? with
  | none => exact hd
  | some x => exact h x (List.mem_of_getElem? hk)

/-- `issuanceOf` in terms of `TxIn::has_issuance` -/
theorem issuanceOf_eq (i : TxIn) : issuanceOf i = if i.hasIssuance then some i.assetIssuance else none := by
  unfold issuanceOf TxIn.hasIssuance
  cases i.assetIssuance.isNull <;> rfl

theorem hasIssuance_eq (i : TxIn) : i.hasIssuance = (issuanceOf i).isSome := by
  rw [issuanceOf_eq]
  cases i.hasIssuance <;> rfl

/-- `inFlag` writes `has_issuance()` out as `!asset_issuance.is_null()` -/
theorem inFlag_def (i : TxIn) : inFlag i = (i.isPegin, i.hasIssuance) := rfl

theorem inFlag_eq (i : TxIn) : inFlag i = (i.isPegin, (issuanceOf i).isSome) := by
  rw [inFlag_def, hasIssuance_eq]

theorem issuanceOrZero_eq (i : TxIn) : issuanceOrZero i = encIssuanceOpt (issuanceOf i) := by
  rw [issuanceOf_eq]
  unfold issuanceOrZero
  cases i.hasIssuance <;> rfl

/-- the issuance bytes of the signed input (nothing, not `00`, when there is none) -/
def issPart : Option AssetIssuance → Bytes
  | some i => i.enc
  | none => []

theorem issuancePart_eq (i : TxIn) :
    (if i.hasIssuance then i.assetIssuance.enc else []) = issPart (issuanceOf i) := by
  rw [issuanceOf_eq]
  cases i.hasIssuance <;> rfl

theorem preIssuances_eq (tx : Tx) : preIssuances tx = (tx.input.map issuanceOf).flatMap encIssuanceOpt := by
  rw [List.flatMap_map]
  exact congrArg (tx.input.flatMap ·) (funext issuanceOrZero_eq)

theorem outpointFlag_eq (i : TxIn) : outpointFlag i = flagByte (inFlag i) := by
  rw [inFlag_def]
  unfold outpointFlag flagByte
  cases i.isPegin <;> cases i.hasIssuance <;> decide

theorem issuanceProofs_eq (i : TxIn) : issuanceProofs i = encProofs (proofsOf i) := rfl

theorem Ignores.ig_issuanceProofs_eq (i : TxIn) : issuanceProofs i = encProofs (proofsOf i) := issuanceProofs_eq i

/-- the input the legacy algorithm serialises: outpoint, pegin flag and issuance of `i`, a replaced
    script and sequence, no witness -/
def normIn (i : TxIn) (s : Bytes) (q : Nat) : TxIn :=
  { previousOutput := i.previousOutput, isPegin := i.isPegin, scriptSig := s, sequence := q,
    assetIssuance := (issuanceOf i).getD AssetIssuance.null, witness := TxInWitness.empty }

/-- `specLegacyInput` and `legacyIn` zero a sequence number under the condition on the left; `legacyView_input?`
    states it with the one on the right. -/
theorem legacy_zeroed_ite {α} (b : Base) (k idx : Nat) (x y : α) :
    (if k ≠ idx ∧ (b = .single ∨ b = .none) then x else y) = if k = idx ∨ b = .all then y else x := by
  have hb : (b = .single ∨ b = .none) ↔ ¬ b = .all := by cases b <;> decide
  simp only [← ite_not (p := k = idx ∨ b = .all), not_or, hb, ne_eq]

theorem legacyView_input? (tx : Tx) (idx : Nat) (sc : Bytes) (ty : EcdsaTy) (hacp : ty.acp = false) (k : Nat) :
    (specLegacyView tx idx sc ty.asU32).inputs[k]? =
      (tx.input[k]?).map fun i =>
        normIn i (if k = idx then sc else []) (if k = idx ∨ ty.base = .all then i.sequence else 0) := by
  simp only [specLegacyView, ecdsa_acp_iff, hacp, Bool.false_eq_true, if_false, List.getElem?_map]
  by_cases hk : k < tx.input.length
  · rw [List.getElem?_range hk, List.getElem?_eq_getElem hk, Option.map_some, Option.map_some]
    simp only [specLegacyInput, normIn, ecdsa_acp_iff, ecdsa_single_iff, ecdsa_none_iff, hacp, Bool.false_eq_true, if_false,
      getD_lt _ _ _ hk, ne_eq, ite_not]
    rw [legacy_zeroed_ite]
  · rw [List.getElem?_eq_none (by rw [List.length_range]; omega), List.getElem?_eq_none (by omega)]
    rfl

theorem legacyView_inputs_acp (tx : Tx) (idx : Nat) (sc : Bytes) (ty : EcdsaTy) (hacp : ty.acp = true)
    (hi : idx < tx.input.length) :
    (specLegacyView tx idx sc ty.asU32).inputs = [normIn tx.input[idx] sc tx.input[idx].sequence] := by
  simp only [specLegacyView, specLegacyInput, normIn, ecdsa_acp_iff, hacp, if_true, List.range_one, List.map_singleton,
    getD_lt _ _ _ hi, ne_eq, not_true_eq_false, false_and, if_false]

theorem legacyView_outputs (tx : Tx) (idx : Nat) (sc : Bytes) (ty : EcdsaTy)
    (hs : ty.base = .single → idx < tx.output.length) :
    (specLegacyView tx idx sc ty.asU32).outputs =
      match ty.base with
      | .all => tx.output.map outBody
      | .single => List.replicate idx txOutDefault ++ ((tx.output[idx]?).map outBody).toList
      | .none => [] := by
  have e : specLegacyOutput tx idx ty.asU32 =
      fun k => if ty.base = .single ∧ k ≠ idx then txOutDefault else outBody (tx.output.getD k default) :=
    funext fun k => by simp only [specLegacyOutput, ecdsa_single_iff]
  simp only [specLegacyView, e, ecdsa_single_iff, ecdsa_none_iff]
  cases hb : ty.base with
  | all =>
    simp only [reduceCtorEq, if_false, false_and]
    refine List.ext_getElem (by rw [List.length_map, List.length_map, List.length_range]) fun k h1 _ => ?_
    have hk : k < tx.output.length := by rwa [List.length_map, List.length_range] at h1
    rw [List.getElem_map, List.getElem_map, List.getElem_range, getD_lt _ _ _ hk]
  | none => simp only [if_true, List.range_zero, List.map_nil]
  | single =>
    have hi := hs hb
    simp only [reduceCtorEq, if_false, if_true, true_and, List.range_succ, List.map_append, List.map_singleton,
      ne_eq, not_true_eq_false, getD_lt _ _ _ hi, List.getElem?_eq_getElem hi, Option.map_some, Option.toList_some]
    congr 1
    refine List.eq_replicate_iff.mpr ⟨by rw [List.length_map, List.length_range], fun o ho => ?_⟩
    obtain ⟨k, hk, rfl⟩ := List.mem_map.mp ho
    exact if_pos (Nat.ne_of_lt (List.mem_range.mp hk))

def optHash (H : SigHashes) {α : Type} (f : α → Bytes) : Option (List α) → Bytes
  | some l => H.sha256d (l.flatMap f)
  | none => zero32

def outHash (H : SigHashes) : OutSel → Bytes
  | .all l => H.sha256d (l.flatMap TxOut.enc)
  | .single o => H.sha256d o.enc
  | .none => zero32

theorem serSegwit_eq (H : SigHashes) (v : SegwitView) :
    serSegwit H v =
      encLe 4 v.version ++ optHash H OutPoint.enc v.prevouts ++ optHash H (encLe 4) v.sequences ++
      optHash H encIssuanceOpt v.issuances ++ v.outpoint.enc ++ encBytesVec v.scriptCode ++ v.value.enc ++
      encLe 4 v.sequence ++ issPart v.issuance ++ outHash H v.outputs ++
      encLe 4 v.lockTime ++ encLe 4 v.hashType := by
  unfold serSegwit
  cases v.prevouts <;> cases v.sequences <;> cases v.issuances <;> rfl

/-! the two places where `serTaproot` writes data of the inputs (`tapX`, `tapZ`) and of the outputs (`tapY`, `tapS`) -/

def tapX (H : SigHashes) : TapInputs → Bytes
  | .all a => serTapInputsAll H a
  | .one _ => []

def tapZ (H : SigHashes) : TapInputs → Bytes
  | .all a => encLe 4 a.index
  | .one t => serTapThisInput H t

def tapY (H : SigHashes) : OutSel → Bytes
  | .all l => H.sha256 (l.flatMap TxOut.enc) ++ H.sha256 (l.flatMap (fun o => o.witness.enc))
  | _ => []

def tapS (H : SigHashes) : OutSel → Bytes
  | .single o => H.sha256 o.enc ++ H.sha256 o.witness.enc
  | _ => []

/-- the key version `tapLeafPart` writes, `Gen.sighashKeyVersion0`, evaluates to the `0` of the specification -/
theorem serTaproot_eq (H : SigHashes) (v : TaprootView) :
    serTaproot H v =
      v.genesis ++ v.genesis ++ [UInt8.ofNat v.hashType] ++ encLe 4 v.version ++ encLe 4 v.lockTime ++
      tapX H v.inputs ++ tapY H v.outputs ++
      [UInt8.ofNat ((if v.leaf.isSome then 1 else 0) * 2 + (if v.annex.isSome then 1 else 0))] ++
      tapZ H v.inputs ++ tapAnnexPart H v.annex ++ tapS H v.outputs ++ tapLeafPart v.leaf := rfl

theorem specTapPrevoutsOk_eq (tx : Tx) (pv : Prevouts) : specTapPrevoutsOk tx pv = pv.checkAll tx := by
  cases pv with
  | one j p => rfl
  | all ps => exact (ite_not ..).symm

theorem specTaprootView_eq (tx : Tx) (nIn : Nat) (pv : Prevouts) (annex : Option Bytes)
    (leaf : Option (Bytes × Nat)) (ty : SchnorrTy) (hty : ty ≠ .reserved) (genesis : Bytes) :
    specTaprootView tx nIn pv annex leaf ty.byte genesis =
    (pv.checkAll tx).bind fun _ =>
    (specTapInputs tx nIn pv ty.byte).bind fun ins =>
    (specTapOutputs tx nIn ty.byte).bind fun outs =>
    .ok { genesis := genesis, hashType := ty.byte, version := tx.version, lockTime := tx.lockTime,
          inputs := ins, outputs := outs, annex := annex, leaf := leaf } := by
  unfold specTaprootView
  rw [if_neg (not_not_intro (schnorr_valid ty hty)), specTapPrevoutsOk_eq]
  cases pv.checkAll tx <;> simp only [Res.bind]
  cases specTapInputs tx nIn pv ty.byte <;> simp only []
  cases specTapOutputs tx nIn ty.byte <;> simp only []

/-- the records of the inputs' data (`thisView`, `allView`) as functions of the committed parts only -/
def thisView (c : OutPoint × Bool × Nat × Option (AssetIssuance × Option Bytes × Option Bytes))
    (s : Asset × Value × Bytes) : TapThisInput :=
  { flag := (c.2.1, c.2.2.2.isSome), outpoint := c.1, asset := s.1, value := s.2.1, script := s.2.2,
    sequence := c.2.2.1, issuance := c.2.2.2 }

def allView (cs : List ((OutPoint × Bool × Option AssetIssuance) × Nat × (Option Bytes × Option Bytes)))
    (ss : List (Asset × Value × Bytes)) (n : Nat) : TapAllInputs :=
  { flags := cs.map fun c => (c.1.2.1, c.1.2.2.isSome), outpoints := cs.map fun c => c.1.1,
    spentAssetAmounts := ss.map fun s => (s.1, s.2.1), spentScripts := ss.map fun s => s.2.2,
    sequences := cs.map fun c => c.2.1, issuances := cs.map fun c => c.1.2.2,
    issuanceProofs := cs.map fun c => c.2.2, index := n }

theorem allView_index {cs ss n} : (allView cs ss n).index = n := rfl

theorem thisView_inj {c c' s s'} (h : thisView c s = thisView c' s') : c = c' ∧ s = s' := by
  simp only [thisView, TapThisInput.mk.injEq, Prod.mk.injEq] at h
  obtain ⟨⟨h1, -⟩, h2, h3, h4, h5, h6, h7⟩ := h
  exact ⟨Prod.ext h2 (Prod.ext h1 (Prod.ext h6 h7)), Prod.ext h3 (Prod.ext h4 h5)⟩

theorem allView_inj {cs cs' ss ss' n n'} (h : allView cs ss n = allView cs' ss' n') : cs = cs' ∧ ss = ss' := by
  simp only [allView, TapAllInputs.mk.injEq] at h
  obtain ⟨e1, e2, e3, e4, e5, e6, e7, -⟩ := h
  -- a list of tuples is assembled from the lists of its components; by eta, the tuple of all
  -- components of `c` is `c`
  have hc := map_pair_iff.mpr ⟨map_pair_iff.mpr ⟨e2, map_pair_iff.mpr ⟨(map_pair_iff.mp e1).1, e6⟩⟩, map_pair_iff.mpr ⟨e5, e7⟩⟩
  have hs := map_pair_iff.mpr ⟨(map_pair_iff.mp e3).1, map_pair_iff.mpr ⟨(map_pair_iff.mp e3).2, e4⟩⟩
  exact ⟨(List.map_id' cs).symm.trans (hc.trans (List.map_id' cs')),
    (List.map_id' ss).symm.trans (hs.trans (List.map_id' ss'))⟩

theorem thisView_of_core (x : TxIn) (p : TxOut) :
    thisView (thisCore x) (spentCore p) =
      { flag := inFlag x, outpoint := x.previousOutput, asset := p.asset, value := p.value,
        script := p.scriptPubkey, sequence := x.sequence, issuance := (issuanceOf x).map (fun i => (i, proofsOf x)) } := by
  simp only [thisView, thisCore, spentCore, inFlag_eq, Option.isSome_map]

theorem allView_of_core (tx : Tx) (ps : List TxOut) (n : Nat) :
    allView (tx.input.map allCore) (ps.map spentCore) n =
      { flags := tx.input.map inFlag, outpoints := tx.input.map (fun i => i.previousOutput),
        spentAssetAmounts := ps.map (fun p => (p.asset, p.value)), spentScripts := ps.map (fun p => p.scriptPubkey),
        sequences := tx.input.map (fun i => i.sequence), issuances := tx.input.map issuanceOf,
        issuanceProofs := tx.input.map proofsOf, index := n } := by
  simp only [allView, List.map_map, funext inFlag_eq]
  rfl

theorem specTapInputs_eq (tx : Tx) (idx : Nat) (pv : Prevouts) (ty : SchnorrTy) (hty : ty ≠ .reserved) :
    specTapInputs tx idx pv ty.byte =
      if ty.acp then
        match tx.input[idx]? with
        | none => .err eIndex
        | some txin => (pv.get idx).bind fun spent => .ok (.one (thisView (thisCore txin) (spentCore spent)))
      else pv.getAll.bind fun ps => .ok (.all (allView (tx.input.map allCore) (ps.map spentCore) (idx % 2^32))) := by
  unfold specTapInputs
  simp only [schnorr_acp_iff ty hty, thisView_of_core, allView_of_core]
  split
  · cases tx.input[idx]? with
    | none => rfl
    | some txin => simp only []; cases pv.get idx <;> rfl
  · cases pv <;> rfl

theorem specTapOutputs_eq (tx : Tx) (idx : Nat) (ty : SchnorrTy) (hty : ty ≠ .reserved) :
    specTapOutputs tx idx ty.byte =
      if ty.isSingle then
        match tx.output[idx]? with
        | none => .err eSingle
        | some o => .ok (.single o)
      else if ty.isNone then .ok .none else .ok (.all tx.output) := by
  simp only [specTapOutputs, schnorr_single_iff ty hty, schnorr_none_iff ty hty]
  cases tx.output[idx]? <;> rfl

/-- `Prevouts::get` -/
theorem get_post (pv : Prevouts) (i : Nat) :
    (pv.get i).Post (fun p => ∀ P : Prims, pv.wf P → p.wfBody P) (· ∈ [ePrevoutIndex]) := by
  cases pv with
  | one j q =>
    simp only [Prevouts.get]
    split
    · exact .ok fun _ h => h
    · exact .err (List.mem_singleton.mpr rfl)
  | all ps =>
    simp only [Prevouts.get]
    cases h : ps[i]? with
    | none => exact .err (List.mem_singleton.mpr rfl)
    | some q => exact .ok fun _ hpv => hpv q (List.mem_of_getElem? h)

/-! `VA` (view and agreement): what a stage of `specTaprootView` that succeeded returned, by hash type. -/
namespace VA

theorem taprootView_ok (ty : SchnorrTy) (hty : ty ≠ .reserved) (tx : Tx) (idx : Nat) (pv : Prevouts)
    (ann : Option Bytes) (l : Option (Bytes × Nat)) (g : Bytes) (v : TaprootView)
    (h : specTaprootView tx idx pv ann l ty.byte g = .ok v) :
    ∃ ins outs, pv.checkAll tx = .ok () ∧ specTapInputs tx idx pv ty.byte = .ok ins ∧
      specTapOutputs tx idx ty.byte = .ok outs ∧
      v = { genesis := g, hashType := ty.byte, version := tx.version, lockTime := tx.lockTime,
            inputs := ins, outputs := outs, annex := ann, leaf := l } := by
  rw [specTaprootView_eq _ _ _ _ _ ty hty] at h
  obtain ⟨_, hp, h⟩ := Res.bind_eq_ok.mp h
  obtain ⟨ins, hi, h⟩ := Res.bind_eq_ok.mp h
  obtain ⟨outs, ho, h⟩ := Res.bind_eq_ok.mp h
  exact ⟨ins, outs, hp, hi, ho, (Res.ok.inj h).symm⟩

theorem tapInputs_acp (ty : SchnorrTy) (hty : ty ≠ .reserved) (hacp : ty.acp = true) (tx : Tx) (idx : Nat)
    (pv : Prevouts) (ins : TapInputs) (h : specTapInputs tx idx pv ty.byte = .ok ins) :
    ∃ txin spent, tx.input[idx]? = some txin ∧ pv.get idx = .ok spent ∧
      ins = .one (thisView (thisCore txin) (spentCore spent)) := by
  rw [specTapInputs_eq tx idx pv ty hty, hacp, if_pos rfl] at h
  cases hi : tx.input[idx]? with
  | none => rw [hi] at h; cases h
  | some txin =>
    rw [hi] at h
    obtain ⟨spent, hg, e⟩ := Res.bind_eq_ok.mp h
    exact ⟨txin, spent, rfl, hg, (Res.ok.inj e).symm⟩

theorem tapInputs_nacp (ty : SchnorrTy) (hty : ty ≠ .reserved) (hacp : ty.acp = false) (tx : Tx) (idx : Nat)
    (pv : Prevouts) (ins : TapInputs) (h : specTapInputs tx idx pv ty.byte = .ok ins) :
    ∃ ps, pv = .all ps ∧
      ins = .all (allView (tx.input.map allCore) (ps.map spentCore) (idx % 2^32)) := by
  rw [specTapInputs_eq tx idx pv ty hty, hacp, if_neg Bool.false_ne_true] at h
  obtain ⟨ps, hg, e⟩ := Res.bind_eq_ok.mp h
  cases pv with
  | one j p => cases hg
  | all ps' => exact ⟨ps, congrArg Prevouts.all (Res.ok.inj hg), (Res.ok.inj e).symm⟩

theorem tapOutputs_single (ty : SchnorrTy) (hty : ty ≠ .reserved) (hs : ty.isSingle = true) (tx : Tx) (idx : Nat)
    (outs : OutSel) (h : specTapOutputs tx idx ty.byte = .ok outs) :
    ∃ o, tx.output[idx]? = some o ∧ outs = .single o := by
  rw [specTapOutputs_eq tx idx ty hty, hs, if_pos rfl] at h
  cases ho : tx.output[idx]? with
  | none => rw [ho] at h; cases h
  | some o => rw [ho] at h; exact ⟨o, rfl, (Res.ok.inj h).symm⟩

theorem tapOutputs_none (ty : SchnorrTy) (hty : ty ≠ .reserved) (hs : ty.isSingle = false) (hn : ty.isNone = true)
    (tx : Tx) (idx : Nat) (outs : OutSel) (h : specTapOutputs tx idx ty.byte = .ok outs) : outs = .none := by
  rw [specTapOutputs_eq tx idx ty hty, hs, hn, if_neg Bool.false_ne_true, if_pos rfl] at h
  exact (Res.ok.inj h).symm

theorem tapOutputs_all (ty : SchnorrTy) (hty : ty ≠ .reserved) (hs : ty.isSingle = false) (hn : ty.isNone = false)
    (tx : Tx) (idx : Nat) (outs : OutSel) (h : specTapOutputs tx idx ty.byte = .ok outs) : outs = .all tx.output := by
  rw [specTapOutputs_eq tx idx ty hty, hs, hn, if_neg Bool.false_ne_true, if_neg Bool.false_ne_true] at h
  exact (Res.ok.inj h).symm

end VA

/-! ### prefix-free encoders: `enc_prefix_free` gives `PF e wf` for every `Lawful d e wf` -/

def PF {α : Type} (e : α → Bytes) (wf : α → Prop) : Prop :=
  ∀ a b r₁ r₂, wf a → wf b → e a ++ r₁ = e b ++ r₂ → a = b ∧ r₁ = r₂

theorem PF.injective {α : Type} {e : α → Bytes} {wf : α → Prop} (h : PF e wf) (a b : α) (ha : wf a) (hb : wf b)
    (heq : e a = e b) : a = b :=
  (h a b [] [] ha hb (by rw [heq])).1

/-- prefix-freeness splits off the first item, and as no item is empty the two lists end together -/
theorem flatMap_injective {α : Type} {d : Dec α} {e : α → Bytes} {wf : α → Prop} (h : Lawful d e wf) {s : String}
    (hd : d [] = .err s) (l : List α) :
    ∀ l' : List α, (∀ a ∈ l, wf a) → (∀ b ∈ l', wf b) → l.flatMap e = l'.flatMap e → l = l' := by
  induction l with
  | nil =>
    intro l' _ hb heq
    cases l' with
    | nil => rfl
    | cons b l' => exact absurd (List.append_eq_nil_iff.mp heq.symm).1 (h.enc_ne_nil hd b (hb b List.mem_cons_self))
  | cons a l ih =>
    intro l' ha hb heq
    cases l' with
    | nil => exact absurd (List.append_eq_nil_iff.mp heq).1 (h.enc_ne_nil hd a (ha a List.mem_cons_self))
    | cons b l' =>
      obtain ⟨h1, h2⟩ := enc_prefix_free h a b _ _ (ha a List.mem_cons_self) (hb b List.mem_cons_self) heq
      rw [h1, ih l' (fun x hx => ha x (List.mem_cons_of_mem _ hx)) (fun x hx => hb x (List.mem_cons_of_mem _ hx)) h2]

theorem pf_le4 : PF (encLe 4) (fun n => n < 2^32) := enc_prefix_free (le_lawful 4)

theorem pf_bytesVec : PF encBytesVec (fun b => b.length ≤ maxVecSize) := enc_prefix_free bytesVec_lawful

theorem pf_outpoint : PF OutPoint.enc OutPoint.wf := enc_prefix_free outpoint_lawful

theorem zero32_length : zero32.length = 32 := List.length_replicate

variable (P : Prims)

theorem pf_issuance : PF AssetIssuance.enc (AssetIssuance.wf P) := enc_prefix_free (issuance_lawful P)

/-- Optional issuances written one after the other, `00` standing for "none", can be told apart once the pattern of
    present and absent ones is known: `00` is a prefix of an issuance whose nonce begins with a zero byte, so
    `encIssuanceOpt` is prefix-free only among options of the same shape. -/
theorem issuances_injective (l : List (Option AssetIssuance)) :
    ∀ l' : List (Option AssetIssuance), l.map Option.isSome = l'.map Option.isSome →
      (∀ i, some i ∈ l → i.wf P) → (∀ i, some i ∈ l' → i.wf P) →
      l.flatMap encIssuanceOpt = l'.flatMap encIssuanceOpt → l = l' := by
  induction l with
  | nil => exact fun l' hs _ _ _ => (List.map_eq_nil_iff.mp hs.symm).symm
  | cons a l ih =>
    intro l' hs hl hl' heq
    cases l' with
    | nil => cases hs
    | cons b l' =>
      have ih := ih l' (List.cons.inj hs).2 (fun i hi => hl i (List.mem_cons_of_mem _ hi))
        (fun i hi => hl' i (List.mem_cons_of_mem _ hi))
      rcases option_isSome_eq_cases (List.cons.inj hs).1 with ⟨rfl, rfl⟩ | ⟨x, y, rfl, rfl⟩
      · rw [ih (List.cons.inj heq).2]
      · obtain ⟨h1, h2⟩ := pf_issuance P x y _ _ (hl x List.mem_cons_self) (hl' y List.mem_cons_self) heq
        rw [h1, ih h2]

theorem pf_txOutBody : PF TxOut.enc (fun o => o.wfBody P ∧ o.witness = TxOutWitness.empty) :=
  enc_prefix_free (txOut_lawful P)

theorem outpoint_wf_of_wfBody (i : TxIn) (h : i.wfBody P) : i.previousOutput.wf := by
  refine ⟨h.1, ?_⟩
  rcases h.2.1 with ⟨h1, _⟩ | ⟨h1, _⟩
  · have : (2:Nat)^30 < 2^32 := by decide
    omega
  · rw [h1]; decide

theorem wfBody_sequence {i : TxIn} (h : i.wfBody P) : i.sequence < 2^32 := h.2.2.2.1

theorem issuanceOf_wf (i : TxIn) (hi : i.wfBody P) (x : AssetIssuance) (hx : issuanceOf i = some x) : x.wf P := by
  obtain ⟨-, -, -, -, hiss⟩ := hi
  rw [issuanceOf_eq] at hx
  cases h : i.hasIssuance with
  | false => rw [h] at hx; cases hx
  | true =>
    rw [h] at hx hiss
    cases hx
    exact hiss

end EV.Sighash
