/-
  The chain hashes of the two built-in networks, computed by the Lean kernel: the model of `genesis_block` on the
  parameter sets extracted from src/genesis.rs, compared with `ChainHash::LIQUIDV1` / `ChainHash::LIQUIDTESTNET`.
  The block is first brought into its closed form (`chainHash_eq`), so that the commitment to the parameters is a
  term whose value is known (EV.Proofs.KernelHashes) and the kernel evaluates only what comes after it.
-/
import EV.Proofs.KernelHashes
import EV.Proofs.Genesis
namespace EV.Proofs.GenesisKernel
open EV EV.Genesis EV.Proofs.Genesis

theorem chainHash_liquidv1 :
    chainHash kernelHashes NetworkParams.liquidv1 = some chainHashLiquidv1 := by
  have hc : (commit kernelHashes.sha256 NetworkParams.liquidv1).length = 32 := by
    rw [commit_liquidv1]
    rfl
  rw [chainHash_eq _ _ hc, commit_liquidv1, kernelHashes_eq]
  decide +kernel

theorem chainHash_liquidtestnet :
    chainHash kernelHashes NetworkParams.liquidtestnet = some chainHashLiquidtestnet := by
  have hc : (commit kernelHashes.sha256 NetworkParams.liquidtestnet).length = 32 := by
    rw [commit_liquidtestnet]
    rfl
  rw [chainHash_eq _ _ hc, commit_liquidtestnet, kernelHashes_eq]
  decide +kernel

end EV.Proofs.GenesisKernel
