/-
  The key-pair clause of C15 over an abstract Schnorr group: tweaking the key pair (BIP341 /
  `secp256k1_keypair_xonly_tweak_add`: negate the secret key when the public point has odd y, then add the tweak)
  yields the secret key of exactly the point that the x-only tweak (`secp256k1_xonly_pubkey_tweak_add`: even-y lift of
  the x-only key plus t·G) produces.  Only the group laws used are assumed, as fields of `KeyAlgebra`.
  A small algebraic model of its own: in `EV.Model.Taproot` keys are byte strings and the curve is the opaque parameter
  `EC`, in which a secret key and the group law cannot be spoken of.
-/
namespace EV.Proofs.TaprootKeypair

/-- scalars `S`, points `G`, x-only keys `X` with the laws used by the proof -/
structure KeyAlgebra (S G X : Type) where
  sadd : S → S → S
  sneg : S → S
  padd : G → G → G
  pneg : G → G
  /-- secret key ↦ public point (sk·G) -/
  pub : S → G
  xonly : G → X
  /-- parity of the y coordinate -/
  odd : G → Bool
  /-- the even-y point with the given x coordinate -/
  lift : X → G
  pub_add : ∀ a b, pub (sadd a b) = padd (pub a) (pub b)
  pub_neg : ∀ a, pub (sneg a) = pneg (pub a)
  lift_xonly : ∀ P, lift (xonly P) = if odd P then pneg P else P

namespace KeyAlgebra
variable {S G X : Type} (A : KeyAlgebra S G X)

/-- `XOnlyPublicKey::add_tweak`: tweaked x-only key and parity -/
def xonlyTweakAdd (x : X) (t : S) : X × Bool :=
  let q := A.padd (A.lift x) (A.pub t)
  (A.xonly q, A.odd q)

/-- `Keypair::add_xonly_tweak`: the tweaked secret key -/
def keypairTweak (sk : S) (t : S) : S :=
  A.sadd (if A.odd (A.pub sk) then A.sneg sk else sk) t

theorem keypairTweak_pub (sk t : S) :
    A.pub (A.keypairTweak sk t) = A.padd (A.lift (A.xonly (A.pub sk))) (A.pub t) := by
  unfold keypairTweak
  rw [A.pub_add, A.lift_xonly]
  cases h : A.odd (A.pub sk)
  · simp
  · simp [A.pub_neg]
end KeyAlgebra

/-- non-vacuity: the integers with `pub = id`, x-only = absolute value, "odd" = negative -/
def intAlgebra : KeyAlgebra Int Int Nat where
  sadd := (· + ·)
  sneg := (- ·)
  padd := (· + ·)
  pneg := (- ·)
  pub := id
  xonly := Int.natAbs
  odd := fun p => decide (p < 0)
  lift := fun x => (x : Int)
  pub_add := fun _ _ => rfl
  pub_neg := fun _ => rfl
  lift_xonly := by
    intro P
    by_cases h : P < 0
    · simp [h]; omega
    · simp [h]; omega

end EV.Proofs.TaprootKeypair
