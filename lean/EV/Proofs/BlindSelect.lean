/-
  The output-selection logic of `Transaction::blind` (model: `EV.Blind.blind`): which outputs are blinded,
  which one is "the last", what ends up in the returned map.  No algebra (scalars are any type with the
  operations the model uses).  `blind_spec` is the whole of it; it is stated with `Forall2 (Rel …)`, and
  `Rel` is built by `Rel.unmarked`/`Rel.marked` and taken apart by `Rel.elim` only.
-/
import EV.Model.Blind
import EV.Proofs.Res

namespace EV.Blind
open EV

variable {A R P K RP SP : Type} [Zero R]

/-- `r` holds position by position, the lists having equal length -/
def Forall2 {α β : Type} (r : α → β → Prop) : List α → List β → Prop
  | [], [] => True
  | a :: as, b :: bs => r a b ∧ Forall2 r as bs
  | _, _ => False

@[elab_as_elim]
theorem Forall2.induction {α β : Type} {r : α → β → Prop}
    {motive : ∀ (l₁ : List α) (l₂ : List β), Forall2 r l₁ l₂ → Prop}
    (nil : motive [] [] trivial)
    (cons : ∀ {a b as bs} (hab : r a b) (h : Forall2 r as bs), motive as bs h →
      motive (a :: as) (b :: bs) ⟨hab, h⟩) :
    ∀ {l₁ l₂} (h : Forall2 r l₁ l₂), motive l₁ l₂ h
  | [], [], _ => nil
  | _ :: _, _ :: _, h => cons h.1 h.2 (Forall2.induction nil cons h.2)
  | [], _ :: _, h => h.elim
  | _ :: _, [], h => h.elim

theorem Forall2.length_eq {α β : Type} {r : α → β → Prop} :
    ∀ {l₁ : List α} {l₂ : List β}, Forall2 r l₁ l₂ → l₁.length = l₂.length := by
  intro l₁ l₂ h
  induction h using Forall2.induction with
  | nil => rfl
  | cons _ _ ih => exact congrArg (· + 1) ih

theorem Forall2.imp {α β : Type} {r s : α → β → Prop} (hrs : ∀ a b, r a b → s a b) :
    ∀ {l₁ : List α} {l₂ : List β}, Forall2 r l₁ l₂ → Forall2 s l₁ l₂ := by
  intro l₁ l₂ h
  induction h using Forall2.induction with
  | nil => trivial
  | cons hab _ ih => exact ⟨hrs _ _ hab, ih⟩

theorem Forall2.exists_of_mem_right {α β : Type} {r : α → β → Prop} {l₁ : List α} {l₂ : List β}
    (h : Forall2 r l₁ l₂) {b : β} (hb : b ∈ l₂) : ∃ a ∈ l₁, r a b := by
  induction h using Forall2.induction with
  | nil => cases hb
  | cons hab _ ih =>
    rcases List.mem_cons.1 hb with rfl | hb
    · exact ⟨_, List.mem_cons_self, hab⟩
    · obtain ⟨a, ha, hr⟩ := ih hb
      exact ⟨a, List.mem_cons_of_mem _ ha, hr⟩

/-- `num_to_blind`: the outputs that are no fee and carry a confidential nonce -/
def countMarked (outs : List (TxOut A P RP SP)) : Nat := (outs.filter TxOut.marked).length

@[simp] theorem countMarked_nil : countMarked ([] : List (TxOut A P RP SP)) = 0 := rfl

theorem countMarked_cons (o : TxOut A P RP SP) (outs : List (TxOut A P RP SP)) :
    countMarked (o :: outs) = (if o.marked = true then 1 else 0) + countMarked outs := by
  unfold countMarked
  by_cases h : o.marked = true <;> simp [h] <;> omega

theorem marked_eq (o : TxOut A P RP SP) : (o.isFee || !o.nonce.isConf) = !o.marked := by
  unfold TxOut.marked
  cases o.isFee <;> cases o.nonce.isConf <;> rfl

/-- how an output `o` of the unblinded transaction and the entry `e` at its position in the result relate:
    an unmarked output is untouched and not in the map; a marked one is the result of `with_txout_secrets`
    on an opening with the original asset and value, under the ephemeral key reported in the map -/
def Rel (B : BPrims A R P K RP SP) (spent : List (Secrets A R)) (o : TxOut A P RP SP)
    (e : Entry A R P RP SP) : Prop :=
  (o.marked = false ∧ e.out = o ∧ e.esk = none ∧
    ∃ a v, o.asset = .explicit a ∧ o.value = .explicit v ∧ e.sec = ⟨a, v, 0, 0⟩) ∨
  (o.marked = true ∧ ∃ a v pk esk, o.asset = .explicit a ∧ o.value = .explicit v ∧ o.nonce = .conf pk ∧
    e.esk = some esk ∧ e.sec.asset = a ∧ e.sec.value = v ∧
    withTxoutSecrets B o.script pk esk e.sec spent = .ok e.out)

section rel
variable {B : BPrims A R P K RP SP} {spent : List (Secrets A R)} {o : TxOut A P RP SP}

theorem Rel.unmarked {a : A} {v : Nat} (hm : o.marked = false) (ha : o.asset = .explicit a)
    (hv : o.value = .explicit v) :
    Rel B spent o ⟨o, ⟨a, v, 0, 0⟩, none⟩ :=
  Or.inl ⟨hm, rfl, rfl, a, v, ha, hv, rfl⟩

theorem Rel.marked {o' : TxOut A P RP SP} {a : A} {v : Nat} {pk : P} {esk abf vbf : R}
    (hm : o.marked = true) (ha : o.asset = .explicit a)
    (hv : o.value = .explicit v) (hn : o.nonce = .conf pk)
    (hw : withTxoutSecrets B o.script pk esk ⟨a, v, abf, vbf⟩ spent = .ok o') :
    Rel B spent o ⟨o', ⟨a, v, abf, vbf⟩, some esk⟩ :=
  Or.inr ⟨hm, a, v, pk, esk, ha, hv, hn, rfl, rfl, rfl, hw⟩

@[elab_as_elim]
theorem Rel.elim {motive : ∀ e : Entry A R P RP SP, Rel B spent o e → Prop}
    (unmarked : ∀ {a v} (hm : o.marked = false) (ha : o.asset = .explicit a) (hv : o.value = .explicit v),
      motive _ (Rel.unmarked hm ha hv))
    (marked : ∀ {o' a v pk esk abf vbf} (hm : o.marked = true) (ha : o.asset = .explicit a)
      (hv : o.value = .explicit v) (hn : o.nonce = .conf pk)
      (hw : withTxoutSecrets B o.script pk esk ⟨a, v, abf, vbf⟩ spent = .ok o'),
      motive _ (Rel.marked hm ha hv hn hw)) :
    ∀ {e : Entry A R P RP SP} (h : Rel B spent o e), motive e h
  | ⟨_, _, _⟩, .inl ⟨hm, rfl, rfl, _, _, ha, hv, rfl⟩ => unmarked hm ha hv
  | ⟨_, ⟨_, _, _, _⟩, _⟩, .inr ⟨hm, _, _, _, _, ha, hv, hn, rfl, rfl, rfl, hw⟩ => marked hm ha hv hn hw

theorem Rel.explicit {e : Entry A R P RP SP} (h : Rel B spent o e) :
    ∃ a v, o.asset = .explicit a ∧ o.value = .explicit v ∧ e.sec.asset = a ∧ e.sec.value = v := by
  induction h using Rel.elim with
  | unmarked _ ha hv => exact ⟨_, _, ha, hv, rfl, rfl⟩
  | marked _ ha hv => exact ⟨_, _, ha, hv, rfl, rfl⟩

end rel

omit [Zero R] in
theorem withTxoutSecrets_ok_iff {B : BPrims A R P K RP SP} {spk : Bytes} {pk : P} {esk : R}
    {sec : Secrets A R} {spent : List (Secrets A R)} {o : TxOut A P RP SP} :
    withTxoutSecrets B spk pk esk sec spent = .ok o ↔
      ¬ (sec.value < Gen.c04RangeproofMinValue) ∧
      ∃ rp sp,
        B.surjProve sec.asset sec.abf (surjInputs B spent) = some sp ∧
        B.rangeProve (B.commit sec.value sec.vbf (B.genBlinded sec.asset sec.abf)) sec.value sec.vbf
          (sec.asset, sec.abf) spk (B.ecdh pk esk) (B.genBlinded sec.asset sec.abf) = some rp ∧
        o = { asset := .conf (B.genBlinded sec.asset sec.abf),
              value := .conf (B.commit sec.value sec.vbf (B.genBlinded sec.asset sec.abf)),
              nonce := .conf (B.pubOf esk), script := spk, rangeproof := some rp, surjproof := some sp } := by
  unfold withTxoutSecrets
  cases B.surjProve sec.asset sec.abf (surjInputs B spent) with
  | none => simp
  | some sp =>
    by_cases hz : sec.value < Gen.c04RangeproofMinValue
    · simp [hz]
    · cases hr : B.rangeProve (B.commit sec.value sec.vbf (B.genBlinded sec.asset sec.abf)) sec.value sec.vbf
          (sec.asset, sec.abf) spk (B.ecdh pk esk) (B.genBlinded sec.asset sec.abf) <;> simp [hz, hr, eq_comm]

omit [Zero R] in
theorem withTxoutSecrets_succeeds {B : BPrims A R P K RP SP} (spk : Bytes) (pk : P) (esk : R)
    (sec : Secrets A R) (spent : List (Secrets A R))
    (hz : ¬ (sec.value < Gen.c04RangeproofMinValue))
    (hs : (B.surjProve sec.asset sec.abf (surjInputs B spent)).isSome)
    (hr : ∀ c k g, (B.rangeProve c sec.value sec.vbf (sec.asset, sec.abf) spk k g).isSome) :
    ∃ o, withTxoutSecrets B spk pk esk sec spent = .ok o := by
  obtain ⟨sp, hsp⟩ := Option.isSome_iff_exists.1 hs
  obtain ⟨rp, hrp⟩ := Option.isSome_iff_exists.1 (hr (B.commit sec.value sec.vbf (B.genBlinded sec.asset sec.abf))
    (B.ecdh pk esk) (B.genBlinded sec.asset sec.abf))
  exact ⟨_, withTxoutSecrets_ok_iff.2 ⟨hz, rp, sp, hsp, hrp, rfl⟩⟩

theorem allExplicit_iff {o : TxOut A P RP SP} :
    o.allExplicit = true ↔ ∃ a v, o.asset = .explicit a ∧ o.value = .explicit v := by
  unfold TxOut.allExplicit
  cases o.asset <;> cases o.value <;> simp [CAsset.isExplicit, CValue.isExplicit]

theorem nonce_of_marked {o : TxOut A P RP SP} (h : o.marked = true) : ∃ pk, o.nonce = .conf pk := by
  unfold TxOut.marked at h
  cases hn : o.nonce <;> simp [hn, CNonce.isConf] at h ⊢

theorem countMarked_cons_of_unmarked {o : TxOut A P RP SP} (h : o.marked = false)
    (outs : List (TxOut A P RP SP)) : countMarked (o :: outs) = countMarked outs := by
  simp [countMarked_cons, h]

theorem countMarked_cons_of_marked {o : TxOut A P RP SP} (h : o.marked = true)
    (outs : List (TxOut A P RP SP)) : countMarked (o :: outs) = countMarked outs + 1 := by
  simp [countMarked_cons, h, Nat.add_comm]

section loop
variable {B : BPrims A R P K RP SP} {spent : List (Secrets A R)} {rands : Nat → Rand R} {n : Nat}

-- `n` is `num_to_blind`, `nb` is `num_blinded`.  The model spells `Res.bind` out as a three-armed `match`.
-- The closing `rfl` here, in `blindLoop_cons_marked` and in `blind_eq` identifies the two, for which
-- `Res.bind` has to unfold on a scrutinee that is not a constructor: smart unfolding refuses that.
set_option smartUnfolding false in
theorem blindLoop_cons_unmarked {nb : Nat} {o : TxOut A P RP SP} {rest : List (TxOut A P RP SP)} {a : A} {v : Nat}
    (hm : o.marked = false) (ha : o.asset = .explicit a) (hv : o.value = .explicit v) :
    blindLoop B spent rands n nb (o :: rest) =
      (blindLoop B spent rands n nb rest).bind fun r => .ok (.plain o ⟨a, v, 0, 0⟩ :: r) := by
  rw [blindLoop, marked_eq, hm]
  simp only [Bool.not_false, if_true, ha, hv]
  rfl

set_option smartUnfolding false in
theorem blindLoop_cons_marked {nb : Nat} {o : TxOut A P RP SP} {rest : List (TxOut A P RP SP)} {a : A} {v : Nat}
    {pk : P} (hm : o.marked = true) (ha : o.asset = .explicit a) (hv : o.value = .explicit v)
    (hn : o.nonce = .conf pk) :
    blindLoop B spent rands n nb (o :: rest) =
      if !addressable o.script then .err eInvalidAddress
      else if nb + 1 < n then
        (withTxoutSecrets B o.script pk (rands nb).esk ⟨a, v, (rands nb).abf, (rands nb).vbf⟩ spent).bind fun o' =>
          (blindLoop B spent rands n (nb + 1) rest).bind fun r =>
            .ok (.blinded o' ⟨a, v, (rands nb).abf, (rands nb).vbf⟩ (rands nb).esk :: r)
      else (blindLoop B spent rands n (nb + 1) rest).bind fun r => .ok (.last o nb :: r) := by
  rw [blindLoop, marked_eq, hm]
  simp only [Bool.not_true, Bool.false_eq_true, if_false, ha, hv, hn]
  rfl

theorem blindLoop_unmarked {outs : List (TxOut A P RP SP)} (hexp : ∀ o ∈ outs, o.allExplicit = true)
    {nb : Nat} {slots : List (Slot A R P RP SP)} (h : blindLoop B spent rands n nb outs = .ok slots)
    (hz : countMarked outs = 0) (i : Nat) :
    lastIndex i slots = none ∧
    ∀ li lo ls lesk,
      (assemble li lo ls lesk i slots).map Entry.sec = slotSecrets slots ∧
      Forall2 (Rel B spent) outs (assemble li lo ls lesk i slots) := by
  induction outs generalizing nb i slots with
  | nil =>
    obtain rfl : [] = slots := Res.ok.inj h
    exact ⟨rfl, fun _ _ _ _ => ⟨rfl, trivial⟩⟩
  | cons o rest ih =>
    obtain ⟨ho, hexp⟩ := List.forall_mem_cons.1 hexp
    obtain ⟨a, v, ha, hv⟩ := allExplicit_iff.1 ho
    cases hm : o.marked with
    | true =>
      rw [countMarked_cons_of_marked hm] at hz
      cases hz
    | false =>
      rw [countMarked_cons_of_unmarked hm] at hz
      rw [blindLoop_cons_unmarked hm ha hv] at h
      obtain ⟨r, hr, h⟩ := Res.bind_eq_ok.1 h
      obtain rfl := Res.ok.inj h
      obtain ⟨hnone, hall⟩ := ih hexp hr hz (i + 1)
      refine ⟨hnone, fun li lo ls lesk => ?_⟩
      obtain ⟨h2, h3⟩ := hall li lo ls lesk
      -- `assemble`, `slotSecrets` and `lastIndex` unfold on a `plain` or `blinded` slot by computation
      exact ⟨congrArg (_ :: ·) h2, Rel.unmarked hm ha hv, h3⟩

/-- under the invariant `num_blinded + (marked outputs still to come) = num_to_blind` the loop takes the
    `last` branch exactly once, at the final marked output, with `num_blinded = num_to_blind - 1`;
    `slotSecrets` is `out_secrets`, into which the last opening is inserted -/
theorem blindLoop_marked {outs : List (TxOut A P RP SP)} (hexp : ∀ o ∈ outs, o.allExplicit = true)
    {nb : Nat} {slots : List (Slot A R P RP SP)} (h : blindLoop B spent rands n nb outs = .ok slots)
    (hcount : nb + countMarked outs = n) (hpos : 0 < countMarked outs) (i : Nat) :
    ∃ li o, lastIndex i slots = some (li, o, n - 1) ∧ o ∈ outs ∧ o.marked = true ∧
      ∀ lo ls lesk, ∃ pre post,
        slotSecrets slots = pre ++ post ∧
        (assemble li lo ls lesk i slots).map Entry.sec = pre ++ ls :: post ∧
        (Rel B spent o ⟨lo, ls, some lesk⟩ →
          Forall2 (Rel B spent) outs (assemble li lo ls lesk i slots)) := by
  induction outs generalizing nb i slots with
  | nil => cases hpos
  | cons o rest ih =>
    obtain ⟨ho, hexp⟩ := List.forall_mem_cons.1 hexp
    obtain ⟨a, v, ha, hv⟩ := allExplicit_iff.1 ho
    cases hm : o.marked with
    | false =>
      rw [countMarked_cons_of_unmarked hm] at hcount hpos
      rw [blindLoop_cons_unmarked hm ha hv] at h
      obtain ⟨r, hr, h⟩ := Res.bind_eq_ok.1 h
      obtain rfl := Res.ok.inj h
      obtain ⟨li, lo', hli, hmem, hmk, hall⟩ := ih hexp hr hcount hpos (i + 1)
      refine ⟨li, lo', hli, List.mem_cons_of_mem _ hmem, hmk, fun lo ls lesk => ?_⟩
      obtain ⟨pre, post, h1, h2, h3⟩ := hall lo ls lesk
      exact ⟨⟨a, v, 0, 0⟩ :: pre, post, congrArg (_ :: ·) h1, congrArg (_ :: ·) h2,
        fun hrel => ⟨Rel.unmarked hm ha hv, h3 hrel⟩⟩
    | true =>
      obtain ⟨pk, hn⟩ := nonce_of_marked hm
      rw [countMarked_cons_of_marked hm] at hcount
      rw [blindLoop_cons_marked hm ha hv hn, Res.guard_eq_ok] at h
      by_cases hlt : nb + 1 < n
      · rw [if_pos hlt] at h
        obtain ⟨o', hw, h⟩ := Res.bind_eq_ok.1 h.2
        obtain ⟨r, hr, h⟩ := Res.bind_eq_ok.1 h
        obtain rfl := Res.ok.inj h
        have hcount' : nb + 1 + countMarked rest = n := (Nat.add_right_comm nb 1 _).trans hcount
        have hpos' : 0 < countMarked rest := Nat.lt_add_right_iff_pos.1 (hcount' ▸ hlt)
        obtain ⟨li, lo', hli, hmem, hmk, hall⟩ := ih hexp hr hcount' hpos' (i + 1)
        refine ⟨li, lo', hli, List.mem_cons_of_mem _ hmem, hmk, fun lo ls lesk => ?_⟩
        obtain ⟨pre, post, h1, h2, h3⟩ := hall lo ls lesk
        exact ⟨⟨a, v, (rands nb).abf, (rands nb).vbf⟩ :: pre, post, congrArg (_ :: ·) h1, congrArg (_ :: ·) h2,
          fun hrel => ⟨Rel.marked hm ha hv hn hw, h3 hrel⟩⟩
      · -- the `last` branch: no marked output follows
        rw [if_neg hlt] at h
        obtain ⟨r, hr, h⟩ := Res.bind_eq_ok.1 h.2
        obtain rfl := Res.ok.inj h
        have hz : countMarked rest = 0 := by omega
        obtain rfl : nb + 1 = n := by rw [← hcount, hz]
        obtain ⟨hnone, hall⟩ := blindLoop_unmarked hexp hr hz (i + 1)
        refine ⟨i, o, by rw [lastIndex, hnone, Nat.add_sub_cancel], List.mem_cons_self, hm, fun lo ls lesk => ?_⟩
        obtain ⟨h2, h3⟩ := hall i lo ls lesk
        rw [assemble, if_pos rfl]
        exact ⟨[], slotSecrets r, rfl, congrArg (ls :: ·) h2, fun hrel => ⟨hrel, h3⟩⟩

theorem blindLoop_succeeds {outs : List (TxOut A P RP SP)} (hexp : ∀ o ∈ outs, o.allExplicit = true)
    (hadr : ∀ o ∈ outs, o.marked = true → addressable o.script = true)
    (hw : ∀ o ∈ outs, o.marked = true → ∀ a v pk k, o.asset = .explicit a → o.value = .explicit v →
      o.nonce = .conf pk → ∃ o', withTxoutSecrets B o.script pk (rands k).esk
        ⟨a, v, (rands k).abf, (rands k).vbf⟩ spent = .ok o') (nb : Nat) :
    ∃ slots, blindLoop B spent rands n nb outs = .ok slots := by
  induction outs generalizing nb with
  | nil => exact ⟨[], rfl⟩
  | cons o rest ih =>
    obtain ⟨ho, hexp⟩ := List.forall_mem_cons.1 hexp
    obtain ⟨hao, hadr⟩ := List.forall_mem_cons.1 hadr
    obtain ⟨hwo, hw⟩ := List.forall_mem_cons.1 hw
    obtain ⟨a, v, ha, hv⟩ := allExplicit_iff.1 ho
    cases hm : o.marked with
    | false =>
      obtain ⟨r, hr⟩ := ih hexp hadr hw nb
      rw [blindLoop_cons_unmarked hm ha hv, hr]
      exact ⟨_, rfl⟩
    | true =>
      obtain ⟨pk, hn⟩ := nonce_of_marked hm
      obtain ⟨r, hr⟩ := ih hexp hadr hw (nb + 1)
      obtain ⟨o', ho'⟩ := hwo hm a v pk nb ha hv hn
      rw [blindLoop_cons_marked hm ha hv hn, hao hm, hr, ho']
      by_cases hlt : nb + 1 < n
      · rw [if_pos hlt]
        exact ⟨_, rfl⟩
      · rw [if_neg hlt]
        exact ⟨_, rfl⟩

end loop

/-- the keys of the returned map are the indices of the marked outputs -/
theorem blindsOf_spec {B : BPrims A R P K RP SP} {spent : List (Secrets A R)}
    {outs : List (TxOut A P RP SP)} {entries : List (Entry A R P RP SP)}
    (h : Forall2 (Rel B spent) outs entries) (i : Nat) :
    (blindsOf i entries).map (fun x => x.1) =
      ((outs.zipIdx i).filter (fun x => x.1.marked)).map (fun x => x.2) := by
  induction h using Forall2.induction generalizing i with
  | nil => rfl
  | cons hoe _ ih =>
    induction hoe using Rel.elim with
    | unmarked hm => simp [blindsOf, List.zipIdx_cons, hm, ih]
    | marked hm => simp [blindsOf, List.zipIdx_cons, hm, ih]

variable [Add R] [Mul R] [Neg R] [NatCast R] (B : BPrims A R P K RP SP) (outputs : List (TxOut A P RP SP))
  (spent : List (Secrets A R)) (rands : Nat → Rand R)

set_option smartUnfolding false in
theorem blind_eq : blind B outputs spent rands =
    if !outputs.all TxOut.allExplicit then .err eMustHaveAllExplicit
    else (blindLoop B spent rands (countMarked outputs) 0 outputs).bind fun slots =>
      match lastIndex 0 slots with
      | none => .err eTooFewBlindingOutputs
      | some (li, o, nb) =>
        match o.asset, o.value, o.nonce with
        | .explicit a, .explicit v, .conf pk =>
          let sec : Secrets A R := ⟨a, v, (rands nb).abf, lastVbf v (rands nb).abf spent (slotSecrets slots)⟩
          (withTxoutSecrets B o.script pk (rands nb).esk sec spent).bind fun o' =>
            .ok (assemble li o' sec (rands nb).esk 0 slots)
        | _, _, _ => .panic "unwrap on a non-explicit output" := rfl

theorem blind_spec (entries : List (Entry A R P RP SP))
    (h : blind B outputs spent rands = .ok entries) :
    0 < countMarked outputs ∧
    Forall2 (Rel B spent) outputs entries ∧
    ∃ (a : A) (v : Nat) (abf : R) (pre post : List (Secrets A R)),
      entries.map Entry.sec = pre ++ ⟨a, v, abf, lastVbf v abf spent (pre ++ post)⟩ :: post := by
  rw [blind_eq, Res.guard_eq_ok, Res.bind_eq_ok] at h
  obtain ⟨hexp, slots, hl, h⟩ := h
  have hexp : ∀ o ∈ outputs, o.allExplicit = true := by simpa using hexp
  by_cases hz : countMarked outputs = 0
  · rw [(blindLoop_unmarked hexp hl hz 0).1] at h
    cases h
  · have hpos := Nat.pos_of_ne_zero hz
    obtain ⟨li, o, hli, hmem, hmk, hall⟩ := blindLoop_marked hexp hl (Nat.zero_add _) hpos 0
    obtain ⟨a, v, ha, hv⟩ := allExplicit_iff.1 (hexp o hmem)
    obtain ⟨pk, hn⟩ := nonce_of_marked hmk
    simp only [hli, ha, hv, hn, Res.bind_eq_ok] at h
    obtain ⟨o', hw, h⟩ := h
    obtain rfl := Res.ok.inj h
    obtain ⟨pre, post, h1, h2, h3⟩ := hall o' _ _
    exact ⟨hpos, h3 (Rel.marked hmk ha hv hn hw), a, v, _, pre, post, by rw [h2, h1]⟩

/-- `TooFewBlindingOutputs` -/
theorem blind_none_marked_err' (hexp : ∀ o ∈ outputs, o.allExplicit = true)
    (hnone : ∀ o ∈ outputs, o.marked = false) :
    blind B outputs spent rands = .err eTooFewBlindingOutputs := by
  have hnm : ∀ o ∈ outputs, ¬ o.marked = true := fun o ho => Bool.eq_false_iff.1 (hnone o ho)
  have hz : countMarked outputs = 0 := List.length_eq_zero_iff.2 (List.filter_eq_nil_iff.2 hnm)
  obtain ⟨slots, hl⟩ : ∃ slots, blindLoop B spent rands (countMarked outputs) 0 outputs = .ok slots :=
    blindLoop_succeeds hexp (fun o ho hm => absurd hm (hnm o ho)) (fun o ho hm => absurd hm (hnm o ho)) 0
  rw [blind_eq, List.all_eq_true.2 hexp, Bool.not_true, if_neg Bool.false_ne_true, hl, Res.ok_bind,
    (blindLoop_unmarked hexp hl hz 0).1]

/-- `MustHaveAllExplicitTxOuts`, before anything else -/
theorem blind_not_all_explicit_err' (o : TxOut A P RP SP) (ho : o ∈ outputs)
    (hne : o.allExplicit = false) :
    blind B outputs spent rands = .err eMustHaveAllExplicit := by
  have : outputs.all TxOut.allExplicit = false :=
    Bool.eq_false_iff.2 fun hall => by simp [(List.all_eq_true.1 hall) o ho] at hne
  rw [blind_eq, this, Bool.not_false, if_pos rfl]

theorem blind_succeeds (hexp : ∀ o ∈ outputs, o.allExplicit = true)
    (hpos : 0 < countMarked outputs)
    (hadr : ∀ o ∈ outputs, o.marked = true → addressable o.script = true)
    (hw : ∀ o ∈ outputs, o.marked = true → ∀ a v pk esk abf vbf, o.asset = .explicit a →
      o.value = .explicit v → o.nonce = .conf pk →
      ∃ o', withTxoutSecrets B o.script pk esk ⟨a, v, abf, vbf⟩ spent = .ok o') :
    ∃ entries, blind B outputs spent rands = .ok entries := by
  obtain ⟨slots, hl⟩ := blindLoop_succeeds (n := countMarked outputs) hexp hadr
    (fun o ho hm a v pk k ha hv hn => hw o ho hm a v pk (rands k).esk _ _ ha hv hn) 0
  obtain ⟨li, o, hli, hmem, hmk, _⟩ := blindLoop_marked hexp hl (Nat.zero_add _) hpos 0
  obtain ⟨a, v, ha, hv⟩ := allExplicit_iff.1 (hexp o hmem)
  obtain ⟨pk, hn⟩ := nonce_of_marked hmk
  obtain ⟨o', ho'⟩ := hw o hmem hmk a v pk (rands (countMarked outputs - 1)).esk
    (rands (countMarked outputs - 1)).abf
    (lastVbf v (rands (countMarked outputs - 1)).abf spent (slotSecrets slots)) ha hv hn
  rw [blind_eq, List.all_eq_true.2 hexp, Bool.not_true, if_neg Bool.false_ne_true, hl, Res.ok_bind]
  simp only [hli, ha, hv, hn, ho']
  exact ⟨_, rfl⟩

end EV.Blind
