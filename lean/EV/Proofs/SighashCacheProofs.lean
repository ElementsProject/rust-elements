/-
  C13.  The combinators of `Sound` follow the constructors of `CM`, so that soundness of a cached function against
  its cache-free counterpart is a walk along its definition.  Then soundness of every query, `witness_mut`, and the
  histories: one cache, fresh caches over the current transaction and fresh caches over the original one answer alike.
  `witness_mut` in two ways: the cached hashes are kept field by field (`…_ssw`: `swf` changes no field they read);
  the digests are kept because `swf` keeps `allCore`, hence the `…Agree` predicates of C03 (`fresh_setScriptWitness`).
  A taproot query with Prevouts::All has to name the list `ps` of the invariant, one with Prevouts::One is
  unconstrained (`hpv`).  (`Sound` here is not `CodecPrim.Sound`, which this file does not open.)
-/
import EV.Proofs.SighashAgree
namespace EV.Sighash
open EV EV.Codec

variable (H : SigHashes)

/-- from a cache satisfying the invariant, `m` leaves one that satisfies it and returns `r` -/
def Sound {α} (H : SigHashes) (tx : Tx) (ps : List TxOut) (m : CM α) (r : Res α) : Prop :=
  ∀ c, CacheInv H tx ps c → CacheInv H tx ps (m c).1 ∧ (m c).2 = r

namespace Sound
variable {H : SigHashes} {tx : Tx} {ps : List TxOut} {α β : Type}

theorem pure {a : α} : Sound H tx ps (CM.pure a) (.ok a) := fun _ hc => ⟨hc, rfl⟩

theorem lift {r : Res α} : Sound H tx ps (CM.lift r) r := fun _ hc => ⟨hc, rfl⟩

theorem fail {r : Res α} : Sound H tx ps (CM.fail r) r := fun _ hc => ⟨hc, rfl⟩

theorem bind {m : CM α} {r : Res α} {f : α → CM β} {g : α → Res β}
    (hm : Sound H tx ps m r) (hf : ∀ a, r = .ok a → Sound H tx ps (f a) (g a)) :
    Sound H tx ps (m.bind f) (r.bind g) := by
  intro c hc
  obtain ⟨h1, h2⟩ := hm c hc
  unfold CM.bind
  rw [show m c = ((m c).1, r) from Prod.ext rfl h2]
  cases r with
  | ok a => exact hf a rfl _ h1
  | err e => exact ⟨h1, rfl⟩
  | panic s => exact ⟨h1, rfl⟩

theorem bind_ok {m : CM α} {a : α} {f : α → CM β} {r : Res β}
    (hm : Sound H tx ps m (.ok a)) (hf : Sound H tx ps (f a) r) :
    Sound H tx ps (m.bind f) r := by
  exact bind (g := fun _ => r) hm (fun a' h => by cases h; exact hf)

theorem ite {p : Prop} [Decidable p] {m1 m2 : CM α} {r1 r2 : Res α}
    (h1 : Sound H tx ps m1 r1) (h2 : Sound H tx ps m2 r2) :
    Sound H tx ps (if p then m1 else m2) (if p then r1 else r2) := by
  split
  · exact h1
  · exact h2

theorem ite_ok {p : Prop} [Decidable p] {m1 m2 : CM α} {a1 a2 : α}
    (h1 : Sound H tx ps m1 (.ok a1)) (h2 : Sound H tx ps m2 (.ok a2)) :
    Sound H tx ps (if p then m1 else m2) (.ok (if p then a1 else a2)) := by
  split
  · exact h1
  · exact h2

theorem mapRes {m : CM α} {r : Res α} (f : α → β) (hm : Sound H tx ps m r) :
    Sound H tx ps (mapRes f m) (r.map f) := by
  intro c hc
  obtain ⟨h1, h2⟩ := hm c hc
  unfold Sighash.mapRes
  rw [show m c = ((m c).1, r) from Prod.ext rfl h2]
  exact ⟨h1, rfl⟩

end Sound

theorem getCommon_sound (tx : Tx) (ps : List TxOut) :
    Sound H tx ps (getCommon H tx) (.ok (commonOf H tx)) := by
  intro c hc
  have ⟨hcom, hseg, htap⟩ := hc
  unfold getCommon
  cases h : c.common with
  | some x => exact ⟨hc, congrArg Res.ok (hcom x h)⟩
  | none => exact ⟨⟨fun _ hx => (Option.some.inj hx).symm, hseg, htap⟩, rfl⟩

theorem getSegwit_sound (tx : Tx) (ps : List TxOut) :
    Sound H tx ps (getSegwit H tx) (.ok (segwitOf H (commonOf H tx))) := by
  intro c hc
  unfold getSegwit
  cases h : c.segwit with
  | some x =>
    have ⟨_, hseg, _⟩ := hc
    exact ⟨hc, congrArg Res.ok (hseg x h)⟩
  | none =>
    -- the common slot is read (and filled) first
    obtain ⟨⟨hcom, -, htap⟩, h2⟩ := getCommon_sound H tx ps c hc
    rw [show getCommon H tx c = ((getCommon H tx c).1, .ok (commonOf H tx)) from Prod.ext rfl h2]
    exact ⟨⟨hcom, fun _ hx => (Option.some.inj hx).symm, htap⟩, rfl⟩

theorem getTaproot_sound (tx : Tx) (ps : List TxOut) :
    Sound H tx ps (getTaproot H tx ps) (.ok (taprootOf H tx ps)) := by
  intro c hc
  have ⟨hcom, hseg, htap⟩ := hc
  unfold getTaproot
  cases h : c.taproot with
  | some x => exact ⟨hc, congrArg Res.ok (htap x h)⟩
  | none => exact ⟨⟨hcom, hseg, fun _ hx => (Option.some.inj hx).symm⟩, rfl⟩

theorem getOutputWitnesses_sound (tx : Tx) (ps : List TxOut) (pv : Prevouts)
    (hpv : ∀ ps', pv = .all ps' → ps' = ps) :
    Sound H tx ps (getOutputWitnesses H tx pv) (.ok (H.sha256 (preOutputWitnesses tx))) := by
  intro c hc
  unfold getOutputWitnesses
  cases h : c.taproot with
  | some x =>
    have ⟨_, _, htap⟩ := hc
    exact ⟨hc, congrArg (fun t => Res.ok t.outputWitnesses) (htap x h)⟩
  | none =>
    cases pv with
    | one j p => exact ⟨hc, rfl⟩
    | all ps' =>
      obtain rfl := hpv ps' rfl
      exact Sound.bind_ok (f := fun t => CM.pure t.outputWitnesses) (getTaproot_sound H tx ps') Sound.pure c hc

theorem msgSegwitC_sound (tx : Tx) (ps : List TxOut) (idx : Nat) (sc : Bytes) (v : Value) (ty : EcdsaTy) :
    Sound H tx ps (msgSegwitC H tx idx sc v ty) (msgSegwit H tx idx sc v ty) := by
  unfold msgSegwitC msgSegwit
  have hS := getSegwit_sound H tx ps
  generalize tx.input[idx]? = oi
  -- bind by bind in the order of `msgSegwitC`
  refine Sound.bind_ok (Sound.ite_ok Sound.pure (Sound.bind_ok hS Sound.pure)) ?_
  refine Sound.bind_ok (Sound.ite_ok (Sound.bind_ok hS Sound.pure) Sound.pure) ?_
  refine Sound.bind_ok (Sound.ite_ok Sound.pure (Sound.bind_ok hS Sound.pure)) ?_
  cases oi with
  | none => exact Sound.fail
  | some txin =>
    dsimp only
    have hM : Sound H tx ps
        (match tx.output[idx]? with
          | some o => CM.pure (H.sha256d o.enc)
          | none => CM.pure zero32)
        (.ok (match tx.output[idx]? with
          | some o => H.sha256d o.enc
          | none => zero32)) := by
      cases tx.output[idx]? <;> exact Sound.pure
    refine Sound.bind_ok (Sound.ite_ok (Sound.bind_ok hS Sound.pure) (Sound.ite_ok hM Sound.pure)) ?_
    exact Sound.pure

theorem tapInsPartC_sound (tx : Tx) (ps : List TxOut) (pv : Prevouts) (ty : SchnorrTy)
    (hpv : ∀ ps', pv = .all ps' → ps' = ps) :
    Sound H tx ps (tapInsPartC H tx pv ty) (tapInsPart H tx pv ty) := by
  unfold tapInsPartC tapInsPart
  refine Sound.ite Sound.pure (Sound.bind Sound.lift ?_)
  intro ps' hps'
  cases pv with
  | one j p => simp only [Prevouts.getAll] at hps'; cases hps'
  | all ps'' =>
    simp only [Prevouts.getAll, Res.ok.injEq] at hps'
    subst hps'
    obtain rfl := hpv ps'' rfl
    have hT := getTaproot_sound H tx ps''
    have hC := getCommon_sound H tx ps''
    -- the seven reads of `tapInsPartC` in its order: outpoint flags (taproot slot), prevouts (common), asset amounts,
    -- script pubkeys (taproot), sequences, issuances (common), issuance range proofs (taproot)
    refine Sound.bind_ok hT (Sound.bind_ok hC (Sound.bind_ok hT (Sound.bind_ok hT
      (Sound.bind_ok hC (Sound.bind_ok hC (Sound.bind_ok hT ?_))))))
    exact Sound.pure

theorem tapOutsPartC_sound (tx : Tx) (ps : List TxOut) (pv : Prevouts) (ty : SchnorrTy)
    (hpv : ∀ ps', pv = .all ps' → ps' = ps) :
    Sound H tx ps (tapOutsPartC H tx pv ty) (.ok (tapOutsPart H tx ty)) := by
  unfold tapOutsPartC tapOutsPart
  refine Sound.ite_ok ?_ Sound.pure
  refine Sound.bind_ok (getCommon_sound H tx ps) (Sound.bind_ok (getOutputWitnesses_sound H tx ps pv hpv) ?_)
  exact Sound.pure

theorem msgTaprootC_sound (tx : Tx) (ps : List TxOut) (idx : Nat) (pv : Prevouts) (annex : Option Bytes)
    (leaf : Option (Bytes × Nat)) (ty : SchnorrTy) (g : Bytes)
    (hpv : ∀ ps', pv = .all ps' → ps' = ps) :
    Sound H tx ps (msgTaprootC H tx idx pv annex leaf ty g) (msgTaproot H tx idx pv annex leaf ty g) := by
  unfold msgTaprootC msgTaproot
  refine Sound.bind Sound.lift (fun _ _ => ?_)
  refine Sound.bind (tapInsPartC_sound H tx ps pv ty hpv) (fun pIns _ => ?_)
  refine Sound.bind_ok (tapOutsPartC_sound H tx ps pv ty hpv) ?_
  refine Sound.bind Sound.lift (fun pThis _ => ?_)
  refine Sound.bind Sound.lift (fun pSingle _ => ?_)
  exact Sound.pure

/-- the update `witness_mut` allows -/
def swf (st : List Bytes) (i : TxIn) : TxIn := { i with witness := { i.witness with scriptWitness := st } }

theorem setScriptWitness_def (tx : Tx) (i : Nat) (st : List Bytes) :
    setScriptWitness tx i st = { tx with input := tx.input.modify i (swf st) } := rfl

section
variable (tx : Tx) (i : Nat) (st : List Bytes)

theorem setScriptWitness_length :
    (setScriptWitness tx i st).input.length = tx.input.length := by
  simp only [setScriptWitness, List.length_modify]

theorem preOutpoints_ssw : preOutpoints (setScriptWitness tx i st) = preOutpoints tx :=
  flatMap_modify_inv (swf st) (fun i => i.previousOutput.enc) (fun _ => rfl) tx.input i

theorem preSequences_ssw : preSequences (setScriptWitness tx i st) = preSequences tx :=
  flatMap_modify_inv (swf st) (fun i => encLe 4 i.sequence) (fun _ => rfl) tx.input i

theorem preIssuances_ssw : preIssuances (setScriptWitness tx i st) = preIssuances tx :=
  flatMap_modify_inv (swf st) issuanceOrZero (fun _ => rfl) tx.input i

theorem preIssuanceRangeproofs_ssw :
    preIssuanceRangeproofs (setScriptWitness tx i st) = preIssuanceRangeproofs tx :=
  flatMap_modify_inv (swf st) issuanceProofs (fun _ => rfl) tx.input i

theorem preOutpointFlags_ssw : preOutpointFlags (setScriptWitness tx i st) = preOutpointFlags tx :=
  map_modify_inv (swf st) outpointFlag (fun _ => rfl) tx.input i

theorem preOutputs_ssw : preOutputs (setScriptWitness tx i st) = preOutputs tx := rfl

theorem preOutputWitnesses_ssw : preOutputWitnesses (setScriptWitness tx i st) = preOutputWitnesses tx := rfl

theorem commonOf_ssw : commonOf H (setScriptWitness tx i st) = commonOf H tx := by
  simp only [commonOf, preOutpoints_ssw, preSequences_ssw, preIssuances_ssw, preOutputs_ssw]

theorem taprootOf_ssw (ps : List TxOut) : taprootOf H (setScriptWitness tx i st) ps = taprootOf H tx ps := by
  simp only [taprootOf, preOutpointFlags_ssw, preIssuanceRangeproofs_ssw, preOutputWitnesses_ssw]

theorem ssw_output : (setScriptWitness tx i st).output = tx.output := rfl

theorem ssw_version : (setScriptWitness tx i st).version = tx.version := rfl

theorem ssw_lockTime : (setScriptWitness tx i st).lockTime = tx.lockTime := rfl

theorem tapOutsPart_ssw (ty : SchnorrTy) :
    tapOutsPart H (setScriptWitness tx i st) ty = tapOutsPart H tx ty := rfl

theorem tapSinglePart_ssw (idx : Nat) (ty : SchnorrTy) :
    tapSinglePart H (setScriptWitness tx i st) idx ty = tapSinglePart H tx idx ty := rfl

theorem tapHead_ssw (ty : SchnorrTy) (g : Bytes) :
    tapHead (setScriptWitness tx i st) ty g = tapHead tx ty g := rfl

end

theorem query_sound (tx : Tx) (ps : List TxOut) (q : Query) (hq : q.usesAll ps) :
    Sound H tx ps (query H tx q) (fresh H tx q) := by
  cases q with
  | legacy idx script ty => exact Sound.lift
  | segwit idx sc v ty => exact Sound.mapRes H.sha256d (msgSegwitC_sound H tx ps idx sc v ty)
  | taproot idx pv annex leaf ty g =>
    refine Sound.mapRes (H.tagged Gen.tapSighashTag) (msgTaprootC_sound H tx ps idx pv annex leaf ty g ?_)
    intro ps' h
    subst h
    exact hq

theorem cacheInv_setScriptWitness (tx : Tx) (ps : List TxOut) (c : Cache) (i : Nat) (st : List Bytes)
    (hc : CacheInv H tx ps c) : CacheInv H (setScriptWitness tx i st) ps c := by
  unfold CacheInv at hc ⊢
  simp only [commonOf_ssw, taprootOf_ssw]
  exact hc

theorem fresh_setScriptWitness (tx : Tx) (i : Nat) (st : List Bytes) (q : Query) :
    fresh H (setScriptWitness tx i st) q = fresh H tx q := by
  obtain ⟨hleg, hseg, htap⟩ := agree_modify tx i (swf st) (fun _ => rfl)
  cases q with
  | legacy idx script ty => exact (legacySighash_ignores H ty idx script _ _ (hleg ty idx)).symm
  | segwit idx sc v ty => exact (segwitSighash_ignores H ty idx sc v _ _ (hseg ty idx)).symm
  | taproot idx pv annex leaf ty g =>
    exact (taprootSighash_ignores H ty idx annex leaf g _ _ pv pv (htap ty idx pv)).symm

theorem run_eq_runFresh (tx : Tx) (ps : List TxOut) (ops : List Op) (hops : ∀ o ∈ ops, o.usesAll ps)
    (c : Cache) (hc : CacheInv H tx ps c) : run H ⟨tx, c⟩ ops = runFresh H tx ops := by
  induction ops generalizing tx c with
  | nil => rfl
  | cons op ops ih =>
    obtain ⟨hop, hops'⟩ := List.forall_mem_cons.mp hops
    cases op with
    | q q =>
      obtain ⟨h1, h2⟩ := query_sound H tx ps q hop c hc
      simp only [run, step, runFresh]
      rw [h2, ih tx hops' _ h1]
    | w idx st =>
      simp only [run, step, runFresh]
      by_cases h : idx < tx.input.length
      · simp only [if_pos h]
        rw [ih _ hops' c (cacheInv_setScriptWitness H tx ps c idx st hc)]
      · simp only [if_neg h]
        rw [ih tx hops' c hc]

theorem runFresh_eq_runOriginal (tx : Tx) (ops : List Op) : runFresh H tx ops = runOriginal H tx ops := by
  suffices h : ∀ tx', (∀ q, fresh H tx' q = fresh H tx q) → tx'.input.length = tx.input.length →
      runFresh H tx' ops = runOriginal H tx ops from h tx (fun _ => rfl) rfl
  induction ops with
  | nil => intro tx' _ _; rfl
  | cons op ops ih =>
    intro tx' hf hl
    cases op with
    | q q =>
      simp only [runFresh, runOriginal]
      rw [hf q, ih tx' hf hl]
    | w idx st =>
      simp only [runFresh, runOriginal]
      by_cases h : idx < tx'.input.length
      · have h' : idx < tx.input.length := hl ▸ h
        simp only [if_pos h, decide_eq_true h']
        rw [ih (setScriptWitness tx' idx st)
          (fun q => (fresh_setScriptWitness H tx' idx st q).trans (hf q))
          ((setScriptWitness_length tx' idx st).trans hl)]
      · have h' : ¬ idx < tx.input.length := hl ▸ h
        simp only [if_neg h, decide_eq_false h']
        rw [ih tx' hf hl]

theorem runOriginal_eq_map (tx : Tx) : ∀ ops : List Op, runOriginal H tx ops = ops.map fun
      | .q q => .digest (fresh H tx q)
      | .w idx _ => .wit (decide (idx < tx.input.length))
  | [] => rfl
  | .q _ :: ops => congrArg (_ :: ·) (runOriginal_eq_map tx ops)
  | .w _ _ :: ops => congrArg (_ :: ·) (runOriginal_eq_map tx ops)

end EV.Sighash
