/-
  The hash record with which the kernel-checked facts of C02 and C11 run the model (the SHA-256 of
  EV.Model.Sha256K, compared with bitcoin_hashes by the K op `shak`), and the one evaluation they share:
  `commit_to_custom_network_parameters` of the two parameter sets extracted from src/genesis.rs, a long message
  and so slow for the kernel to hash; it is evaluated here once per network.

  Every such evaluation first rewrites with `kernelHashes_eq`, to the message schedule over a window of 16 fields
  (EV.Proofs.Sha256KFast), on which the kernel does not walk the list of schedule words for every lookup.
-/
import EV.Proofs.Sha256KFast
import EV.Model.Genesis
-- the namespace of the chain hashes (EV.Proofs.GenesisKernel): the statements of C02 and C11 name `kernelHashes` in it
namespace EV.Proofs.GenesisKernel
open EV EV.Genesis

def kernelHashes : GHashes :=
  { sha256d := Sha256K.sha256d, comb := Sha256K.midstate, sha256 := Sha256K.sha256 }

theorem kernelHashes_eq :
    kernelHashes = { sha256d := Sha256K.sha256dF, comb := Sha256K.midstateF, sha256 := Sha256K.sha256F } := by
  rw [Sha256K.sha256dF_eq, Sha256K.midstateF_eq, Sha256K.sha256F_eq]
  rfl

theorem commit_liquidv1 :
    commit kernelHashes.sha256 NetworkParams.liquidv1 =
      ofNats [150, 20, 84, 234, 9, 85, 66, 24, 115, 214, 27, 171, 25, 125, 129, 75, 51, 134, 253, 226, 67, 60, 144,
        188, 22, 33, 202, 30, 245, 70, 47, 194] := by
  rw [kernelHashes_eq]
  decide +kernel

theorem commit_liquidtestnet :
    commit kernelHashes.sha256 NetworkParams.liquidtestnet =
      ofNats [82, 58, 164, 147, 81, 226, 154, 146, 79, 81, 154, 21, 35, 200, 23, 175, 202, 211, 93, 209, 175, 116,
        251, 233, 0, 159, 92, 106, 82, 210, 82, 12] := by
  rw [kernelHashes_eq]
  decide +kernel

end EV.Proofs.GenesisKernel
