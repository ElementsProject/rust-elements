/-
  Refinement: the signing messages AS CODED (`msgLegacy`, `msgSegwit`, `msgTaproot`) are the serialisations of the
  committed-field records the independent transcription of the specifications assembles from the numeric hash type:
  `legacy_refines` and `legacy_digest_refines`, `segwit_refines` (which exhibits the record), `taproot_refines`
  (errors included).
-/
import EV.Proofs.SighashBasics
namespace EV.Sighash
open EV EV.Codec

/-- `iter().enumerate().map(f)` is `List.mapIdx` -/
theorem mapEnumFrom_eq_mapIdx {α β} (f : Nat → α → β) :
    ∀ (n : Nat) (l : List α), mapEnumFrom f n l = l.mapIdx fun k => f (n + k)
  | _, [] => rfl
  | n, a :: as => by
    rw [mapEnumFrom, mapEnumFrom_eq_mapIdx f (n + 1) as, List.mapIdx_cons]
    simp only [Nat.add_zero, Nat.add_right_comm n 1, Nat.add_assoc]

/-- `TxIn.enc` reads the issuance field only through `has_issuance()`, so a null issuance's stray fields do not
    show; nor does the witness -/
theorem normIn_enc (i : TxIn) (s : Bytes) (q : Nat) (w : TxInWitness) :
    TxIn.enc ⟨i.previousOutput, i.isPegin, s, q, i.assetIssuance, w⟩ = TxIn.enc (normIn i s q) := by
  unfold normIn
  rw [issuanceOf_eq]
  cases h : i.hasIssuance with
  | true => rfl
  | false =>
    have hn : i.assetIssuance.isNull = true := by simpa [TxIn.hasIssuance] using h
    simp [hn, Proofs.CodecTx.null_isNull, TxIn.enc, TxIn.voutWord, TxIn.hasIssuance]

theorem legacy_ins_enc (tx : Tx) (idx : Nat) (script : Bytes) (ty : EcdsaTy) (hi : idx < tx.input.length) :
    (if ty.acp = true then
        [⟨tx.input[idx].previousOutput, tx.input[idx].isPegin, script, tx.input[idx].sequence,
          tx.input[idx].assetIssuance, TxInWitness.empty⟩]
      else mapEnumFrom (legacyIn idx script ty.base) 0 tx.input).map TxIn.enc =
    (specLegacyView tx idx script ty.asU32).inputs.map TxIn.enc := by
  cases hacp : ty.acp with
  | true => simp only [if_true, legacyView_inputs_acp _ _ _ _ hacp hi, List.map_singleton, normIn_enc]
  | false =>
    refine List.ext_getElem? fun k => ?_
    simp only [Bool.false_eq_true, if_false, List.getElem?_map, mapEnumFrom_eq_mapIdx, List.getElem?_mapIdx,
      legacyView_input? _ _ _ _ hacp, Option.map_map, Nat.zero_add]
    refine congrArg (Option.map · _) (funext fun i => ?_)
    simp only [Function.comp, legacyIn]
    rw [← normIn_enc i _ _ TxInWitness.empty, legacy_zeroed_ite]

theorem legacy_outs_enc (tx : Tx) (idx : Nat) (script : Bytes) (ty : EcdsaTy)
    (hs : ty.base = .single → idx < tx.output.length) :
    (legacyOuts tx idx ty.base).map TxOut.enc = (specLegacyView tx idx script ty.asU32).outputs.map TxOut.enc := by
  rw [legacyView_outputs _ _ _ _ hs]
  cases hb : ty.base with
  | all =>
    simp only [legacyOuts, List.map_map]
    exact List.map_congr_left (fun _ _ => rfl)
  | none => rfl
  | single =>
    have hi := hs hb
    have hl : (tx.output.take idx).length = idx := List.length_take_of_le (Nat.le_of_lt hi)
    -- of the outputs up to the signed position, all but the last are blanked
    have hblank : (tx.output.take idx).mapIdx (fun n o => if 0 + n = idx then o else txOutDefault) =
        List.replicate (tx.output.take idx).length txOutDefault :=
      List.mapIdx_eq_replicate_iff.mpr fun n hn => if_neg (by omega)
    simp only [legacyOuts, mapEnumFrom_eq_mapIdx, List.take_succ_eq_append_getElem hi, List.mapIdx_concat, hblank, hl,
      if_pos (Nat.zero_add idx), List.getElem?_eq_getElem hi, Option.map_some, Option.toList_some, List.map_append]
    rfl

theorem inRange_iff {ty : EcdsaTy} {idx : Nat} {tx : Tx} :
    InRange ty idx tx ↔ idx < tx.input.length ∧ ¬ (ty.base = .single ∧ idx ≥ tx.output.length) :=
  and_congr_right' (by rw [not_and, ge_iff_le, Nat.not_le])

/-- in range (no panic, not the SIGHASH_SINGLE constant) the legacy message is the serialization of
    the record Core's `CTransactionSignatureSerializer` describes -/
theorem legacy_refines (tx : Tx) (idx : Nat) (script : Bytes) (ty : EcdsaTy) (h : InRange ty idx tx) :
    msgLegacy tx idx script ty = .ok (serLegacy (specLegacyView tx idx script ty.asU32)) := by
  obtain ⟨hi, hc⟩ := inRange_iff.mp h
  rw [msgLegacy, if_neg (not_not_intro hi), if_neg hc]
  simp only [List.getElem?_eq_getElem hi]
  rw [Proofs.CodecPrim.encVec_congr _ _ _ (legacy_ins_enc tx idx script ty hi),
    Proofs.CodecPrim.encVec_congr _ _ _ (legacy_outs_enc tx idx script ty h.2)]
  rfl

theorem legacySighash_inRange (H : SigHashes) (tx : Tx) (idx : Nat) (script : Bytes) (ty : EcdsaTy)
    (h : InRange ty idx tx) :
    legacySighash H tx idx script ty = .ok (H.sha256d (serLegacy (specLegacyView tx idx script ty.asU32))) := by
  rw [legacySighash, if_neg (not_not_intro h.1), if_neg (inRange_iff.mp h).2, legacy_refines tx idx script ty h]
  rfl

theorem legacySighash_single_oob (H : SigHashes) (tx : Tx) (idx : Nat) (script : Bytes) (ty : EcdsaTy)
    (h : idx < tx.input.length) (hc : ty.base = .single ∧ idx ≥ tx.output.length) :
    legacySighash H tx idx script ty = .ok legacyOne := by
  rw [legacySighash, if_neg (not_not_intro h), if_pos hc]

/-- the digest, including the SIGHASH_SINGLE-without-output constant, is Core's `SignatureHash` -/
theorem legacy_digest_refines (H : SigHashes) (tx : Tx) (idx : Nat) (script : Bytes) (ty : EcdsaTy)
    (h : idx < tx.input.length) :
    legacySighash H tx idx script ty = specLegacySighash H tx idx script ty.asU32 := by
  unfold specLegacySighash
  simp only [h, not_true_eq_false, if_false, ecdsa_single_iff]
  by_cases hc : ty.base = .single ∧ idx ≥ tx.output.length
  · rw [if_pos hc, legacySighash_single_oob H tx idx script ty h hc]
    rfl
  · rw [if_neg hc, legacySighash_inRange H tx idx script ty (inRange_iff.mpr ⟨h, hc⟩)]

section segwit
variable (H : SigHashes)

theorem segwitOf_commonOf (hd : Dbl H) (tx : Tx) :
    segwitOf H (commonOf H tx) =
      { prevouts := H.sha256d ((tx.input.map (fun i => i.previousOutput)).flatMap OutPoint.enc),
        sequences := H.sha256d ((tx.input.map (fun i => i.sequence)).flatMap (encLe 4)),
        issuances := H.sha256d ((tx.input.map issuanceOf).flatMap encIssuanceOpt),
        outputs := H.sha256d ((tx.output.map outBody).flatMap TxOut.enc) } := by
  rw [hd, hd, hd, hd, ← preIssuances_eq, List.flatMap_map, List.flatMap_map, List.flatMap_map]
  rfl

variable {α : Type} (f : α → Bytes) (l : List α)

/-! Three hashes of `msgSegwit` as `optHash` / `outHash` of an optional part of the record.  Each left side is, letter
    for letter, the `if` of `msgSegwit`, and each right side the condition `specSegwitView` has once the `ecdsa_*_iff` have
    turned its bit masks into the enumeration: that is how the `rw` of `segwit_refines` finds them. -/

theorem seg_unless_acp (acp : Bool) :
    (if acp then zero32 else H.sha256d (l.flatMap f)) = optHash H f (if acp = true then none else some l) := by
  cases acp <;> rfl

theorem seg_seqs (acp : Bool) (b : Base) :
    (if !acp && b != .single && b != .none then H.sha256d (l.flatMap f) else zero32) =
    optHash H f (if ¬ acp = true ∧ ¬ b = .single ∧ ¬ b = .none then some l else none) := by
  cases acp <;> cases b <;> rfl

theorem seg_outs (tx : Tx) (idx : Nat) (b : Base) :
    (if b != .single && b != .none then H.sha256d ((tx.output.map outBody).flatMap TxOut.enc)
      else if b = .single ∧ idx < tx.output.length then
        match tx.output[idx]? with
        | some o => H.sha256d o.enc
        | none => zero32
      else zero32) =
    outHash H (if ¬ b = .single ∧ ¬ b = .none then .all (tx.output.map outBody)
      else if b = .single ∧ idx < tx.output.length then .single (outBody (tx.output.getD idx default)) else .none) := by
  cases b with
  | all => rfl
  | none => rfl
  | single =>
    by_cases ho : idx < tx.output.length
    · simp only [ho, and_true, if_true, List.getElem?_eq_getElem ho, getD_lt _ _ _ ho]
      rfl
    · simp only [ho, and_false, if_false]
      rfl

/-- BIP143 + issuance extension (the code hashes the cached SHA-256 values once more where the
    specification says double SHA-256: hypothesis `Dbl`) -/
theorem segwit_refines (hd : Dbl H) (tx : Tx) (idx : Nat) (sc : Bytes) (v : Value) (ty : EcdsaTy)
    (h : idx < tx.input.length) :
    ∃ vw, specSegwitView tx idx sc v ty.asU32 = some vw ∧ msgSegwit H tx idx sc v ty = .ok (serSegwit H vw) := by
  have hme : tx.input[idx]? = some tx.input[idx] := List.getElem?_eq_getElem h
  unfold specSegwitView
  simp only [hme]
  refine ⟨_, rfl, ?_⟩
  unfold msgSegwit
  simp only [hme, segwitOf_commonOf H hd tx, serSegwit_eq, ecdsa_acp_iff, ecdsa_single_iff, ecdsa_none_iff]
  rw [seg_unless_acp, seg_seqs, seg_unless_acp, issuancePart_eq, ← seg_outs]
  simp only [List.append_assoc]
  rfl

theorem segwit_msg_eq_spec (hd : Dbl H) (tx : Tx) (idx : Nat) (sc : Bytes) (v : Value) (ty : EcdsaTy)
    (h : idx < tx.input.length) : msgSegwit H tx idx sc v ty = specSegwit H tx idx sc v ty.asU32 := by
  obtain ⟨vw, h1, h2⟩ := segwit_refines H hd tx idx sc v ty h
  rw [specSegwit, h1, h2]

end segwit

theorem spendType_eq (annex : Option Bytes) (leaf : Option (Bytes × Nat)) :
    spendType annex leaf = UInt8.ofNat ((if leaf.isSome then 1 else 0) * 2 + (if annex.isSome then 1 else 0)) := by
  unfold spendType
  cases annex <;> cases leaf <;> simp only [Option.isSome] <;> decide

theorem tapThisInput_eq (H : SigHashes) (txin : TxIn) (prev : TxOut) :
    tapThisInput H txin prev = serTapThisInput H (thisView (thisCore txin) (spentCore prev)) := by
  rw [thisView_of_core, issuanceOf_eq]
  unfold tapThisInput serTapThisInput
  rw [outpointFlag_eq]
  cases txin.hasIssuance <;> simp [issuanceProofs_eq]

/-- `serTapInputsAll` does not read the index of the record (`tapZ` writes it), so any `n` will do -/
theorem tapAllInputs_eq (H : SigHashes) (tx : Tx) (ps : List TxOut) (n : Nat) :
    tapAllInputs H tx ps = serTapInputsAll H (allView (tx.input.map allCore) (ps.map spentCore) n) := by
  rw [allView_of_core]
  have hf : issuanceOrZero = fun a => encIssuanceOpt (issuanceOf a) := funext issuanceOrZero_eq
  have hg : outpointFlag = fun a => flagByte (inFlag a) := funext outpointFlag_eq
  unfold tapAllInputs serTapInputsAll
  simp only [taprootOf, commonOf, preOutpointFlags, preOutpoints, preAssetAmounts, preScriptPubkeys,
    preSequences, preIssuances, preIssuanceRangeproofs, List.flatMap_map, List.map_map, hf, hg]
  rfl

theorem tap_ins_bind {β} (H : SigHashes) (tx : Tx) (idx : Nat) (pv : Prevouts) (ty : SchnorrTy)
    (hty : ty ≠ .reserved) (k : Bytes → Bytes → Res β) :
    ((tapInsPart H tx pv ty).bind fun a => (tapThisPart H tx idx pv ty).bind fun b => k a b) =
    (specTapInputs tx idx pv ty.byte).bind fun ins => k (tapX H ins) (tapZ H ins) := by
  rw [specTapInputs_eq tx idx pv ty hty]
  unfold tapInsPart tapThisPart
  cases ty.acp with
  | true =>
    simp only [if_true, Res.ok_bind]
    cases tx.input[idx]? with
    | none => rfl
    | some txin => simp only [Res.bind_assoc, Res.ok_bind, tapX, tapZ, tapThisInput_eq]
  | false =>
    simp only [Bool.false_eq_true, if_false, Res.bind_assoc, Res.ok_bind, tapX, tapZ, allView_index, encLe4_mod,
      tapAllInputs_eq H tx _ (idx % 2 ^ 32)]

theorem tapSinglePart_eq (H : SigHashes) (tx : Tx) (idx : Nat) (ty : SchnorrTy) (hty : ty ≠ .reserved) :
    tapSinglePart H tx idx ty = (specTapOutputs tx idx ty.byte).map (tapS H) := by
  rw [specTapOutputs_eq tx idx ty hty]
  unfold tapSinglePart
  cases ty.isSingle with
  | true => simp only [if_true]; cases tx.output[idx]? <;> rfl
  | false => simp only [Bool.false_eq_true, if_false]; cases ty.isNone <;> rfl

theorem tapOutsPart_eq (H : SigHashes) (tx : Tx) (idx : Nat) (ty : SchnorrTy) (hty : ty ≠ .reserved)
    (outs : OutSel) (h : specTapOutputs tx idx ty.byte = .ok outs) :
    tapOutsPart H tx ty = tapY H outs := by
  unfold tapOutsPart
  cases hs : ty.isSingle with
  | true =>
    obtain ⟨o, -, rfl⟩ := VA.tapOutputs_single ty hty hs tx idx outs h
    simp only [Bool.not_true, Bool.and_false, Bool.false_eq_true, if_false, tapY]
  | false =>
    cases hn : ty.isNone with
    | true => rw [VA.tapOutputs_none ty hty hs hn tx idx outs h]; rfl
    | false => rw [VA.tapOutputs_all ty hty hs hn tx idx outs h]; rfl

/-- Elements taproot message, for the seven hash types `from_u8` accepts: same bytes, same errors -/
theorem taproot_refines (H : SigHashes) (tx : Tx) (idx : Nat) (pv : Prevouts) (annex : Option Bytes)
    (leaf : Option (Bytes × Nat)) (ty : SchnorrTy) (genesis : Bytes) (hty : ty ≠ .reserved) :
    msgTaproot H tx idx pv annex leaf ty genesis = specTaproot H tx idx pv annex leaf ty.byte genesis := by
  unfold msgTaproot specTaproot
  rw [specTaprootView_eq _ _ _ _ _ ty hty, tap_ins_bind H tx idx pv ty hty, tapSinglePart_eq H tx idx ty hty]
  simp only [Res.map, Res.bind_assoc]
  refine Res.bind_congr fun _ _ => Res.bind_congr fun ins _ => Res.bind_congr fun outs ho => ?_
  simp only [Res.ok_bind, tapOutsPart_eq H tx idx ty hty outs ho, serTaproot_eq, spendType_eq]
  rfl

end EV.Sighash
