/-
  EV.Proofs.Checksum — the encoder's checksum (`createChecksum`, i.e. `Engine::input_target_residue` +
  `unpack`) is the unique string of `len` symbols that makes the whole string verify.
-/
import EV.Proofs.Polymod
import EV.Proofs.Digits
namespace EV.Bech32
open Base58 (ofDigits ofDigits_cons ofDigits_snoc ofDigits_lt_pow)
namespace Code

theorem pow32 (n : Nat) : (32 : Nat) ^ n = 2 ^ (5 * n) := by
  rw [Nat.pow_mul]

theorem step_small (c : Code) (s d : Nat) (hs : s < 2 ^ (5 * (c.len - 1))) (hd : d < 32) :
    c.step s d = s * 32 + d := by
  simp only [step, top, Nat.shiftRight_eq_div_pow, Nat.div_eq_of_lt hs, sel_zero, Nat.xor_zero,
    Nat.mod_eq_of_lt hs, Nat.zero_mod]
  rw [← Nat.shiftLeft_add_eq_or_of_lt (i := 5) hd, Nat.shiftLeft_eq]

theorem polymodFrom_eq_Tpow_xor (c : Code) (s : Nat) (x : List Nat)
    (hx : ∀ d ∈ x, d < 32) (hl : x.length ≤ c.len) :
    c.polymodFrom s x = c.Tpow x.length s ^^^ ofDigits 32 x := by
  -- from the last symbol backwards: a step acts on the two parts separately, and the packing of the
  -- symbols before the last, fewer than `len`, has its top symbol zero
  rw [← x.reverse_reverse] at hx hl ⊢
  generalize x.reverse = y at hx hl ⊢
  induction y with
  | nil => exact (Nat.xor_zero s).symm
  | cons d y ih =>
    rw [List.reverse_cons] at hx hl ⊢
    obtain ⟨hy, hd⟩ := List.forall_mem_append.mp hx
    replace hd := hd d (List.mem_singleton_self d)
    rw [List.length_append] at hl
    have hs : ofDigits 32 y.reverse < 2 ^ (5 * (c.len - 1)) :=
      Nat.lt_of_lt_of_le (ofDigits_lt_pow 32 _ hy)
        (pow32 _ ▸ Nat.pow_le_pow_right (by decide) (Nat.le_sub_one_of_lt hl))
    rw [polymodFrom_append, ih hy (Nat.le_of_succ_le hl), polymodFrom_cons, polymodFrom_nil, ← Nat.zero_xor d,
      step_linear c _ _ 0 d (by decide) hd, Nat.zero_xor, step_small c _ d hs hd, ofDigits_snoc, List.length_append]
    rfl

theorem unpackAll_length (r n : Nat) : (unpackAll r n).length = n := by
  induction n with
  | zero => rfl
  | succ n ih => simp [unpackAll, ih]

theorem unpackAll_lt (r n : Nat) : ∀ d ∈ unpackAll r n, d < 32 := by
  induction n with
  | zero => simp [unpackAll]
  | succ n ih => exact List.forall_mem_cons.mpr ⟨Nat.mod_lt _ (by decide), ih⟩

theorem ofDigits_unpackAll (r n : Nat) : ofDigits 32 (unpackAll r n) = r % 32 ^ n := by
  induction n with
  | zero => simp [unpackAll, ofDigits, Nat.mod_one]
  | succ n ih =>
    simp only [unpackAll]
    rw [ofDigits_cons, unpackAll_length, ih, unpack, Nat.shiftRight_eq_div_pow, ← pow32, Nat.pow_succ, Nat.mod_mul,
      Nat.add_comm, Nat.mul_comm (r / _ % 32)]

theorem unpackAll_ofDigits (x : List Nat) (hx : ∀ d ∈ x, d < 32) : unpackAll (ofDigits 32 x) x.length = x := by
  apply Base58.ofDigits_inj 32 (by decide) _ _ (unpackAll_length _ _) (unpackAll_lt _ _) hx
  rw [ofDigits_unpackAll]
  exact Nat.mod_eq_of_lt (ofDigits_lt_pow 32 x hx)

end Code

open Code

theorem createChecksum_length (v : Variant) (w : List Nat) : (createChecksum v w).length = v.code.len :=
  unpackAll_length _ _

theorem createChecksum_lt (v : Variant) (w : List Nat) : ∀ d ∈ createChecksum v w, d < 32 :=
  unpackAll_lt _ _

theorem createChecksum_eq (v : Variant) (ht : v.target < 2 ^ (5 * v.code.len)) (w : List Nat) :
    createChecksum v w = unpackAll (v.code.Tpow v.code.len (v.code.polymod w) ^^^ v.target) v.code.len := by
  rw [createChecksum, polymodFrom_eq_Tpow_xor v.code _ _ (unpackAll_lt _ _) (by rw [unpackAll_length]; exact Nat.le_refl _),
    unpackAll_length, ofDigits_unpackAll, pow32, Nat.mod_eq_of_lt ht]

theorem polymod_append_len (c : Code) (w ck : List Nat) (hck : ∀ x ∈ ck, x < 32) (hlen : ck.length = c.len) :
    c.polymod (w ++ ck) = c.Tpow c.len (c.polymod w) ^^^ ofDigits 32 ck := by
  rw [polymod, polymodFrom_append, polymodFrom_eq_Tpow_xor c _ _ hck (by omega), hlen]
  rfl

theorem polymod_createChecksum (v : Variant) (hc : v.code.Good) (ht : v.target < 2 ^ (5 * v.code.len)) (w : List Nat) :
    v.code.polymod (w ++ createChecksum v w) = v.target := by
  -- `len ≥ 1`: the residue after `len` steps is in range whatever it was before
  have hT : v.code.Tpow (v.code.len - 1 + 1) (v.code.polymod w) < 2 ^ (5 * v.code.len) := T_lt v.code hc _
  rw [Nat.sub_add_cancel hc.len_pos] at hT
  rw [polymod_append_len _ _ _ (createChecksum_lt v w) (createChecksum_length v w), createChecksum_eq v ht,
    ofDigits_unpackAll, pow32, Nat.mod_eq_of_lt (Nat.xor_lt_two_pow hT ht), ← Nat.xor_assoc, Nat.xor_self, Nat.zero_xor]

theorem checksum_unique (v : Variant) (ht : v.target < 2 ^ (5 * v.code.len))
    (w ck : List Nat) (hck : ∀ x ∈ ck, x < 32) (hlen : ck.length = v.code.len)
    (h : v.code.polymod (w ++ ck) = v.target) : ck = createChecksum v w := by
  rw [polymod_append_len _ _ _ hck hlen] at h
  rw [createChecksum_eq v ht, ← h, ← Nat.xor_assoc, Nat.xor_self, Nat.zero_xor, ← hlen, unpackAll_ofDigits ck hck]

end EV.Bech32
