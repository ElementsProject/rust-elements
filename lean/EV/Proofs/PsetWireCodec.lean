/-
  Laws of the PSET value codecs (EV.Model.PsetCodec) and of the conversions between record fields and slots, in
  three namespaces (EV.Props.C07 and the generated EV.Proofs.PsetWireRec refer to the lemmas under these names).
    PsetWireTap    the tap-tree codec (`impl Deserialize / Serialize for TapTree`, `tapTreeNorm`) accepts only
                   canonical encodings; this is the law of the output table's `tap_tree` field.
    PsetWireCodec  every codec is idempotent and never lengthens a value: the three tables satisfy `TableLaw`, and
                   they have pairwise distinct tags (`TableOk`).
    PsetWireConv   `Slot.ofOpt`, `Slot.ofOptN`, `Slot.ofOptL`, `Slot.ofKeys`, the key-source map of `xpub` and their
                   readers undo each other, per kind of field and in both directions (on a record within its
                   `Bounds`; on a well-formed slot).  `f_g` says `f (g x) = x`; for a value format, `…_enc` reads back
                   what was written and `…_sound` writes back what an accepted value was read as.
-/
import EV.Model.PsetSer
import EV.Proofs.PsetWireMap
import EV.Proofs.TaprootBuilder
namespace EV.Proofs.PsetWireTap
open EV EV.Codec EV.PsetWire EV.Proofs.CodecPrim EV.Proofs.TaprootBuilder

/-- what `parseTapItems` accepts is the listing `(depth, version, script)` of the leaves it returns -/
theorem parseTapItems_sound : ∀ (fuel : Nat) (bs : Bytes) (items : List (Nat × Taproot.Item)),
    parseTapItems fuel bs = some items →
      bs = (leafItems items).flatMap fun x => UInt8.ofNat x.1 :: x.2.2 :: encBytesVec x.2.1
  | _, [], items, h => by
    simp only [parseTapItems, Option.some.injEq] at h
    subst h
    rfl
  | 0, _ :: _, _, h => by
    simp only [parseTapItems] at h
    cases h
  | _ + 1, [_], _, h => by
    simp only [parseTapItems] at h
    cases h
  | fuel + 1, d :: ver :: rest, items, h => by
    simp only [parseTapItems] at h
    split at h
    next script r hv =>
      split at h
      · obtain ⟨its, hp, rfl⟩ := Option.map_eq_some_iff.mp h
        simp only [leafItems, List.flatMap_cons, List.cons_append, UInt8.ofNat_toNat]
        rw [(bytesVec_lawful.sound _ _ _ hv).1, ← parseTapItems_sound fuel r its hp]
      · cases h
    next => cases h

/-- `TaprootBuilder::insert` combines two nodes stored sibling first (`NodeInfo::combine(child, node)`), so the leaves of
    a combined node are listed left-before-right: the leaf list of the finalized root is the depth-first listing that was
    fed in, and the length of each leaf's merkle branch is its depth (`builder_sound`, `info_leaves_dfs`).  Combined the
    other way round, a decoded tree would re-serialize to other bytes than it was read from. -/
theorem tapTreeNorm_canonical (W : WirePrims) (k v x : Bytes) (h : tapTreeNorm W k v = some x) : x = v := by
  simp only [tapTreeNorm] at h
  cases hp : parseTapItems v.length v with
  | none =>
    rw [hp] at h
    simp only at h
    cases h
  | some items =>
    rw [hp] at h
    simp only at h
    split at h
    · rename_i n hok
      simp only [Option.some.injEq] at h
      obtain ⟨t, hit, hb, _⟩ := builder_sound W.tap items [some n] hok rfl
      simp only [List.cons.injEq, Option.some.injEq, and_true] at hb
      subst hb
      have hv := parseTapItems_sound _ _ _ hp
      rw [hit, ← info_leaves_dfs, List.flatMap_map] at hv
      -- written out in that order they are `serTapLeaves`, by definition
      exact h ▸ hv.symm
    · cases h

end EV.Proofs.PsetWireTap

namespace EV.Proofs.PsetWireCodec
open EV EV.Codec EV.PsetWire EV.Proofs.CodecPrim EV.Proofs.PsetWireMap

/-- `FieldLaw`, of a value codec by itself -/
def CodecLaw (c : VCodec) : Prop := ∀ k v x, c k v = some x → c k x = some x ∧ x.length ≤ v.length

theorem accept_some {p : Bytes → Bool} {k v x : Bytes} (h : accept p k v = some x) : p v = true ∧ x = v :=
  (Option.ite_none_right_eq_some.mp h).imp_right fun e => (Option.some.inj e).symm

theorem accept_of {p : Bytes → Bool} (k v : Bytes) (h : p v = true) : accept p k v = some v := by
  unfold accept
  rw [if_pos h]

theorem cLen_of {w : Nat} {b : Bytes} (h : b.length = w) : cLen w [] b = some b :=
  accept_of _ _ (by simpa using h)

theorem cLen_len {w : Nat} (k v x : Bytes) (h : cLen w k v = some x) : v.length = w := by
  simpa using (accept_some h).1

/-- `cHeight` and `cTime` test the length first -/
theorem len4_of_accept {p : Bytes → Bool} {k v x : Bytes} (h : accept (fun v => v.length == 4 && p v) k v = some x) :
    v.length = 4 := by
  have := (accept_some h).1
  simp only [Bool.and_eq_true, beq_iff_eq] at this
  exact this.1

theorem cHeight_len (k v x : Bytes) (h : cHeight k v = some x) : v.length = 4 := len4_of_accept h

theorem cTime_len (k v x : Bytes) (h : cTime k v = some x) : v.length = 4 := len4_of_accept h

/-- where a codec stores the value it was given, its acceptance is already the re-reading -/
theorem law_at_self {c : VCodec} {k v x : Bytes} (hx : c k v = some x) (e : x = v) :
    c k x = some x ∧ x.length ≤ v.length := by
  subst e
  exact ⟨hx, Nat.le_refl _⟩

theorem accept_law (p : Bytes → Bool) : CodecLaw (accept p) := fun _ _ _ h => law_at_self h (accept_some h).2

theorem cPreimage_law (h : Bytes → Bytes) : CodecLaw (cPreimage h) := fun _ _ _ hx =>
  law_at_self hx (Option.some.inj (Option.ite_none_right_eq_some.mp hx).2).symm

theorem countNorm_enc (k : Bytes) {n : Nat} (h : n < 2 ^ 64) : countNorm k (encVarint n) = some (encVarint n) := by
  simp only [countNorm, varint_lawful.complete_nil h]

theorem countNorm_law : CodecLaw countNorm := by
  intro k v x hx
  unfold countNorm at hx
  split at hx
  next n r hv =>
    cases hx
    obtain ⟨e, hn⟩ := varint_lawful.sound _ _ _ hv
    refine ⟨countNorm_enc k hn, ?_⟩
    rw [e, List.length_append]
    exact Nat.le_add_right _ _
  next => cases hx

theorem schnorrNorm_law : CodecLaw schnorrNorm := by
  intro k v x hx
  -- the one value not stored as given is a 65-byte signature, cut to its first 64 bytes
  have cut : x = v ∨ x = v.take 64 ∧ v.length = 65 := by
    unfold schnorrNorm at hx
    by_cases h64 : v.length = 64
    · rw [if_pos h64] at hx
      exact .inl (Option.some.inj hx).symm
    rw [if_neg h64] at hx
    by_cases h65 : v.length = 65
    · rw [if_pos h65] at hx
      dsimp only at hx
      split at hx
      · split at hx
        · exact .inr ⟨(Option.some.inj hx).symm, h65⟩
        · exact .inl (Option.some.inj hx).symm
      · cases hx
    · rw [if_neg h65] at hx
      cases hx
  rcases cut with e | ⟨rfl, h65⟩
  · exact law_at_self hx e
  · have hl : (v.take 64).length = 64 := by
      rw [List.length_take, h65]
      rfl
    refine ⟨if_pos hl, ?_⟩
    rw [hl, h65]
    decide

theorem tapTreeNorm_law (W : WirePrims) : CodecLaw (tapTreeNorm W) := fun k v x hx =>
  law_at_self hx (EV.Proofs.PsetWireTap.tapTreeNorm_canonical W k v x hx)

theorem fieldLaw_iff (f : Field) : FieldLaw f ↔ CodecLaw f.normVal := Iff.rfl

theorem tableLaw_cons {f : Field} {T : List Field} : TableLaw (f :: T) ↔ FieldLaw f ∧ TableLaw T := List.forall_mem_cons

theorem tableLaw_nil : TableLaw [] := fun _ h => nomatch h

-- field by field over the literal table; `cAny`, `cLen` … are unfolded to the `accept` they are, for `accept_law`
theorem globalTable_law (W : WirePrims) : TableLaw (globalTable W) := by
  simp only [globalTable, fOpt, fMap, fKeyList, tableLaw_cons, tableLaw_nil, fieldLaw_iff, cAny, cLen, cEmpty, countNorm_law,
    accept_law, and_self]

theorem outputTable_law (W : WirePrims) : TableLaw (outputTable W) := by
  simp only [outputTable, fOpt, fMap, tableLaw_cons, tableLaw_nil, fieldLaw_iff, cAny, cLen, tapTreeNorm_law, accept_law,
    and_self]

theorem inputTable_law (W : WirePrims) : TableLaw (inputTable W) := by
  simp only [inputTable, fOpt, fMap, tableLaw_cons, tableLaw_nil, fieldLaw_iff, cAny, cLen, cHeight, cTime,
    schnorrNorm_law, cPreimage_law, accept_law, and_self]

theorem tags_ok_of (T : List Field) (h : (Tag.plain propType :: T.map (·.tag)).Nodup) : TableOk T :=
  ⟨(List.nodup_cons.mp h).2, fun _ hf e => (List.nodup_cons.mp h).1 (e ▸ List.mem_map_of_mem hf)⟩

theorem globalTable_ok (W : WirePrims) : TableOk (globalTable W) := by
  apply tags_ok_of
  simp only [globalTable, List.map_cons, List.map_nil, fOpt, fMap, fKeyList]
  decide +kernel

theorem outputTable_ok (W : WirePrims) : TableOk (outputTable W) := by
  apply tags_ok_of
  simp only [outputTable, List.map_cons, List.map_nil, fOpt, fMap]
  decide +kernel

theorem inputTable_ok (W : WirePrims) : TableOk (inputTable W) := by
  apply tags_ok_of
  simp only [inputTable, List.map_cons, List.map_nil, fOpt, fMap]
  decide +kernel

end EV.Proofs.PsetWireCodec

namespace EV.Proofs.PsetWireConv
open EV EV.Codec EV.PsetWire EV.Proofs.CodecPrim EV.Proofs.PsetWireMap EV.Proofs.PsetWireCodec

/-- `TxInWitness.wfStack`: what `Vec<Vec<u8>>` can decode -/
abbrev WfStack (l : List Bytes) : Prop := l.length * 24 ≤ maxVecSize ∧ ∀ b ∈ l, b.length ≤ maxVecSize

/-- a `KeySource` as the Rust types hold it: 4-byte fingerprint, `u32` child numbers -/
def WfKeySource (k : KeySource) : Prop := k.fp.length = 4 ∧ ∀ p ∈ k.path, p < 256 ^ 4

def OptShape (s : Slot) : Prop := s.length ≤ 1 ∧ ∀ kv ∈ s, kv.1 = []

theorem toOpt_ofOpt (o : Option Bytes) : Slot.toOpt (Slot.ofOpt o) = o := by cases o <;> rfl

theorem toOptN_ofOptN (w : Nat) (o : Option Nat) (h : ∀ n, o = some n → n < 256 ^ w) :
    Slot.toOptN (Slot.ofOptN w o) = o := by
  cases o with
  | none => rfl
  | some n =>
    simp only [Slot.ofOptN, Slot.toOptN, Option.map_some, toOpt_ofOpt, leNat_leBytes w n (h n rfl)]

theorem stackOf_enc (l : List Bytes) (h : WfStack l) : Slot.stackOf (encBytesVecVec l) = l := by
  simp only [Slot.stackOf, bytesVecVec_lawful.complete_nil h]

theorem stackOk_enc (l : List Bytes) (h : WfStack l) : stackOk (encBytesVecVec l) = true := by
  simp only [stackOk, bytesVecVec_lawful.complete_nil h]

theorem toOptL_ofOptL (o : Option (List Bytes)) (h : ∀ l, o = some l → WfStack l) :
    Slot.toOptL (Slot.ofOptL o) = o := by
  cases o with
  | none => rfl
  | some l => simp only [Slot.ofOptL, Slot.toOptL, Option.map_some, toOpt_ofOpt, stackOf_enc l (h l rfl)]

theorem mand_b (b : Bytes) : (Slot.toOpt (Slot.ofOpt (some b))).getD [] = b := rfl

theorem mand_n (w n : Nat) (h : n < 256 ^ w) : (Slot.toOptN (Slot.ofOptN w (some n))).getD 0 = n := by
  simp only [Slot.ofOptN, Slot.toOptN, Option.map_some, toOpt_ofOpt, Option.getD_some, leNat_leBytes w n h]

theorem countOf_encVarint (n : Nat) (h : n < 2 ^ 64) : countOf (encVarint n) = n := by
  simp only [countOf, varint_lawful.complete_nil h]

theorem countOf_enc (n : Nat) (h : n < 2 ^ 64) : countOf ((Slot.toOpt (Slot.ofOpt (some (encVarint n)))).getD []) = n :=
  countOf_encVarint n h

theorem map_fix {α : Type} {f : α → α} {l : List α} (h : ∀ x ∈ l, f x = x) : l.map f = l :=
  (List.map_congr_left h).trans (List.map_id' l)

theorem toKeys_ofKeys (l : List Bytes) : Slot.toKeys (Slot.ofKeys l) = l :=
  List.map_map.trans (List.map_id'' (fun _ => rfl) l)

theorem chunk4_flatten (l : List Bytes) (hl : ∀ c ∈ l, c.length = 4) : chunk4 l.length l.flatten = l := by
  induction l with
  | nil => rfl
  | cons a l ih =>
    obtain ⟨ha, hl⟩ := List.forall_mem_cons.1 hl
    rw [List.length_cons, List.flatten_cons, chunk4, List.take_left' ha, List.drop_left' ha, ih hl]

theorem chunk4_enc (l : List Nat) (h : ∀ p ∈ l, p < 256 ^ 4) :
    (chunk4 l.length (l.flatMap (leBytes 4))).map leNat = l := by
  have := chunk4_flatten (l.map (leBytes 4)) (List.forall_mem_map.2 fun p _ => leBytes_length 4 p)
  rw [List.length_map] at this
  rw [List.flatMap_def, this, List.map_map]
  exact map_fix fun p hp => leNat_leBytes 4 p (h p hp)

theorem flatMap_leBytes_length (l : List Nat) : (l.flatMap (leBytes 4)).length = 4 * l.length :=
  (flatten_length (List.forall_mem_map.2 fun p _ => leBytes_length 4 p)).trans (congrArg _ (List.length_map _))

theorem keySourceOf_enc (k : KeySource) (h : WfKeySource k) : keySourceOf (encKeySource k) = k := by
  obtain ⟨fp, path⟩ := k
  obtain ⟨h1, h2⟩ := h
  simp only at h1 h2
  simp only [keySourceOf, encKeySource, List.take_left' h1, List.drop_left' h1, List.length_append, h1,
    flatMap_leBytes_length, Nat.add_sub_cancel_left, Nat.mul_div_cancel_left _ (by decide : 0 < 4), chunk4_enc path h2]

theorem xpub_enc (x : List (Bytes × KeySource)) (h : ∀ kv ∈ x, WfKeySource kv.2) :
    (x.map (fun kv => (kv.1, encKeySource kv.2))).map (fun kv => (kv.1, keySourceOf kv.2)) = x := by
  rw [List.map_map]
  exact map_fix fun kv hkv => by rw [Function.comp, keySourceOf_enc kv.2 (h kv hkv)]

section
variable {T : List Field} {n : String} {t : Tag} {vk : Bytes → Bool} {c : VCodec} {lt : Bytes → Bytes → Bool} {s : Slot}

theorem optLast_shape {T : List Field} {n : String} {t : Tag} {c : VCodec} {s : Slot} (h : WfSlot T (fOptLast n t c) s) :
    OptShape s := (shapeOk_unkeyed (.inr rfl)).mp h.shape

theorem optLast_val {T : List Field} {n : String} {t : Tag} {c : VCodec} {s : Slot} (h : WfSlot T (fOptLast n t c) s) :
    ∀ kv ∈ s, c kv.1 kv.2 = some kv.2 := fun kv hkv => (h.entries kv hkv).canon

theorem opt_cases (h : WfSlot T (fOpt n t c) s) : s = [] ∨ ∃ v, s = [([], v)] ∧ c [] v = some v :=
  unkeyed_cases h (.inl rfl)

theorem ofOpt_toOpt (h : WfSlot T (fOpt n t c) s) : Slot.ofOpt (Slot.toOpt s) = s := by
  rcases opt_cases h with rfl | ⟨v, rfl, _⟩ <;> rfl

/-- a mandatory field: `hne` is `¬ slotMissing st i` read at a literal list `st` whose `i`-th slot is `s` -/
theorem ofOpt_mand (h : WfSlot T (fOpt n t c) s) (hne : ¬ s.isEmpty) : Slot.ofOpt (some ((Slot.toOpt s).getD [])) = s := by
  rcases opt_cases h with rfl | ⟨v, rfl, _⟩
  · exact absurd rfl hne
  · rfl

/-- an unkeyed field held in memory as `dec` of its value bytes and written back by `enc` -/
theorem ofOpt_map {α : Type} {enc : α → Bytes} {dec : Bytes → α} {P : α → Prop} (h : WfSlot T (fOpt n t c) s)
    (hc : ∀ v, c [] v = some v → enc (dec v) = v ∧ P (dec v)) :
    Slot.ofOpt (((Slot.toOpt s).map dec).map enc) = s ∧ ∀ a, (Slot.toOpt s).map dec = some a → P a := by
  rcases opt_cases h with rfl | ⟨v, rfl, hv⟩
  · exact ⟨rfl, fun a ha => nomatch ha⟩
  · obtain ⟨e, hp⟩ := hc v hv
    refine ⟨by simp only [Slot.toOpt, Option.map_some, Slot.ofOpt, e], ?_⟩
    intro a ha
    cases ha
    exact hp

theorem ofOptN_toOptN (w : Nat) (h : WfSlot T (fOpt n t c) s) (hc : ∀ k v x, c k v = some x → v.length = w) :
    Slot.ofOptN w (Slot.toOptN s) = s ∧ ∀ n, Slot.toOptN s = some n → n < 256 ^ w :=
  ofOpt_map (enc := leBytes w) (dec := leNat) h fun v hv => ⟨leBytes_leNat (hc _ _ _ hv), leNat_lt (hc _ _ _ hv)⟩

theorem ofOptN_mand (w : Nat) (h : WfSlot T (fOpt n t c) s) (hc : ∀ k v x, c k v = some x → v.length = w) (hne : ¬ s.isEmpty) :
    Slot.ofOptN w (some ((Slot.toOptN s).getD 0)) = s ∧ (Slot.toOptN s).getD 0 < 256 ^ w := by
  obtain ⟨e, hb⟩ := ofOptN_toOptN w h hc
  rcases opt_cases h with rfl | ⟨v, rfl, _⟩
  · exact absurd rfl hne
  · exact ⟨e, hb _ rfl⟩

theorem stackOk_sound (b : Bytes) (h : stackOk b = true) : encBytesVecVec (Slot.stackOf b) = b ∧ WfStack (Slot.stackOf b) := by
  unfold stackOk at h
  split at h
  next l hd =>
    simp only [Slot.stackOf, hd]
    exact (bytesVecVec_lawful.whole_iff.mp hd).imp_left Eq.symm
  next => cases h

theorem ofOptL_toOptL (h : WfSlot T (fOpt n t (accept stackOk)) s) :
    Slot.ofOptL (Slot.toOptL s) = s ∧ ∀ l, Slot.toOptL s = some l → WfStack l :=
  ofOpt_map (enc := encBytesVecVec) (dec := Slot.stackOf) h (fun v hv => stackOk_sound v (accept_some hv).1)

theorem count_sound (v : Bytes) (h : countNorm [] v = some v) : encVarint (countOf v) = v ∧ countOf v < 2 ^ 64 := by
  unfold countNorm at h
  split at h
  next n r hv =>
    simp only [countOf, hv]
    exact ⟨Option.some.inj h, (varint_lawful.sound _ _ _ hv).2⟩
  next => cases h

theorem ofOpt_count (h : WfSlot T (fOpt n t countNorm) s) (hne : ¬ s.isEmpty) :
    Slot.ofOpt (some (encVarint (countOf ((Slot.toOpt s).getD [])))) = s ∧ countOf ((Slot.toOpt s).getD []) < 2 ^ 64 := by
  rcases opt_cases h with rfl | ⟨v, rfl, hv⟩
  · exact absurd rfl hne
  · obtain ⟨e, hb⟩ := count_sound v hv
    exact ⟨by simp only [Slot.toOpt, Option.getD_some, Slot.ofOpt, e], hb⟩

theorem chunk4_sound (n : Nat) (b : Bytes) (hb : b.length = 4 * n) :
    ((chunk4 n b).map leNat).flatMap (leBytes 4) = b ∧ ∀ p ∈ (chunk4 n b).map leNat, p < 256 ^ 4 := by
  obtain ⟨l, rfl, rfl, hl⟩ := exists_chunks 4 n b hb
  rw [chunk4_flatten l hl, List.flatMap_map]
  refine ⟨congrArg List.flatten (map_fix fun c hc => ?_), List.forall_mem_map.2 fun c hc => leNat_lt (hl c hc)⟩
  exact leBytes_leNat (hl c hc)

theorem keySource_sound (v : Bytes) (h : keySourceOk v = true) :
    encKeySource (keySourceOf v) = v ∧ WfKeySource (keySourceOf v) := by
  simp only [keySourceOk, Bool.and_eq_true, decide_eq_true_eq, beq_iff_eq] at h
  obtain ⟨h4, hm⟩ := h
  have hlen : (v.drop 4).length = 4 * ((v.length - 4) / 4) := by
    simp only [List.length_drop]
    omega
  obtain ⟨e, hb⟩ := chunk4_sound _ _ hlen
  refine ⟨?_, ?_, hb⟩
  · simp only [encKeySource, keySourceOf, e, List.take_append_drop]
  · simp only [keySourceOf, List.length_take]
    omega

theorem xpub_sound (h : WfSlot T (fMap n t vk (accept keySourceOk) lt) s) :
    (s.map (fun kv => (kv.1, keySourceOf kv.2))).map (fun kv => (kv.1, encKeySource kv.2)) = s ∧
      ∀ kv ∈ s.map (fun kv => (kv.1, keySourceOf kv.2)), WfKeySource kv.2 := by
  have hv : ∀ kv ∈ s, encKeySource (keySourceOf kv.2) = kv.2 ∧ WfKeySource (keySourceOf kv.2) := fun kv hkv =>
    keySource_sound kv.2 (accept_some (k := kv.1) (h.entries kv hkv).canon).1
  refine ⟨?_, List.forall_mem_map.mpr fun kv hkv => (hv kv hkv).2⟩
  rw [List.map_map]
  exact map_fix fun kv hkv => by rw [Function.comp, (hv kv hkv).1]

theorem ofKeys_toKeys (h : WfSlot T (fKeyList n t vk) s) : Slot.ofKeys (Slot.toKeys s) = s := by
  have hv : ∀ kv ∈ s, kv.2 = [] := fun kv hkv => by
    simpa using (accept_some (k := kv.1) ((h.entries kv hkv).canon : cEmpty kv.1 kv.2 = some kv.2)).1
  simp only [Slot.ofKeys, Slot.toKeys, List.map_map]
  exact map_fix fun kv hkv => by rw [Function.comp, ← hv kv hkv]

end

end EV.Proofs.PsetWireConv
