/-
  Injectivity of the Elements taproot signing serialisation on canonical committed-field records
  (modulo collisions of SHA-256), and canonicity of the records built from canonical transactions.
-/
import EV.Proofs.SighashBasics
namespace EV.Sighash
open EV EV.Codec EV.Proofs.CodecPrim EV.Proofs.CodecTx

variable (P : Prims)

theorem proofs_lawful :
    Lawful ((decOptProof P.rangeproof).pair (decOptProof P.rangeproof)) encProofs (wfProofs P) :=
  (optProof_lawful P.rangeproof).pair (optProof_lawful P.rangeproof)

theorem txOut_parts_inj (o o' : TxOut) (h : (outBody o, o.witness) = (outBody o', o'.witness)) : o = o' := by
  obtain ⟨a, v, n, sc, w⟩ := o
  obtain ⟨a', v', n', sc', w'⟩ := o'
  simp only [outBody, Prod.mk.injEq, TxOut.mk.injEq] at h
  obtain ⟨⟨ea, ev, en, es, -⟩, ew⟩ := h
  rw [ea, ev, en, es, ew]

theorem outsAll_inj (l l' : List TxOut) (hl : ∀ o ∈ l, o.wf P) (hl' : ∀ o ∈ l', o.wf P)
    (heq : l.flatMap TxOut.enc = l'.flatMap TxOut.enc)
    (hw : l.flatMap (fun o => o.witness.enc) = l'.flatMap (fun o => o.witness.enc)) : l = l' := by
  -- the message writes the bodies of the outputs in one block and their witnesses in another; neither encoding is
  -- ever empty, so each block by itself determines its list
  have hb : l.map outBody = l'.map outBody :=
    flatMap_injective (txOut_lawful P) rfl _ _
      (List.forall_mem_map.mpr fun o ho => ⟨(hl o ho).1, rfl⟩)
      (List.forall_mem_map.mpr fun o ho => ⟨(hl' o ho).1, rfl⟩)
      (by rw [List.flatMap_map, List.flatMap_map]; exact heq)
  have hw' : l.map (·.witness) = l'.map (·.witness) :=
    flatMap_injective (txOutWitness_lawful P) rfl _ _
      (List.forall_mem_map.mpr fun o ho => (hl o ho).2)
      (List.forall_mem_map.mpr fun o ho => (hl' o ho).2)
      (by rw [List.flatMap_map, List.flatMap_map]; exact hw)
  exact (List.map_inj_right txOut_parts_inj).mp (map_pair_iff.mpr ⟨hb, hw'⟩)

theorem flagByte_inj : ∀ x y : Bool × Bool, flagByte x = flagByte y → x = y := by
  have h : ∀ a b c d : Bool, flagByte (a, b) = flagByte (c, d) → a = c ∧ b = d := by decide
  rintro ⟨a, b⟩ ⟨c, d⟩ hxy
  obtain ⟨h1, h2⟩ := h a b c d hxy
  rw [h1, h2]

theorem spendByte_inj : ∀ p q p' q' : Bool,
    UInt8.ofNat ((if p then 1 else 0) * 2 + (if q then 1 else 0)) =
      UInt8.ofNat ((if p' then 1 else 0) * 2 + (if q' then 1 else 0)) → p = p' ∧ q = q' := by
  decide

theorem u8ofNat_inj {x y : Nat} (hx : x < 256) (hy : y < 256) (h : UInt8.ofNat x = UInt8.ofNat y) : x = y := by
  have := congrArg UInt8.toNat h
  rwa [UInt8.toNat_ofNat', UInt8.toNat_ofNat', Nat.mod_eq_of_lt hx, Nat.mod_eq_of_lt hy] at this

/-- the value of `hash_type & 0x80` in a canonical record with inputs of this form -/
def inKind : TapInputs → Nat
  | .all _ => 0
  | .one _ => 0x80

/-- likewise `hash_type & 3`; all outputs are selected by 1 in these bits and by the type 0, and 0 stands for both -/
def outKind : OutSel → Nat
  | .all _ => 0
  | .single _ => 3
  | .none => 2

def TapInputs.wfI : TapInputs → Prop
  | .all a => a.wf P
  | .one t => t.wf P

def OutSel.wfO : OutSel → Prop
  | .all l => ∀ o ∈ l, o.wf P
  | .single o => o.wf P
  | .none => True

theorem inputs_of_wf (v : TaprootView) (h : v.wf P) :
    inKind v.inputs = v.hashType &&& 0x80 ∧ v.inputs.wfI P := by
  obtain ⟨-, -, -, -, h, -⟩ := h
  revert h
  cases v.inputs with
  | all a => exact fun h => ⟨h.1.symm, h.2⟩
  | one t => exact fun h => ⟨h.1.symm, h.2⟩

theorem outputs_of_wf (v : TaprootView) (h : v.wf P) :
    outKind v.outputs = (if v.hashType &&& 3 = 1 then 0 else v.hashType &&& 3) ∧ v.outputs.wfO P := by
  obtain ⟨-, -, -, -, -, h, -⟩ := h
  revert h
  cases v.outputs with
  | all l =>
    rintro ⟨h0 | h1, hl⟩
    · exact ⟨by rw [h0]; rfl, hl⟩
    · exact ⟨(if_pos h1).symm, hl⟩
  | single o => exact fun h => ⟨by rw [h.1]; rfl, h.2⟩
  | none => exact fun h => ⟨by rw [h]; rfl, trivial⟩

section inj
variable (H : SigHashes) (hl : HashLen H) (hinj : ∀ x y, H.sha256 x = H.sha256 y → x = y)
include hl hinj

theorem sha_sep {x y r r' : Bytes} (h : H.sha256 x ++ r = H.sha256 y ++ r') : x = y ∧ r = r' :=
  have ⟨h1, h2⟩ := List.append_inj h (by rw [hl.sha256, hl.sha256])
  ⟨hinj x y h1, h2⟩

theorem serTapInputsAll_inj (a b : TapAllInputs) (ha : a.wf P) (hb : b.wf P)
    (h : serTapInputsAll H a = serTapInputsAll H b) (hidx : a.index = b.index) : a = b := by
  simp only [serTapInputsAll, List.append_assoc] at h
  obtain ⟨h1, h⟩ := sha_sep H hl hinj h
  obtain ⟨h2, h⟩ := sha_sep H hl hinj h
  obtain ⟨h3, h⟩ := sha_sep H hl hinj h
  obtain ⟨h4, h⟩ := sha_sep H hl hinj h
  obtain ⟨h5, h⟩ := sha_sep H hl hinj h
  obtain ⟨h6, h7⟩ := sha_sep H hl hinj h
  obtain ⟨a1, a2, a3, a4, a5, a6, a7, _⟩ := ha
  obtain ⟨b1, b2, b3, b4, b5, b6, b7, _⟩ := hb
  have e1 : a.flags = b.flags := (List.map_inj_right flagByte_inj).mp h1
  have e2 := flatMap_injective outpoint_lawful rfl _ _ a1 b1 h2
  have e3 := flatMap_injective ((asset_lawful P).pair (value_lawful P)) rfl _ _ a2 b2 h3
  have e4 := flatMap_injective bytesVec_lawful rfl _ _ a3 b3 h4
  have e5 := flatMap_injective (le_lawful 4) rfl _ _ a4 b4 h5
  have e6 := issuances_injective P _ _ (by rw [a6, b6, e1]) a5 b5 h6
  have e7 := flatMap_injective (proofs_lawful P) rfl _ _ a7 b7 (hinj _ _ h7)
  cases a
  cases b
  simp only [TapAllInputs.mk.injEq]
  exact ⟨e1, e2, e3, e4, e5, e6, e7, hidx⟩

theorem serTapThisInput_pf (t t' : TapThisInput) (ht : t.wf P) (ht' : t'.wf P) (r r' : Bytes)
    (h : serTapThisInput H t ++ r = serTapThisInput H t' ++ r') : t = t' ∧ r = r' := by
  obtain ⟨f, op, as, v, sc, sq, iss⟩ := t
  obtain ⟨f', op', as', v', sc', sq', iss'⟩ := t'
  simp only [TapThisInput.wf] at ht ht'
  obtain ⟨w1, w2, w3, w4, w5, w6, w7⟩ := ht
  obtain ⟨w1', w2', w3', w4', w5', w6', w7'⟩ := ht'
  simp only [serTapThisInput, List.append_assoc, List.cons_append, List.nil_append,
    List.cons.injEq] at h
  obtain ⟨hf, h0⟩ := h
  have hf := flagByte_inj _ _ hf
  obtain ⟨e1, h1⟩ := pf_outpoint _ _ _ _ w1 w1' h0
  obtain ⟨e2, h2⟩ := enc_prefix_free (asset_lawful P) _ _ _ _ w2 w2' h1
  obtain ⟨e3, h3⟩ := enc_prefix_free (value_lawful P) _ _ _ _ w3 w3' h2
  obtain ⟨e4, h4⟩ := pf_bytesVec _ _ _ _ w4 w4' h3
  obtain ⟨e5, h⟩ := pf_le4 _ _ _ _ w5 w5' h4
  clear h0 h1 h2 h3 h4
  subst hf e1 e2 e3 e4 e5
  rw [← w6] at w6'
  rcases option_isSome_eq_cases w6' with ⟨rfl, rfl⟩ | ⟨⟨i', p'⟩, ⟨i, p⟩, rfl, rfl⟩
  · simp only [List.cons_append, List.nil_append, List.cons.injEq, true_and] at h
    exact ⟨rfl, h⟩
  · simp only [List.append_assoc] at h
    obtain ⟨k1, k2⟩ := w7 i p rfl
    obtain ⟨k1', k2'⟩ := w7' i' p' rfl
    obtain ⟨e6, h1⟩ := pf_issuance P _ _ _ _ k1 k1' h
    obtain ⟨e7, h2⟩ := sha_sep H hl hinj h1
    have e7 := enc_injective_of_complete (proofs_lawful P) _ _ k2 k2' e7
    subst e6 e7
    exact ⟨rfl, h2⟩

omit hinj in
theorem tapX_length (x : TapInputs) : (tapX H x).length = if inKind x = 0 then 224 else 0 := by
  cases x
  · simp only [tapX, serTapInputsAll, List.length_append, hl.sha256, inKind, if_true]
  · rfl

omit hinj in
theorem tapY_length (x : OutSel) : (tapY H x).length = if outKind x = 0 then 64 else 0 := by
  cases x
  · simp only [tapY, List.length_append, hl.sha256, outKind, if_true]
  · rfl
  · rfl

omit hinj in
theorem tapS_length (x : OutSel) : (tapS H x).length = if outKind x = 3 then 64 else 0 := by
  cases x
  · rfl
  · simp only [tapS, List.length_append, hl.sha256, outKind, if_true]
  · rfl

theorem tapIn_inj (x y : TapInputs) (hk : inKind x = inKind y) (hx : x.wfI P) (hy : y.wfI P)
    (r r' : Bytes) (h1 : tapX H x = tapX H y) (h2 : tapZ H x ++ r = tapZ H y ++ r') :
    x = y ∧ r = r' := by
  cases x with
  | all a =>
    cases y with
    | one t => simp [inKind] at hk
    | all b =>
      have hai : a.index < 2^32 := hx.2.2.2.2.2.2.2
      have hbi : b.index < 2^32 := hy.2.2.2.2.2.2.2
      obtain ⟨e8, hr⟩ := pf_le4 _ _ _ _ hai hbi h2
      exact ⟨congrArg TapInputs.all (serTapInputsAll_inj P H hl hinj a b hx hy h1 e8), hr⟩
  | one t =>
    cases y with
    | all b => simp [inKind] at hk
    | one t' =>
      obtain ⟨e, hr⟩ := serTapThisInput_pf P H hl hinj t t' hx hy r r' h2
      exact ⟨congrArg TapInputs.one e, hr⟩

theorem tapOut_inj (x y : OutSel) (hk : outKind x = outKind y) (hx : x.wfO P) (hy : y.wfO P)
    (h1 : tapY H x = tapY H y) (h2 : tapS H x = tapS H y) : x = y := by
  cases x with
  | all l =>
    cases y with
    | all l' =>
      obtain ⟨k1, k2⟩ := sha_sep H hl hinj h1
      rw [outsAll_inj P l l' hx hy k1 (hinj _ _ k2)]
    | single o => simp [outKind] at hk
    | none => simp [outKind] at hk
  | single o =>
    cases y with
    | all l' => simp [outKind] at hk
    | single o' =>
      obtain ⟨k1, k2⟩ := sha_sep H hl hinj h2
      have eb := (pf_txOutBody P).injective (outBody o) (outBody o') ⟨hx.1, rfl⟩ ⟨hy.1, rfl⟩ k1
      have ew := enc_injective_of_complete (txOutWitness_lawful P) _ _ hx.2 hy.2 (hinj _ _ k2)
      rw [txOut_parts_inj o o' (Prod.ext eb ew)]
    | none => simp [outKind] at hk
  | none =>
    cases y with
    | all l' => simp [outKind] at hk
    | single o' => simp [outKind] at hk
    | none => rfl

theorem tapAnnex_pf (x y : Option Bytes) (hk : x.isSome = y.isSome)
    (hx : ∀ a, x = some a → a.length ≤ maxVecSize) (hy : ∀ a, y = some a → a.length ≤ maxVecSize)
    (r r' : Bytes) (h : tapAnnexPart H x ++ r = tapAnnexPart H y ++ r') : x = y ∧ r = r' := by
  rcases option_isSome_eq_cases hk with ⟨rfl, rfl⟩ | ⟨a, b, rfl, rfl⟩
  · exact ⟨rfl, h⟩
  · simp only [tapAnnexPart] at h
    obtain ⟨k1, k2⟩ := sha_sep H hl hinj h
    rw [pf_bytesVec.injective _ _ (hx a rfl) (hy b rfl) k1]
    exact ⟨rfl, k2⟩

omit hl hinj in
theorem tapLeafPart_inj (x y : Option (Bytes × Nat)) (hk : x.isSome = y.isSome)
    (hx : ∀ h p, x = some (h, p) → h.length = 32 ∧ p < 2^32)
    (hy : ∀ h p, y = some (h, p) → h.length = 32 ∧ p < 2^32)
    (h : tapLeafPart x = tapLeafPart y) : x = y := by
  rcases option_isSome_eq_cases hk with ⟨rfl, rfl⟩ | ⟨⟨h1, p1⟩, ⟨h2, p2⟩, rfl, rfl⟩
  · rfl
  · simp only [tapLeafPart, List.append_assoc] at h
    obtain ⟨k1, k2⟩ := List.append_inj h (by rw [(hx h1 p1 rfl).1, (hy h2 p2 rfl).1])
    have k3 := pf_le4.injective _ _ (hx h1 p1 rfl).2 (hy h2 p2 rfl).2 (List.append_cancel_left k2)
    rw [k1, k3]

theorem serTaproot_inj' (a b : TaprootView) (ha : a.wf P) (hb : b.wf P)
    (h : serTaproot H a = serTaproot H b) : a = b := by
  obtain ⟨kia, wia⟩ := inputs_of_wf P a ha
  obtain ⟨kib, wib⟩ := inputs_of_wf P b hb
  obtain ⟨koa, woa⟩ := outputs_of_wf P a ha
  obtain ⟨kob, wob⟩ := outputs_of_wf P b hb
  obtain ⟨g1, g2, g3, g4, -, -, g7, g8⟩ := ha
  obtain ⟨g1', g2', g3', g4', -, -, g7', g8'⟩ := hb
  rw [serTaproot_eq, serTaproot_eq] at h
  simp only [List.append_assoc] at h
  obtain ⟨e1, h⟩ := List.append_inj h (by rw [g1, g1'])
  rw [e1] at h
  obtain ⟨e2, h⟩ := List.cons.inj (List.append_cancel_left h)
  have e2 : a.hashType = b.hashType := u8ofNat_inj (by omega) (by omega) e2
  obtain ⟨e3, h⟩ := pf_le4 _ _ _ _ g3 g3' h
  obtain ⟨e4, h⟩ := pf_le4 _ _ _ _ g4 g4' h
  -- the hash type fixes which optional blocks are present, hence where they end
  have kin : inKind a.inputs = inKind b.inputs := by rw [kia, kib, e2]
  have kout : outKind a.outputs = outKind b.outputs := by rw [koa, kob, e2]
  obtain ⟨eX, h⟩ := List.append_inj h (by rw [tapX_length H hl, tapX_length H hl, kin])
  obtain ⟨eY, h⟩ := List.append_inj h (by rw [tapY_length H hl, tapY_length H hl, kout])
  obtain ⟨eB, h⟩ := List.cons.inj h
  obtain ⟨kl, ka⟩ := spendByte_inj _ _ _ _ eB
  obtain ⟨eIn, h⟩ := tapIn_inj P H hl hinj _ _ kin wia wib _ _ eX h
  obtain ⟨eA, h⟩ := tapAnnex_pf H hl hinj _ _ ka g7 g7' _ _ h
  obtain ⟨eS, h⟩ := List.append_inj h (by rw [tapS_length H hl, tapS_length H hl, kout])
  have eOut := tapOut_inj P H hl hinj _ _ kout woa wob eY eS
  have eL := tapLeafPart_inj _ _ kl g8 g8' h
  show TaprootView.mk a.genesis a.hashType a.version a.lockTime a.inputs a.outputs a.annex a.leaf =
    TaprootView.mk b.genesis b.hashType b.version b.lockTime b.inputs b.outputs b.annex b.leaf
  rw [e1, e2, e3, e4, eIn, eOut, eA, eL]

end inj

theorem proofsOf_wf (i : TxIn) (h : i.witness.wf P) : wfProofs P (proofsOf i) := ⟨h.1, h.2.1⟩

theorem specTapInputs_wf (tx : Tx) (htx : tx.wf P) (idx : Nat) (pv : Prevouts) (hpv : pv.wf P) (ty : SchnorrTy)
    (hty : ty ≠ .reserved) :
    ∀ ins : TapInputs, specTapInputs tx idx pv ty.byte = .ok ins →
      match ins with
      | .all a => ty.byte &&& 0x80 = 0 ∧ a.wf P
      | .one t => ty.byte &&& 0x80 = 0x80 ∧ t.wf P := by
  intro ins h
  obtain ⟨-, -, -, -, hin, -⟩ := htx
  cases hacp : ty.acp with
  | true =>
    obtain ⟨txin, spent, hi, hg, rfl⟩ := VA.tapInputs_acp ty hty hacp tx idx pv ins h
    have hmem := hin txin (List.mem_of_getElem? hi)
    have hs := (get_post pv idx).of_ok hg P hpv
    refine ⟨(schnorr_acp_iff ty hty).mpr hacp, outpoint_wf_of_wfBody P txin hmem.1, hs.1, hs.2.1, hs.2.2.2,
      wfBody_sequence P hmem.1, rfl, fun i p hip => ?_⟩
    obtain ⟨x, hio, hx⟩ := Option.map_eq_some_iff.mp hip
    rw [← (Prod.mk.inj hx).1, ← (Prod.mk.inj hx).2]
    exact ⟨issuanceOf_wf P txin hmem.1 x hio, proofsOf_wf P txin hmem.2⟩
  | false =>
    obtain ⟨ps, rfl, rfl⟩ := VA.tapInputs_nacp ty hty hacp tx idx pv ins h
    rw [allView_of_core]
    refine ⟨schnorr_nacp ty hty hacp, ?_, ?_, ?_, ?_, ?_, ?_, ?_, Nat.mod_lt _ (by decide)⟩
    · exact List.forall_mem_map.mpr fun i hi => outpoint_wf_of_wfBody P i (hin i hi).1
    · exact List.forall_mem_map.mpr fun p hp => ⟨(hpv p hp).1, (hpv p hp).2.1⟩
    · exact List.forall_mem_map.mpr fun p hp => (hpv p hp).2.2.2
    · exact List.forall_mem_map.mpr fun i hi => wfBody_sequence P (hin i hi).1
    · intro x hx
      obtain ⟨i, hi, hix⟩ := List.mem_map.mp hx
      exact issuanceOf_wf P i (hin i hi).1 x hix
    · show (tx.input.map issuanceOf).map Option.isSome = (tx.input.map inFlag).map (fun f => f.2)
      rw [List.map_map, List.map_map]
      exact List.map_congr_left fun i _ => (congrArg Prod.snd (inFlag_eq i)).symm
    · exact List.forall_mem_map.mpr fun i hi => proofsOf_wf P i (hin i hi).2

theorem specTapOutputs_wf (tx : Tx) (htx : tx.wf P) (idx : Nat) (ty : SchnorrTy) (hty : ty ≠ .reserved) :
    ∀ outs : OutSel, specTapOutputs tx idx ty.byte = .ok outs →
      match outs with
      | .all l => (ty.byte = 0 ∨ ty.byte &&& 3 = 1) ∧ ∀ o ∈ l, o.wf P
      | .single o => ty.byte &&& 3 = 3 ∧ o.wf P
      | .none => ty.byte &&& 3 = 2 := by
  intro outs h
  obtain ⟨-, -, -, -, -, hout⟩ := htx
  obtain ⟨b1, b2, b3⟩ := schnorr_out_bits ty hty
  cases hs : ty.isSingle with
  | true =>
    obtain ⟨o, ho, rfl⟩ := VA.tapOutputs_single ty hty hs tx idx outs h
    exact ⟨b1 hs, hout o (List.mem_of_getElem? ho)⟩
  | false =>
    cases hn : ty.isNone with
    | true =>
      rw [VA.tapOutputs_none ty hty hs hn tx idx outs h]
      exact b2 hs hn
    | false =>
      rw [VA.tapOutputs_all ty hty hs hn tx idx outs h]
      exact ⟨b3 hs hn, hout⟩

theorem specTaprootView_wf (tx : Tx) (htx : tx.wf P) (idx : Nat) (pv : Prevouts) (annex : Option Bytes)
    (leaf : Option (Bytes × Nat)) (ty : SchnorrTy) (hty : ty ≠ .reserved) (genesis : Bytes)
    (hpv : pv.wf P) (hg : genesis.length = 32) (hann : ∀ a, annex = some a → a.length ≤ maxVecSize)
    (hleaf : ∀ h p, leaf = some (h, p) → h.length = 32 ∧ p < 2^32) (v : TaprootView)
    (h : specTaprootView tx idx pv annex leaf ty.byte genesis = .ok v) : v.wf P := by
  obtain ⟨ins, outs, -, hi, ho, rfl⟩ := VA.taprootView_ok ty hty tx idx pv annex leaf genesis v h
  exact ⟨hg, schnorr_valid ty hty, htx.1, htx.2.1, specTapInputs_wf P tx htx idx pv hpv ty hty ins hi,
    specTapOutputs_wf P tx htx idx ty hty outs ho, hann, hleaf⟩

theorem serTaproot_injective (H : SigHashes) (hl : HashLen H) (a b : TaprootView) (ha : a.wf P) (hb : b.wf P)
    (h : serTaproot H a = serTaproot H b) : a = b ∨ Collision H.sha256 := by
  by_cases hc : Collision H.sha256
  · exact Or.inr hc
  · exact Or.inl (serTaproot_inj' P H hl (fun x y hxy => (eq_or_collision hxy).resolve_right hc) a b ha hb h)

end EV.Sighash
