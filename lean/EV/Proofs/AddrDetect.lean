/-
  EV.Proofs.AddrDetect — C17 at the level of `Address::from_str` / `parse_with_params`:
  corrupted data characters, corrupted human-readable part.
-/
import EV.Proofs.AddrCanonical
import EV.Proofs.SegwitDetect
namespace EV.Addr
open EV.Bech32 EV.Base58

/-- a parsed witness-program address came through `from_bech32` of the network and kind its prefix spells -/
theorem segwit_route (P : Prims) (s : Text) (a : Address) (hok : fromStr P s = .ok a)
    (hseg : a.payload.isSegwit = true) :
    a.params ∈ Gen.allParamsB ∧ ∃ bl, lower (findPrefix s) = hrpOf bl a.params ∧ fromBech32 P s bl a.params = .ok a := by
  obtain ⟨hp, r⟩ := (fromStr_post P s).of_ok hok
  cases r with
  | segwit bl hm hfb => exact ⟨hp, bl, hm, hfb⟩
  | base58 data _ hfb =>
    rw [fromBase58_not_segwit P data _ a hfb] at hseg
    cases hseg

/-- **Data part.** One or two changed symbols in the data part of an accepted segwit string `h ++ "1" ++ d`. Under
    another network's parameters the statement allows for a valid base58check string, an alternative the proof
    never takes: what one of the three networks accepts, `from_str` accepts (`parse_of_route`), and `from_str`
    rejects. -/
theorem corrupted_address_rejected (P : Prims) (h d d' : Text) (a : Address)
    (hok : fromStr P (h ++ 49 :: d) = .ok a) (hseg : a.payload.isSegwit = true)
    (hd : ∀ c ∈ d, (fromChar c).isSome = true) (hd' : ∀ c ∈ d', (fromChar c).isSome = true)
    (hlen : d'.length = d.length)
    (h1 : 1 ≤ Code.diffCount (d.map sym) (d'.map sym)) (h2 : Code.diffCount (d.map sym) (d'.map sym) ≤ 2) :
    (∃ k, fromStr P (h ++ 49 :: d') = .err k) ∧
    (∃ k, parseWithParams P (h ++ 49 :: d') a.params = .err k) ∧
    (∀ q ∈ Gen.allParamsB, (∃ k, parseWithParams P (h ++ 49 :: d') q = .err k) ∨
      (decodeCheck P.sha256d (h ++ 49 :: d')).isSome = true) := by
  obtain ⟨hp, bl, hm, hfb⟩ := segwit_route P _ a hok hseg
  rw [findPrefix_split h d (no_sep_of_alphabet d hd)] at hm
  have hpre' : findPrefix (h ++ 49 :: d') = h := findPrefix_split h d' (no_sep_of_alphabet d' hd')
  obtain ⟨seg, hsegok, _⟩ := (fromBech32_post P _ bl a.params).of_ok hfb
  have hhlen : h.length ≤ 4 := by
    have h3 := (hrps_ok _ (hrpOf_mem bl _ hp)).2.1
    rw [← hm, lower, List.length_map] at h3
    omega
  obtain ⟨k, hk⟩ := corrupted_data_rejected _ (flavor_of bl) h d d' seg hsegok hhlen hd hd' hlen h1 h2
  -- the prefix is unchanged, so both parsers hand the new string to the same decoder
  obtain ⟨e1, e2⟩ := parse_segwit_err P (h ++ 49 :: d') a.params hp bl ((congrArg lower hpre').trans hm) k hk
  refine ⟨⟨k, e1⟩, ⟨k, e2⟩, fun q hq => ?_⟩
  rcases (parseWithParams_post P (h ++ 49 :: d') q).outcome with ⟨b, _, r⟩ | ⟨k', _, hk'⟩
  · rw [(parse_of_route P _ q hq b (r hq)).1] at e1
    cases e1
  · exact Or.inl ⟨k', hk'⟩

def IsBechHrp (x : Text) : Prop := ∃ p ∈ Gen.allParamsB, x = p.bechHrp

def IsBlechHrp (x : Text) : Prop := ∃ p ∈ Gen.allParamsB, x = p.blechHrp

theorem hrp_residues : ∀ bl, ∀ p ∈ Gen.allParamsB, ∀ q ∈ Gen.allParamsB, hrpOf bl p ≠ hrpOf bl q →
    (if bl then blechFlavor else crateFlavor).v0.code.polymod (hrpExpand (hrpOf bl p)) ≠
      (if bl then blechFlavor else crateFlavor).v0.code.polymod (hrpExpand (hrpOf bl q)) := by
  decide +kernel

/-- behind two different hrps of the same kind no data part has the same residue -/
theorem hrp_detected (bl : Bool) (p q : Gen.AddrParamsB) (hp : p ∈ Gen.allParamsB) (hq : q ∈ Gen.allParamsB)
    (hne : hrpOf bl p ≠ hrpOf bl q) (syms : List Nat) (hs : ∀ x ∈ syms, x < 32) :
    (if bl then blechFlavor else crateFlavor).v0.code.polymod (hrpExpand (hrpOf bl p) ++ syms) ≠
      (if bl then blechFlavor else crateFlavor).v0.code.polymod (hrpExpand (hrpOf bl q) ++ syms) := by
  have ff := flavorFacts _ (flavor_of bl)
  have hlt : ∀ r ∈ Gen.allParamsB, ∀ x ∈ hrpExpand (hrpOf bl r), x < 32 := fun r hr =>
    hrpExpand_lt _ fun c hc => by
      have := ((hrps_ok _ (hrpOf_mem bl r hr)).1.2.2 c hc).2.1
      omega
  exact Code.prefix_change_detected _ ff.good ff.lowBij _ _ _ (hlt p hp) (hlt q hq) hs (hrp_residues bl p hp q hq hne)

/-- one data part is not accepted behind two different hrps of the same kind: the checksum covers the hrp -/
theorem same_kind_hrp_detected (P : Prims) (bl : Bool) (p q : Gen.AddrParamsB) (hp : p ∈ Gen.allParamsB)
    (hq : q ∈ Gen.allParamsB) (h h' d : Text) (hd : ∀ c ∈ d, (fromChar c).isSome = true)
    (hm : lower h = hrpOf bl p) (hm' : lower h' = hrpOf bl q) (hne : lower h' ≠ lower h) (a b : Address)
    (hfb : fromBech32 P (h ++ 49 :: d) bl p = .ok a) (hfb' : fromBech32 P (h' ++ 49 :: d) bl q = .ok b) : False := by
  have hsep := no_sep_of_alphabet d hd
  obtain ⟨seg, hseg, _⟩ := (fromBech32_post P _ bl p).of_ok hfb
  obtain ⟨seg', hseg', _⟩ := (fromBech32_post P _ bl q).of_ok hfb'
  obtain ⟨_, _, _, _, _, d1, hs, hal, hver, hv⟩ := encode_of_segwitNew _ (flavor_of bl) _ seg hseg
  obtain ⟨_, _, _, _, _, d2, hs', hal', hver', hv'⟩ := encode_of_segwitNew _ (flavor_of bl) _ seg' hseg'
  obtain ⟨rfl, rfl⟩ := sep_split_inj _ _ _ _ hsep (no_sep_of_alphabet d1 hal) hs
  obtain ⟨rfl, rfl⟩ := sep_split_inj _ _ _ _ hsep (no_sep_of_alphabet d2 hal') hs'
  rw [← Option.some.inj (hver.symm.trans hver')] at hv'
  -- both verifications, in terms of the table hrps and the common code of the flavor's two variants
  simp only [verify_eq_true_iff, variant_code _ (flavor_of bl)] at hv hv'
  rw [← hrpExpand_lower, hm] at hv
  rw [← hrpExpand_lower, hm'] at hv'
  exact hrp_detected bl p q hp hq (fun e => hne (by rw [hm, hm', e])) _ (map_sym_lt d) (hv.trans hv'.symm)

/-- **Human-readable part (partial).** Let `h ++ "1" ++ d` parse as a segwit address and `h'` be no case variant
    of `h`. Then `from_str` rejects `h' ++ "1" ++ d`, unless (1) `h'` spells an hrp of the OTHER kind (unblinded ↔
    blinded, e.g. `ex`→`el`), where the data part is verified under a different code, or (2) `h'` matches no network
    and the whole string is a valid base58check string. -/
theorem hrp_corruption_partial (P : Prims) (h h' d : Text) (a : Address)
    (hok : fromStr P (h ++ 49 :: d) = .ok a) (hseg : a.payload.isSegwit = true)
    (hd : ∀ c ∈ d, (fromChar c).isSome = true) (hne : lower h' ≠ lower h) :
    (∃ k, fromStr P (h' ++ 49 :: d) = .err k) ∨
    (IsBechHrp (lower h) ∧ IsBlechHrp (lower h') ∨ IsBlechHrp (lower h) ∧ IsBechHrp (lower h')) ∨
    (decodeCheck P.sha256d (h' ++ 49 :: d)).isSome = true := by
  obtain ⟨hp, bl, hm, hfb⟩ := segwit_route P _ a hok hseg
  have hsep := no_sep_of_alphabet d hd
  rw [findPrefix_split h d hsep] at hm
  rcases (fromStr_post P (h' ++ 49 :: d)).outcome with ⟨b, _, hq, rb⟩ | ⟨k, _, hk⟩
  · right
    cases rb with
    | base58 data hdd _ =>
      right
      rw [hdd]
      rfl
    | segwit bl' hm' hfb' =>
      left
      rw [findPrefix_split h' d hsep] at hm'
      cases bl with
      | false =>
        cases bl' with
        | false => exact (same_kind_hrp_detected P false _ _ hp hq h h' d hd hm hm' hne a b hfb hfb').elim
        | true => exact Or.inl ⟨⟨_, hp, hm⟩, ⟨_, hq, hm'⟩⟩
      | true =>
        cases bl' with
        | false => exact Or.inr ⟨⟨_, hp, hm⟩, ⟨_, hq, hm'⟩⟩
        | true => exact (same_kind_hrp_detected P true _ _ hp hq h h' d hd hm hm' hne a b hfb hfb').elim
  · exact Or.inl ⟨k, hk⟩

end EV.Addr
