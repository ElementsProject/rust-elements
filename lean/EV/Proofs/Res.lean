/-
  Sequencing in `Res`. The model writes `match r with | .ok a => f a | .err e => .err e | .panic s => .panic s`,
  which equals `r.bind f` (by `cases r <;> rfl`, not by `rfl`: each `match` has its own matcher, stuck on a variable).
  `Post Q r E` says of one result all that is asked of a fallible function: no panic, a value satisfies `Q`, an error
  is of the class `E`. It is built along the function's text (`Post.bind`, `ite`, `guard`) and read with `of_ok`,
  `of_err`, `ne_panic` or `outcome`.
-/
import EV.Model.Bytes
namespace EV.Res

theorem bind_eq_ok {α β} {r : Res α} {f : α → Res β} {b : β} :
    r.bind f = .ok b ↔ ∃ a, r = .ok a ∧ f a = .ok b := by
  cases r with
  | ok a =>
    refine ⟨fun h => ⟨a, rfl, h⟩, fun ⟨_, ha, h⟩ => ?_⟩
    cases ha
    exact h
  | err e => exact ⟨nofun, fun ⟨_, ha, _⟩ => nomatch ha⟩
  | panic s => exact ⟨nofun, fun ⟨_, ha, _⟩ => nomatch ha⟩

theorem bind_eq_err {α β} {r : Res α} {f : α → Res β} {e : String} :
    r.bind f = .err e ↔ r = .err e ∨ ∃ a, r = .ok a ∧ f a = .err e := by
  cases r <;> simp [Res.bind]

theorem bind_eq_panic {α β} {r : Res α} {f : α → Res β} {s : String} :
    r.bind f = .panic s ↔ r = .panic s ∨ ∃ a, r = .ok a ∧ f a = .panic s := by
  cases r <;> simp [Res.bind]

theorem bind_ne_panic {α β} {r : Res α} {f : α → Res β} (hr : ∀ s, r ≠ .panic s) (hf : ∀ a s, f a ≠ .panic s)
    (s : String) : r.bind f ≠ .panic s :=
  fun h => (bind_eq_panic.mp h).elim (hr s) fun ⟨a, _, ha⟩ => hf a s ha

theorem bind_ok {α} (r : Res α) : r.bind .ok = r := by
  cases r <;> rfl

theorem map_bind {α β γ} (r : Res α) (f : α → β) (k : β → Res γ) :
    (r.map f).bind k = r.bind (fun a => k (f a)) := by
  cases r <;> rfl

theorem ok_bind {α β} (a : α) (f : α → Res β) : (Res.ok a).bind f = f a := rfl

theorem bind_assoc {α β γ} (r : Res α) (f : α → Res β) (g : β → Res γ) :
    (r.bind f).bind g = r.bind fun a => (f a).bind g := by
  cases r <;> rfl

theorem bind_congr {α β} {r : Res α} {f g : α → Res β} (h : ∀ a, r = .ok a → f a = g a) : r.bind f = r.bind g := by
  cases r with
  | ok a => exact h a rfl
  | err e => rfl
  | panic s => rfl

theorem guard_eq_ok {α} {c : Prop} [Decidable c] {e : String} {x : Res α} {a : α} :
    (if c then .err e else x) = .ok a ↔ ¬ c ∧ x = .ok a := by
  by_cases hc : c
  · rw [if_pos hc]
    exact ⟨nofun, fun h => absurd hc h.1⟩
  · rw [if_neg hc]
    exact ⟨fun h => ⟨hc, h⟩, fun h => h.2⟩

theorem guard_eq_panic {α} {c : Prop} [Decidable c] {e m : String} {x : Res α} :
    (if c then .err e else x) = .panic m ↔ ¬ c ∧ x = .panic m := by
  by_cases hc : c
  · rw [if_pos hc]
    exact ⟨nofun, fun h => absurd hc h.1⟩
  · rw [if_neg hc]
    exact ⟨fun h => ⟨hc, h⟩, fun h => h.2⟩

theorem guard_ne_panic {α} {c : Prop} [Decidable c] {e m : String} {x : Res α} (hx : x ≠ .panic m) :
    (if c then .err e else x) ≠ .panic m :=
  fun h => hx (guard_eq_panic.mp h).2

/-- the first result that is not a value, or else all the values: a walk of the model over a list of fallible items is
    `seq` of a `map` -/
def seq {α} : List (Res α) → Res (List α)
  | [] => .ok []
  | r :: rs => r.bind fun a => (seq rs).bind fun as => .ok (a :: as)

theorem seq_eq_ok {α} : ∀ {rs : List (Res α)} {as : List α}, seq rs = .ok as ↔ rs = as.map .ok
  | [], [] => ⟨fun _ => rfl, fun _ => rfl⟩
  | [], _ :: _ => ⟨nofun, nofun⟩
  | r :: rs, as => by
    simp only [seq, bind_eq_ok, seq_eq_ok (rs := rs), Res.ok.injEq]
    constructor
    · rintro ⟨a, rfl, as', rfl, rfl⟩
      rfl
    · cases as with
      | nil => exact nofun
      | cons a as' =>
        intro h
        cases h
        exact ⟨a, rfl, as', rfl, rfl⟩

theorem seq_ne_panic {α} : ∀ {rs : List (Res α)}, (∀ r ∈ rs, ∀ s, r ≠ .panic s) → ∀ s, seq rs ≠ .panic s
  | [], _, _ => nofun
  | r :: rs, h, s =>
    bind_ne_panic (h r List.mem_cons_self)
      (fun _ => bind_ne_panic (seq_ne_panic fun r' hr' => h r' (List.mem_cons_of_mem _ hr')) fun _ _ h => by cases h) s

theorem seq_map {α β} (g : α → β) : ∀ rs : List (Res α), seq (rs.map (Res.map g)) = (seq rs).map (List.map g)
  | [] => rfl
  | r :: rs => by
    simp only [List.map_cons, seq, seq_map g rs]
    cases r <;> try rfl
    cases seq rs <;> rfl

/-- `r` does not panic, a value it returns satisfies `Q`, an error it returns is of the class `E` -/
def Post {α} (Q : α → Prop) (r : Res α) (E : String → Prop := fun _ => True) : Prop :=
  match r with
  | .ok a => Q a
  | .err e => E e
  | .panic _ => False

namespace Post
variable {α β : Type} {Q Q' : α → Prop} {E : String → Prop} {r : Res α}

theorem ok {a : α} (h : Q a) : Post Q (.ok a) E := h

theorem err {e : String} (h : E e) : Post Q (.err e) E := h

theorem of_ok {a : α} (h : Post Q r E) (hr : r = .ok a) : Q a := by
  subst hr
  exact h

theorem of_err {e : String} (h : Post Q r E) (hr : r = .err e) : E e := by
  subst hr
  exact h

theorem ne_panic (h : Post Q r E) (s : String) : r ≠ .panic s := by
  rintro rfl
  exact h

/-- a stronger claim about the value may use that it is the value -/
theorem imp (h : Post Q r E) (hQ : ∀ a, r = .ok a → Q a → Q' a) : Post Q' r E := by
  cases r with
  | ok a => exact hQ a rfl h
  | err e => exact h
  | panic s => exact h

theorem imp_err {E' : String → Prop} (h : Post Q r E) (hE : ∀ e, E e → E' e) : Post Q r E' := by
  cases r with
  | ok a => exact h
  | err e => exact hE e h
  | panic s => exact h

theorem ite {c : Prop} [Decidable c] {r' : Res α} (h : c → Post Q r E) (h' : ¬ c → Post Q r' E) :
    Post Q (if c then r else r') E := by
  by_cases hc : c
  · rw [if_pos hc]
    exact h hc
  · rw [if_neg hc]
    exact h' hc

/-- for the default error class; under a named class the guard is an `ite` whose first arm is `.err` of the proof that
    `e` is in the class -/
theorem guard {c : Prop} [Decidable c] {e : String} (h : ¬ c → Post Q r) : Post Q (if c then .err e else r) :=
  ite (fun _ => .err trivial) h

theorem bind {Q : β → Prop} {f : α → Res β} (h : Post (fun a => Post Q (f a) E) r E) : Post Q (r.bind f) E := by
  cases r with
  | ok a => exact h
  | err e => exact h
  | panic s => exact h

theorem outcome (h : Post Q r E) : (∃ a, r = .ok a ∧ Q a) ∨ ∃ e, E e ∧ r = .err e := by
  cases r with
  | ok a => exact .inl ⟨a, rfl, h⟩
  | err e => exact .inr ⟨e, h, rfl⟩
  | panic s => exact h.elim

theorem intro (ht : ∀ s, r ≠ .panic s) (h : ∀ a, r = .ok a → Q a) : Post Q r := by
  cases r with
  | ok a => exact h a rfl
  | err e => exact trivial
  | panic s => exact absurd rfl (ht s)

/-- a bare no-panic fact as a `Post`, so that `err_of_not` and `outcome` apply to it -/
theorem self (h : ∀ s, r ≠ .panic s) : Post (fun a => r = .ok a) r :=
  intro h fun _ ha => ha

theorem err_of_not (h : Post Q r E) (hn : ∀ a, ¬ Q a) : ∃ e, r = .err e :=
  h.outcome.elim (fun ⟨a, _, ha⟩ => (hn a ha).elim) fun ⟨e, _, he⟩ => ⟨e, he⟩

end Post

end EV.Res
