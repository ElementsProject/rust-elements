/-
  EV.Proofs.AddrRoundtrip — the vocabulary in which the statements of C06 are written (a standard address is
  `WF P a`; `Payload.isSegwit` tells the two text forms apart), and the round trip: `parse (display a) = a` for
  every standard address on the three networks, under `from_str` and `parse_with_params` (`segwit_roundtrip`, also
  for the upper-cased string; `base58_roundtrip`).
-/
import EV.Proofs.AddrBase
import EV.Proofs.Base58
import EV.Proofs.Regroup
namespace EV.Addr
open EV.Bech32 EV.Base58

/-- a witness program, printed in a bech32 / blech32 form; the two hashes are printed in base58check -/
def Payload.isSegwit : Payload → Bool
  | .wit _ _ => true
  | _ => false

/-- the model's byte strings are lists of numbers: these are bytes -/
def bytesOk (l : List Nat) : Prop := ∀ b ∈ l, b < 256

/-- the payloads the parsers return: a 20-byte hash, or a witness program within the bounds both segwit decoders
    enforce (`validate_witness_program_length` and its blech32 counterpart) -/
def PayloadStd : Payload → Prop
  | .pkh h => h.length = 20 ∧ bytesOk h
  | .sh h => h.length = 20 ∧ bytesOk h
  | .wit ver prog => ver ≤ 16 ∧ 2 ≤ prog.length ∧ prog.length ≤ 40 ∧
      (ver = 0 → prog.length = 20 ∨ prog.length = 32) ∧ bytesOk prog

/-- a blinding key, if present, is 33 bytes that the key parser `P.validPk` accepts -/
def BlinderOk (P : Prims) : Option (List Nat) → Prop
  | none => True
  | some pk => pk.length = 33 ∧ P.validPk pk = true ∧ bytesOk pk

/-- a standard address -/
structure WF (P : Prims) (a : Address) : Prop where
  net : a.params ∈ Gen.allParamsB
  payload : PayloadStd a.payload
  blinder : BlinderOk P a.blinder

theorem BlinderOk.key {P : Prims} {key : Option (List Nat)} (h : BlinderOk P key) :
    (key.getD []).length = (if key.isSome then 33 else 0) ∧ bytesOk (key.getD []) := by
  cases key with
  | none => exact ⟨rfl, nofun⟩
  | some pk => exact ⟨h.1, h.2.2⟩

theorem Payload.eq_wit {pl : Payload} (h : pl.isSegwit = true) : ∃ ver prog, pl = .wit ver prog := by
  cases pl with
  | wit ver prog => exact ⟨ver, prog, rfl⟩
  | pkh _ | sh _ => cases h

theorem map_cmap_false (s : Text) : s.map (cmap false) = s :=
  map_eq_self fun c _ => cmap_false c

theorem map_cmap_true (s : Text) : s.map (cmap true) = upper s :=
  List.map_congr_left fun c _ => cmap_true c

theorem bytesToFes_length_le {bs : List Nat} {n : Nat} (h : bs.length ≤ n) :
    (bytesToFes bs).length ≤ (n * 8 + 4) / 5 := by
  rw [bytesToFes_length]
  exact Nat.div_le_div_right (Nat.add_le_add_right (Nat.mul_le_mul_right 8 h) 4)

/-- `impl Display`, witness programs: one `encode` call -/
theorem display_wit (P : Prims) (p : Gen.AddrParamsB) (ver : Nat) (prog : List Nat) (bl : Option (List Nat)) :
    display P ⟨p, .wit ver prog, bl⟩ =
      encode ((if bl.isSome then blechFlavor else crateFlavor).variant ver) (hrpOf bl.isSome p) ver
        (bytesToFes (bl.getD [] ++ prog)) := by
  cases bl <;> rfl

theorem findPrefix_encode (v : Variant) (hrp : Text) (ver : Nat) (fes : List Nat) (up : Bool)
    (hver : ver < 32) (hfes : ∀ x ∈ fes, x < 32) :
    findPrefix ((encode v hrp ver fes).map (cmap up)) = (lower hrp).map (cmap up) := by
  obtain ⟨d, hd, hal, _⟩ := encode_map_split v hrp ver fes up hver hfes
  rw [hd]
  exact findPrefix_split _ _ (no_sep_of_alphabet d hal)

/-- blech32's limits are the bech32 crate's, shifted by the 33 bytes of the blinding key -/
theorem validateLength_key (bl : Bool) (ver n : Nat) :
    validateLength (if bl then blechFlavor else crateFlavor) ver (n + if bl then 33 else 0) = true ↔
      2 ≤ n ∧ n ≤ 40 ∧ (ver = 0 → n = 20 ∨ n = 32) := by
  rw [validateLength_iff]
  cases bl
  · exact Iff.rfl
  · show 2 + 33 ≤ n + 33 ∧ n + 33 ≤ 40 + 33 ∧ (ver = 0 → n + 33 = 20 + 33 ∨ n + 33 = 32 + 33) ↔ _
    simp only [Nat.add_le_add_iff_right, Nat.add_right_cancel_iff]

theorem fromBech32_ok (P : Prims) (s : Text) (p : Gen.AddrParamsB) (seg : Seg) (key : Option (List Nat))
    (prog : List Nat) (hseg : segwitNew (if key.isSome then blechFlavor else crateFlavor) s = .ok seg)
    (hbytes : key.getD [] ++ prog = seg.bytes) (hkey : BlinderOk P key) :
    fromBech32 P s key.isSome p = .ok ⟨p, .wit seg.version prog, key⟩ := by
  unfold fromBech32
  rw [hseg]
  dsimp only
  rw [← hbytes]
  cases key with
  | none => rfl
  | some pk =>
    obtain ⟨hpl, hpv, _⟩ := hkey
    simp only [Option.isSome_some, if_true, Option.getD_some, List.length_append, hpl, List.take_left' hpl,
      List.drop_left' hpl, hpv]
    -- what is left are the two guards, `33 + prog.length < 33` and `!true`
    simp

/-- `from_bech32` of the address's network and kind, on the displayed string as printed or upper-cased -/
theorem fromBech32_display (P : Prims) (a : Address) (hwf : WF P a) (hs : a.payload.isSegwit = true) (up : Bool) :
    lower (findPrefix ((display P a).map (cmap up))) = hrpOf a.blinder.isSome a.params ∧
    fromBech32 P ((display P a).map (cmap up)) a.blinder.isSome a.params = .ok a := by
  obtain ⟨p, pl, bl⟩ := a
  obtain ⟨ver, prog, rfl⟩ := Payload.eq_wit hs
  obtain ⟨hnet, ⟨hver, h2, h40, hv0, hb⟩, hbl⟩ := hwf
  have hok := hrps_ok _ (hrpOf_mem bl.isSome p hnet)
  obtain ⟨hklen, hkb⟩ := hbl.key
  have hbytes : bytesOk (bl.getD [] ++ prog) := fun b hb' => (List.mem_append.1 hb').elim (hkb b) (hb b)
  rw [display_wit]
  constructor
  · rw [findPrefix_encode _ _ _ _ up (by omega) (bytesToFes_lt _), lower_map_cmap_lower]
    exact lower_hrpOf _ p hnet
  have hseg := segwitNew_encode _ (flavor_of bl.isSome) up _ hok.1 ver (bytesToFes (bl.getD [] ++ prog)) hver
    (bytesToFes_lt _) (validatePadding_bytesToFes _)
    (by
      rw [← fesToBytes_length, fesToBytes_bytesToFes _ hbytes, List.length_append, hklen, Nat.add_comm]
      exact (validateLength_key _ ver _).2 ⟨h2, h40, hv0⟩)
    (by
      cases bl with
      | some pk => rfl  -- blech32 puts no bound on the string
      | none =>
        -- at most 3 + 1 + 1 + 64 + 6 characters against `segwit::MAX_STRING_LENGTH` = 90
        have h64 : (bytesToFes prog).length ≤ 64 := bytesToFes_length_le h40
        have h3 : p.bechHrp.length ≤ 3 := hok.2.1
        show decide (p.bechHrp.length + 1 + (1 + (bytesToFes prog).length + 6) > 90) = false
        rw [decide_eq_false_iff_not]
        omega)
  exact fromBech32_ok P _ p _ bl prog hseg (fesToBytes_bytesToFes _ hbytes).symm hbl

theorem segwit_roundtrip (P : Prims) (a : Address) (hwf : WF P a) (hs : a.payload.isSegwit = true) (up : Bool) :
    fromStr P ((display P a).map (cmap up)) = .ok a ∧
    parseWithParams P ((display P a).map (cmap up)) a.params = .ok a := by
  obtain ⟨hpre, hfb⟩ := fromBech32_display P a hwf hs up
  exact parse_segwit P _ a.params hwf.net _ hpre _ hfb

/-- a payload shape of a base58check address and the bracket of its number `version ‖ more bytes` (checksum
    included) between `lo·58^k` and `(hi+1)·58^k` -/
structure HeadRow where
  version : Nat
  more : Nat
  k : Nat
  lo : Nat
  hi : Nat

/-- leading base-58 digit ranges of the nine payload shapes -/
def headRange : List HeadRow :=
  [⟨57, 24, 33, 22, 23⟩, ⟨39, 24, 33, 15, 16⟩, ⟨235, 24, 34, 1, 1⟩, ⟨75, 24, 33, 30, 30⟩,
   ⟨36, 24, 33, 14, 14⟩, ⟨19, 24, 33, 7, 8⟩, ⟨12, 58, 79, 27, 30⟩, ⟨4, 58, 79, 9, 11⟩, ⟨23, 58, 79, 53, 55⟩]

/-- each row brackets its number, which therefore has `k + 1 ≤ 150` base58 digits, and no base58 digit in
    `lo..hi` is written `e`, `l`, `t` or their capitals -/
theorem headRange_ok : ∀ e ∈ headRange,
    0 < e.version ∧ e.k < 150 ∧ 1 ≤ e.lo ∧ e.hi < 58 ∧
    e.lo * 58 ^ e.k ≤ e.version * 256 ^ e.more ∧ (e.version + 1) * 256 ^ e.more ≤ (e.hi + 1) * 58 ^ e.k ∧
    ∀ d ∈ List.range' e.lo (e.hi + 1 - e.lo), lowerByte (charOf d) ∉ [101, 108, 116] := by
  decide +kernel

/-- which first bytes / lengths occur: unblinded `[p2pkh|p2sh] ++ 20 ++ 4`, blinded `[blinded, …] ++ 54 ++ 4` -/
theorem headRange_covers : ∀ p ∈ Gen.allParamsB, ∀ v ∈ prefixBytes p,
    ∃ e ∈ headRange, e.version = v ∧ e.more = (if v = p.blinded then 58 else 24) := by
  decide

/-- a base58check string under a network's version byte matches no segwit hrp and is short enough for both parsers -/
theorem base58_reaches_decoder (P : Prims) (rest : List Nat) (hr : ∀ b ∈ rest, b < 256)
    (e : HeadRow) (he : e ∈ headRange) (hl : e.more = rest.length + 4) :
    let s := encodeCheck P.sha256d (e.version :: rest)
    dispatchBech P s (findPrefix s) Gen.fromStrOrder = none ∧ ¬ s.length > 150 := by
  intro s
  obtain ⟨hv0, hk, hlo, hhi, h1, h2, hch⟩ := headRange_ok e he
  have hall : ∀ x ∈ rest ++ checksum4 P.sha256d (e.version :: rest), x < 256 :=
    List.forall_mem_append.2 ⟨hr, checksum4_lt _ _⟩
  have hlen' : (rest ++ checksum4 P.sha256d (e.version :: rest)).length = e.more := by
    rw [List.length_append, checksum4_length, hl]
  rw [← hlen'] at h1 h2
  obtain ⟨d, tl, henc, hdlo, hdhi, htl⟩ := encode_head e.version (rest ++ checksum4 P.sha256d (e.version :: rest))
    hv0 hall e.k e.lo e.hi hlo hhi h1 h2
  have hs : s = charOf d :: tl := henc
  rw [hs]
  constructor
  · have hd : d < e.lo + (e.hi + 1 - e.lo) := by
      rw [Nat.add_sub_cancel' (Nat.le_succ_of_le (Nat.le_trans hdlo hdhi))]
      exact Nat.lt_succ_of_le hdhi
    exact no_match_of_head P (charOf d) tl (hch d (List.mem_range'_1.2 ⟨hdlo, hd⟩))
  · rw [List.length_cons, htl]
    omega

/-- the last step of `from_base58`: the payload kind from the version byte -/
def kindOf (p : Gen.AddrParamsB) (v : Nat) (h : List Nat) (bl : Option (List Nat)) : Res Address :=
  if v = p.p2pkh then .ok ⟨p, .pkh h, bl⟩
  else if v = p.p2sh then .ok ⟨p, .sh h, bl⟩
  else .err "InvalidAddressVersion"

theorem fromBase58_plain (P : Prims) (p : Gen.AddrParamsB) (b0 : Nat) (rest : List Nat) (hb : b0 ≠ p.blinded) :
    fromBase58 P (b0 :: rest) p = if rest.length ≠ 20 then .err "InvalidLength" else kindOf p b0 rest none := by
  simp only [fromBase58, if_neg hb, kindOf]

theorem fromBase58_blinded (P : Prims) (p : Gen.AddrParamsB) (pre : Nat) (pkh : List Nat) :
    fromBase58 P (p.blinded :: pre :: pkh) p =
      if pkh.length ≠ 53 then .err "InvalidLength"
      else if !P.validPk (pkh.take 33) then .err "InvalidBlindingPubKey"
      else kindOf p pre (pkh.drop 33) (some (pkh.take 33)) := by
  simp only [fromBase58, if_true, kindOf]

/-- version byte and hash of a base58check payload -/
def Payload.prefixed (p : Gen.AddrParamsB) : Payload → Option (Nat × List Nat)
  | .pkh h => some (p.p2pkh, h)
  | .sh h => some (p.p2sh, h)
  | .wit _ _ => none

/-- the bytes `display` feeds to base58check (`impl Display`: `prefixed`) -/
def base58Bytes (a : Address) : Option (List Nat) :=
  (a.payload.prefixed a.params).map fun vh =>
    match a.blinder with
    | some pk => a.params.blinded :: vh.1 :: (pk ++ vh.2)
    | none => vh.1 :: vh.2

theorem display_base58 (P : Prims) (a : Address) (bs : List Nat) (h : base58Bytes a = some bs) :
    display P a = encodeCheck P.sha256d bs := by
  obtain ⟨p, pl, bl⟩ := a
  cases pl <;> cases bl <;> cases h <;> rfl

theorem not_segwit_iff (a : Address) : a.payload.isSegwit = false ↔ ∃ bs, base58Bytes a = some bs := by
  obtain ⟨p, pl, bl⟩ := a
  cases pl
  · exact ⟨fun _ => ⟨_, rfl⟩, fun _ => rfl⟩
  · exact ⟨fun _ => ⟨_, rfl⟩, fun _ => rfl⟩
  · exact ⟨nofun, nofun⟩

theorem prefixed_std (p : Gen.AddrParamsB) (hp : p ∈ Gen.allParamsB) (pl : Payload) (hstd : PayloadStd pl)
    (v : Nat) (h : List Nat) (hpl : pl.prefixed p = some (v, h)) :
    v ∈ prefixBytes p ∧ v ≠ p.blinded ∧ v < 256 ∧ h.length = 20 ∧ bytesOk h ∧
    ∀ bl, kindOf p v h bl = .ok ⟨p, pl, bl⟩ := by
  obtain ⟨hd1, hd2, hd3, hb1, hb2, _⟩ := prefix_facts p hp
  cases pl with
  | pkh hh =>
    cases hpl
    exact ⟨by simp [prefixBytes], hd1, hb1, hstd.1, hstd.2, fun bl => if_pos rfl⟩
  | sh hh =>
    cases hpl
    exact ⟨by simp [prefixBytes], hd2, hb2, hstd.1, hstd.2, fun bl => by rw [kindOf, if_neg hd3, if_pos rfl]⟩
  | wit ver prog => cases hpl

theorem base58Bytes_wf (P : Prims) (a : Address) (hwf : WF P a) (bs : List Nat) (h : base58Bytes a = some bs) :
    ∃ v rest, bs = v :: rest ∧ v ∈ prefixBytes a.params ∧ (∀ b ∈ bs, b < 256) ∧
      rest.length = (if v = a.params.blinded then 54 else 20) ∧ fromBase58 P bs a.params = .ok a := by
  obtain ⟨p, pl, bl⟩ := a
  obtain ⟨hnet, hstd, hbl⟩ := hwf
  unfold base58Bytes at h
  obtain ⟨vh, hvh, rfl⟩ := Option.map_eq_some_iff.1 h
  obtain ⟨v, hh⟩ := vh
  obtain ⟨hv, hvb, hv256, hlen, hbytes, hkind⟩ := prefixed_std p hnet pl hstd v hh hvh
  cases bl with
  | none =>
    refine ⟨v, hh, rfl, hv, List.forall_mem_cons.2 ⟨hv256, hbytes⟩, hlen.trans (if_neg hvb).symm, ?_⟩
    rw [fromBase58_plain P p v hh hvb, if_neg (by simp [hlen])]
    exact hkind none
  | some pk =>
    obtain ⟨hpl, hpv, hpb⟩ := hbl
    obtain ⟨_, _, _, _, _, hb3⟩ := prefix_facts p hnet
    refine ⟨p.blinded, v :: (pk ++ hh), rfl, by simp [prefixBytes],
      List.forall_mem_cons.2 ⟨hb3, List.forall_mem_cons.2 ⟨hv256, List.forall_mem_append.2 ⟨hpb, hbytes⟩⟩⟩,
      by simp [hpl, hlen], ?_⟩
    rw [fromBase58_blinded, if_neg (by simp [hpl, hlen]), List.take_left' hpl, List.drop_left' hpl,
      if_neg (by simp [hpv])]
    exact hkind (some pk)

theorem base58_roundtrip (P : Prims) (a : Address) (hwf : WF P a) (bs : List Nat) (h : base58Bytes a = some bs) :
    decodeCheck P.sha256d (display P a) = some bs ∧
    fromStr P (display P a) = .ok a ∧ parseWithParams P (display P a) a.params = .ok a := by
  obtain ⟨v, rest, rfl, hv, hlt, hlen, hfb⟩ := base58Bytes_wf P a hwf _ h
  obtain ⟨e, he, rfl, hel⟩ := headRange_covers a.params hwf.net v hv
  have hdec := decodeCheck_encodeCheck P.sha256d _ hlt
  rw [display_base58 P a _ h]
  obtain ⟨hnone, hshort⟩ := base58_reaches_decoder P rest (fun b hb => hlt b (List.mem_cons_of_mem _ hb)) e he
    (by rw [hel, hlen]; split <;> rfl)
  exact ⟨hdec, parse_base58 P _ a.params hwf.net hnone hshort _ rest hdec hv _ hfb⟩

end EV.Addr
