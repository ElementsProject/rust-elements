/-
  EV.Proofs.Detect — the two finite tables lifted to all symbol strings: an error pattern with one or two
  non-zero symbols never has residue `C` under `Table2 c C N` (length ≤ N+1), nor residue 0 (length ≤ 1023).
-/
import EV.Proofs.PolymodTable
namespace EV.Bech32
namespace Code

/-- number of non-zero symbols of an error pattern -/
def weight : List Nat → Nat
  | [] => 0
  | x :: xs => (if x = 0 then 0 else 1) + weight xs

/-- number of positions at which two strings differ; what the longer has beyond the shorter is not counted -/
def diffCount : List Nat → List Nat → Nat
  | a :: as, b :: bs => (if a = b then 0 else 1) + diffCount as bs
  | _, _ => 0

theorem diffCount_cons (a b : Nat) (as bs : List Nat) :
    diffCount (a :: as) (b :: bs) = (if a = b then 0 else 1) + diffCount as bs := rfl

theorem weight_xorList (a b : List Nat) : weight (xorList a b) = diffCount a b := by
  induction a generalizing b with
  | nil => simp [xorList, weight, diffCount]
  | cons x a ih =>
    cases b with
    | nil => simp [xorList, weight, diffCount]
    | cons y b =>
      simp only [xorList, weight, diffCount, ih, xor_eq_zero]

theorem diffCount_append_left (p a b : List Nat) : diffCount (p ++ a) (p ++ b) = diffCount a b := by
  induction p with
  | nil => rfl
  | cons x p ih => simp [diffCount_cons, ih]

theorem diffCount_self (a : List Nat) : diffCount a a = 0 := by
  have := diffCount_append_left a [] []
  rwa [List.append_nil] at this

theorem diffCount_replace (p s : List Nat) (x y : Nat) : diffCount (p ++ x :: s) (p ++ y :: s) ≤ 1 := by
  rw [diffCount_append_left, diffCount_cons, diffCount_self, Nat.add_zero]
  split
  · exact Nat.zero_le 1
  · exact Nat.le_refl 1

/-- `w'` is the symbol string `w` with one or two symbols replaced -/
def Corrupted (w w' : List Nat) : Prop :=
  w.length = w'.length ∧ (∀ x ∈ w, x < 32) ∧ (∀ x ∈ w', x < 32) ∧ 1 ≤ diffCount w w' ∧ diffCount w w' ≤ 2

theorem Corrupted.append_left {w w' : List Nat} (h : Corrupted w w') (p : List Nat) (hp : ∀ x ∈ p, x < 32) :
    Corrupted (p ++ w) (p ++ w') := by
  obtain ⟨hlen, hw, hw', h1, h2⟩ := h
  rw [Corrupted, diffCount_append_left, List.length_append, List.length_append, hlen]
  exact ⟨rfl, List.forall_mem_append.mpr ⟨hp, hw⟩, List.forall_mem_append.mpr ⟨hp, hw'⟩, h1, h2⟩

theorem polymodFrom_weight_zero (c : Code) (s : Nat) (w : List Nat) (h : weight w = 0) :
    c.polymodFrom s w = c.Tpow w.length s := by
  induction w generalizing s with
  | nil => rfl
  | cons x w ih =>
    rw [weight, Nat.add_eq_zero_iff] at h
    obtain ⟨hx, hw⟩ := h
    obtain rfl : x = 0 := Decidable.byContradiction fun hx0 => absurd ((if_neg hx0).symm.trans hx) Nat.one_ne_zero
    rw [polymodFrom_cons, ih _ hw, List.length_cons, Tpow_succ']
    rfl

section
variable (c : Code)

/-- An error pattern after its first error `e`, in the reading of `Table2`: the state is `T^d e`, `w` holds at
    most one more error `x`, and `k` is the number of symbols after it; if none comes, `x = 0` and `k = 0`. -/
theorem tail_ne_C (C N : Nat) (ht : c.Table2 C N) (w : List Nat) (hw : ∀ x ∈ w, x < 32) (hwt : weight w ≤ 1)
    (e d : Nat) (he0 : 0 < e) (he : e < 32) (hlen : d + w.length ≤ N) :
    c.polymodFrom (c.Tpow d e) w ≠ C := by
  induction w generalizing d with
  | nil =>
    have := ht e 0 d 0 he0 he (by decide) (fun _ => rfl) (by simpa using hlen)
    simpa [Tpow, polymodFrom_nil] using this
  | cons x w ih =>
    obtain ⟨hx, hw'⟩ := List.forall_mem_cons.mp hw
    simp only [List.length_cons] at hlen
    rw [polymodFrom_cons, step_eq_T_xor c _ x hx]
    by_cases hx0 : x = 0
    · subst hx0
      rw [Nat.xor_zero]
      have hwt' : weight w ≤ 1 := by simpa [weight] using hwt
      exact ih hw' hwt' (d + 1) (by omega)
    · have hwt' : weight w = 0 := by
        simp [weight, hx0] at hwt
        omega
      rw [polymodFrom_weight_zero c _ w hwt']
      exact ht e x (d + 1) w.length he0 he hx (fun h => absurd h (Nat.succ_ne_zero d)) (by omega)

/-- leading zeros leave the state `0`, the first non-zero symbol `e` makes it `e = T^0 e` -/
theorem pattern_ne_C (C N : Nat) (ht : c.Table2 C N) (w : List Nat) (hw : ∀ x ∈ w, x < 32)
    (h1 : 1 ≤ weight w) (h2 : weight w ≤ 2) (hlen : w.length ≤ N + 1) :
    c.polymodFrom 0 w ≠ C := by
  induction w with
  | nil => simp [weight] at h1
  | cons x w ih =>
    obtain ⟨hx, hw'⟩ := List.forall_mem_cons.mp hw
    simp only [List.length_cons] at hlen
    rw [polymodFrom_cons, step_zero_sym]
    by_cases hx0 : x = 0
    · subst hx0
      exact ih hw' (by simpa [weight] using h1) (by simpa [weight] using h2) (by omega)
    · have hwt' : weight w ≤ 1 := by
        simp [weight, hx0] at h2
        omega
      exact tail_ne_C c C N ht w hw' hwt' x 0 (by omega) hx (by omega)

/-- By linearity the XOR of the two residues is the residue, from state `1 ⊕ 1 = 0`, of the error pattern
    `xorList w w'`, whose weight is `diffCount w w'`. -/
theorem residues_not_C_apart (C N : Nat) (ht : c.Table2 C N) (w w' : List Nat) (h : Corrupted w w')
    (hl : w.length ≤ N + 1) : c.polymod w ^^^ c.polymod w' ≠ C := by
  obtain ⟨hlen, hw, hw', h1, h2⟩ := h
  intro heq
  have hlin := polymod_linear c 1 1 w w' hlen hw hw'
  rw [Nat.xor_self, show c.polymodFrom 1 w ^^^ c.polymodFrom 1 w' = C from heq] at hlin
  refine pattern_ne_C c C N ht (xorList w w') (xorList_lt w w' hw hw') ?_ ?_ ?_ hlin
  · rw [weight_xorList]
    exact h1
  · rw [weight_xorList]
    exact h2
  · rw [xorList_length w w' hlen]
    exact hl

/-- `Table1` gives `Table2 0 1022`: were `T^d e ^^^ x = 0`, `T^d e` would be the bare symbol `x` -/
theorem residues_differ (hc : c.Good) (hb : c.LowBij) (ht : c.Table1) (w w' : List Nat)
    (h : Corrupted w w') (hl : w.length ≤ 1023) : c.polymod w ≠ c.polymod w' := by
  have ht0 : c.Table2 0 1022 := by
    intro e x d k he0 he hx hd0 _
    apply Tpow_ne_zero c hc hb k _ (Nat.xor_lt_two_pow (Tpow_lt c hc d e (hc.sym_lt he)) (hc.sym_lt hx))
    rw [Ne, xor_eq_zero]
    rcases Nat.eq_zero_or_pos d with rfl | hd
    · rw [hd0 rfl]
      exact Nat.ne_of_gt he0
    · have := ht e d he0 he hd (by omega)
      omega
  exact fun heq => residues_not_C_apart c 0 1022 ht0 w w' h hl ((xor_eq_zero _ _).mpr heq)

end
end Code
end EV.Bech32
