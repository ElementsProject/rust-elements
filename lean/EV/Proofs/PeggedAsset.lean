/-
  The pegged-asset section of C11 (EV.Model.PeggedAsset): the constants (from src/issuance.rs and the bitcoin crate),
  the derivation in closed form, what it commits to, the text forms of `AssetId`.
-/
import EV.Model.PeggedAsset
import EV.Proofs.Issuance
import EV.Proofs.Genesis
import EV.Proofs.Text
namespace EV.Proofs.PeggedAsset
open EV EV.Codec EV.Genesis EV.PeggedAsset EV.Proofs.Issuance

theorem vout_zero : Gen.peggedAssetVout = 0 := by decide

theorem le_vout : encLe 4 Gen.peggedAssetVout = [0, 0, 0, 0] := by decide

theorem parent_is_regtest : parentChainHash = regtestChainHash := by decide

theorem ids_distinct : networkIdLiquidBtc ≠ networkIdLiquidtestnetBtc := by decide

theorem liquidv1_named : NetworkParams.liquidv1.networkId = networkIdLiquidBtc := by decide

theorem liquidtestnet_named : NetworkParams.liquidtestnet.networkId = networkIdLiquidtestnetBtc := by decide

theorem regtest_ne_zero : regtestChainHash ≠ List.replicate 32 0 := by decide

theorem parent_ne_zero : parentChainHash ≠ List.replicate 32 0 := by decide

theorem const_lengths :
    liquidBtc.length = 32 ∧ liquidtestnetBtc.length = 32 ∧ regtestChainHash.length = 32 ∧
    bitcoinChainHash.length = 32 ∧ testnetChainHash.length = 32 := by decide

theorem consts_distinct : liquidBtc ≠ liquidtestnetBtc := by decide

variable (G : GHashes)

/-- `x` sits in the contract-hash position -/
theorem derive_eq (p : NetworkParams) (x : Bytes) :
    forParamsAndParent G p x =
      some (G.comb (G.comb (G.sha256d (commit G.sha256 p ++ encLe 4 Gen.peggedAssetVout)) x) Issuance.assetLeaf) := by
  simp only [forParamsAndParent, entropy_eq, fromEntropy_eq]

theorem derive_of_prevoutHash (p : NetworkParams) {h : Bytes}
    (hh : G.sha256d (commit G.sha256 p ++ encLe 4 Gen.peggedAssetVout) = h) (x : Bytes) :
    forParamsAndParent G p x = some (G.comb (G.comb h x) Issuance.assetLeaf) := by
  rw [derive_eq, hh]

theorem derive_is_newIssuance (p : NetworkParams) (x : Bytes) :
    forParamsAndParent G p x = Issuance.newIssuance G.toHashes ⟨commit G.sha256 p, 0⟩ x := by
  rw [← vout_zero]
  rfl

theorem derive_formula (p : NetworkParams) (x : Bytes) :
    forParamsAndParent G p x =
      some (G.comb (G.comb (G.sha256d (commit G.sha256 p ++ [0, 0, 0, 0])) x) (List.replicate 32 0)) := by
  rw [derive_eq, le_vout, assetLeaf_eq]

theorem custom_eq (p : NetworkParams) (h : ¬ IsNamed p) :
    forNetworkParams G p = forParamsAndParent G p parentChainHash := by
  have h1 : ¬ p.networkId = networkIdLiquidBtc := fun e => h (Or.inl e)
  have h2 : ¬ p.networkId = networkIdLiquidtestnetBtc := fun e => h (Or.inr e)
  simp only [forNetworkParams, h1, h2, if_false]

/-- the derivation is `new_issuance`, so the compression function alone separates parent chain hashes -/
theorem derive_inj (p q : NetworkParams) (x x' : Bytes) (h : forParamsAndParent G p x = forParamsAndParent G q x') :
    (G.sha256d (commit G.sha256 p ++ encLe 4 Gen.peggedAssetVout) =
      G.sha256d (commit G.sha256 q ++ encLe 4 Gen.peggedAssetVout) ∧ x = x') ∨ Coll2 G.comb :=
  (newIssuance_entropy G.toHashes ⟨_, _⟩ ⟨_, _⟩ x x' h).elim (entropy_inj G.toHashes _ _ x x') .inr

theorem derive_commits (p q : NetworkParams) (x x' : Bytes)
    (h : forParamsAndParent G p x = forParamsAndParent G q x') :
    (commit G.sha256 p = commit G.sha256 q ∧ x = x') ∨ (∃ a b, a ≠ b ∧ G.sha256d a = G.sha256d b) ∨ Coll2 G.comb := by
  rcases derive_inj G p q x x' h with ⟨h1, h2⟩ | hc
  · exact (Proofs.CodecPrim.eq_or_collision h1).imp (fun e => ⟨List.append_cancel_right e, h2⟩) Or.inl
  · exact Or.inr (Or.inr hc)

/-- the asset id of `liquid_genesis_asset_tx` is the derivation with the ZERO contract hash -/
theorem derive_zero (p : NetworkParams) :
    forParamsAndParent G p (List.replicate 32 0) =
      some (EV.Proofs.Genesis.genesisAssetId G.toHashes (commit G.sha256 p)) :=
  (derive_is_newIssuance G p _).trans (EV.Proofs.Genesis.newIssuance_genesis _ _)

theorem display_eq (a : Bytes) : display a = Text.hexStr a.reverse := rfl

theorem fromStr_display (a : Bytes) (h : a.length = 32) : fromStr (display a) = .ok a :=
  Text.hashParse_hashShow kind a h

theorem nib_upper : ∀ n : Fin 16, Hex.nib (upperChar (Hex.digit n.val)) = some n.val := by decide

theorem decodeChars_upper (bs : Bytes) : Hex.decodeChars ((Text.hexStr bs).map upperChar) = some bs := by
  simpa [Text.hexStr, List.map_flatMap, Hex.ofByte] using
    Text.decodeChars_digits (fun n => upperChar (Hex.digit n)) nib_upper bs

/-- `FromStr for AssetId` -/
theorem fromStr_ok_iff (s : Text.Str) (a : Bytes) :
    fromStr s = .ok a ↔ s.length = 64 ∧ Hex.decodeChars s = some a.reverse :=
  Text.hashParse_ok_iff kind s a

theorem fromStr_upperHex (a : Bytes) (h : a.length = 32) : fromStr (upperHex a) = .ok a :=
  (fromStr_ok_iff _ a).2
    ⟨by rw [upperHex, display_eq, List.length_map, Text.hexStr_length, List.length_reverse, h], decodeChars_upper _⟩

end EV.Proofs.PeggedAsset
