/- GENERATED by `python3 tools/gen_pset_fields.py lean-wire-proofs` — do not edit by hand.
   For each of the three records: the widths the Rust field types guarantee (`Bounds`), and the two
   directions of the record ⇄ slots conversion (`ofSlots_toSlots`, `toSlots_ofSlots`). -/
import EV.Proofs.PsetWireCodec
namespace EV
open EV.PsetWire EV.Codec EV.Proofs.PsetWireMap EV.Proofs.PsetWireCodec EV.Proofs.PsetWireConv

/-- widths the Rust types of the fields guarantee (integers within their width, key sources with a 4-byte fingerprint and `u32` children) -/
structure PsetGlobal.Bounds (x : PsetGlobal) : Prop where
  txVersion : x.txVersion < 256 ^ 4
  fallbackLocktime : ∀ n, x.fallbackLocktime = some n → n < 256 ^ 4
  inputCount : x.inputCount < 2 ^ 64
  outputCount : x.outputCount < 2 ^ 64
  txModifiable : ∀ n, x.txModifiable = some n → n < 256 ^ 1
  xpub : ∀ kv ∈ x.xpub, WfKeySource kv.2
  version : x.version < 256 ^ 4
  elementsTxModifiableFlag : ∀ n, x.elementsTxModifiableFlag = some n → n < 256 ^ 1

theorem PsetGlobal.ofSlots_toSlots (x : PsetGlobal) (hb : x.Bounds) : PsetGlobal.ofSlots x.toSlots = some x := by
  simp only [PsetGlobal.toSlots, PsetGlobal.ofSlots, toOpt_ofOpt, Option.getD_some, toKeys_ofKeys, mand_n _ _ hb.txVersion, toOptN_ofOptN _ _ hb.fallbackLocktime, countOf_encVarint _ hb.inputCount, countOf_encVarint _ hb.outputCount, toOptN_ofOptN _ _ hb.txModifiable, xpub_enc _ hb.xpub, mand_n _ _ hb.version, toOptN_ofOptN _ _ hb.elementsTxModifiableFlag]

theorem PsetGlobal.toSlots_ofSlots (W : WirePrims) (st : List Slot) (x : PsetGlobal)
    (hw : WfSlots (globalTable W) st) (hm0 : ¬ slotMissing st 0) (hm2 : ¬ slotMissing st 2) (hm3 : ¬ slotMissing st 3) (hm6 : ¬ slotMissing st 6) (h : PsetGlobal.ofSlots st = some x) :
    x.toSlots = st ∧ x.Bounds := by
  unfold PsetGlobal.ofSlots at h
  split at h
  · cases h
    obtain ⟨w0, w1, w2, w3, w4, w5, w6, w7, w8, -, -, -⟩ := hw.zip
    have c0 := ofOptN_mand 4 w0 cLen_len hm0
    have c1 := ofOptN_toOptN 4 w1 cLen_len
    have c2 := ofOpt_count w2 hm2
    have c3 := ofOpt_count w3 hm3
    have c4 := ofOptN_toOptN 1 w4 cLen_len
    have c5 := xpub_sound w5
    have c6 := ofOptN_mand 4 w6 cLen_len hm6
    have c8 := ofOptN_toOptN 1 w8 cLen_len
    refine ⟨?_, ?_⟩
    · simp only [PsetGlobal.toSlots, c0.1, c1.1, c2.1, c3.1, c4.1, c5.1, c6.1, ofKeys_toKeys w7, c8.1]
    · exact {
        txVersion := c0.2,
        fallbackLocktime := c1.2,
        inputCount := c2.2,
        outputCount := c3.2,
        txModifiable := c4.2,
        xpub := c5.2,
        version := c6.2,
        elementsTxModifiableFlag := c8.2 }
  · cases h

/-- widths the Rust types of the fields guarantee (integers within their width) -/
structure PsetOutput.Bounds (x : PsetOutput) : Prop where
  amount : ∀ n, x.amount = some n → n < 256 ^ 8
  blinderIndex : ∀ n, x.blinderIndex = some n → n < 256 ^ 4

theorem PsetOutput.ofSlots_toSlots (x : PsetOutput) (hb : x.Bounds) : PsetOutput.ofSlots x.toSlots = some x := by
  simp only [PsetOutput.toSlots, PsetOutput.ofSlots, toOpt_ofOpt, Option.getD_some, toOptN_ofOptN _ _ hb.amount, toOptN_ofOptN _ _ hb.blinderIndex]

theorem PsetOutput.toSlots_ofSlots (W : WirePrims) (st : List Slot) (x : PsetOutput)
    (hw : WfSlots (outputTable W) st) (hm10 : ¬ slotMissing st 10) (h : PsetOutput.ofSlots st = some x) :
    x.toSlots = st ∧ x.Bounds := by
  unfold PsetOutput.ofSlots at h
  split at h
  · cases h
    obtain ⟨w0, w1, -, w3, w4, -, w6, w7, w8, w9, w10, w11, w12, w13, w14, w15, w16, w17, -, -, -⟩ := hw.zip
    have c6 := ofOptN_toOptN 8 w6 cLen_len
    have c15 := ofOptN_toOptN 4 w15 cLen_len
    refine ⟨?_, ?_⟩
    · simp only [PsetOutput.toSlots, ofOpt_toOpt w0, ofOpt_toOpt w1, ofOpt_toOpt w3, ofOpt_toOpt w4, c6.1, ofOpt_toOpt w7, ofOpt_toOpt w8, ofOpt_toOpt w9, ofOpt_mand w10 hm10, ofOpt_toOpt w11, ofOpt_toOpt w12, ofOpt_toOpt w13, ofOpt_toOpt w14, c15.1, ofOpt_toOpt w16, ofOpt_toOpt w17]
    · exact {
        amount := c6.2,
        blinderIndex := c15.2 }
  · cases h

/-- widths the Rust types of the fields guarantee (integers within their width, witness stacks within the allocation limits of `Vec<Vec<u8>>`) -/
structure PsetInput.Bounds (x : PsetInput) : Prop where
  sighashType : ∀ n, x.sighashType = some n → n < 256 ^ 4
  finalScriptWitness : ∀ l, x.finalScriptWitness = some l → WfStack l
  previousOutputIndex : x.previousOutputIndex < 256 ^ 4
  sequence : ∀ n, x.sequence = some n → n < 256 ^ 4
  requiredTimeLocktime : ∀ n, x.requiredTimeLocktime = some n → n < 256 ^ 4
  requiredHeightLocktime : ∀ n, x.requiredHeightLocktime = some n → n < 256 ^ 4
  issuanceValueAmount : ∀ n, x.issuanceValueAmount = some n → n < 256 ^ 8
  peginValue : ∀ n, x.peginValue = some n → n < 256 ^ 8
  peginWitness : ∀ l, x.peginWitness = some l → WfStack l
  issuanceInflationKeys : ∀ n, x.issuanceInflationKeys = some n → n < 256 ^ 8
  amount : ∀ n, x.amount = some n → n < 256 ^ 8
  blindedIssuance : ∀ n, x.blindedIssuance = some n → n < 256 ^ 1

theorem PsetInput.ofSlots_toSlots (x : PsetInput) (hb : x.Bounds) : PsetInput.ofSlots x.toSlots = some x := by
  simp only [PsetInput.toSlots, PsetInput.ofSlots, toOpt_ofOpt, Option.getD_some, toOptN_ofOptN _ _ hb.sighashType, toOptL_ofOptL _ hb.finalScriptWitness, mand_n _ _ hb.previousOutputIndex, toOptN_ofOptN _ _ hb.sequence, toOptN_ofOptN _ _ hb.requiredTimeLocktime, toOptN_ofOptN _ _ hb.requiredHeightLocktime, toOptN_ofOptN _ _ hb.issuanceValueAmount, toOptN_ofOptN _ _ hb.peginValue, toOptL_ofOptL _ hb.peginWitness, toOptN_ofOptN _ _ hb.issuanceInflationKeys, toOptN_ofOptN _ _ hb.amount, toOptN_ofOptN _ _ hb.blindedIssuance]

theorem PsetInput.toSlots_ofSlots (W : WirePrims) (st : List Slot) (x : PsetInput)
    (hw : WfSlots (inputTable W) st) (hm13 : ¬ slotMissing st 13) (hm14 : ¬ slotMissing st 14) (h : PsetInput.ofSlots st = some x) :
    x.toSlots = st ∧ x.Bounds := by
  unfold PsetInput.ofSlots at h
  split at h
  · cases h
    obtain ⟨w0, w1, -, w3, w4, w5, -, w7, w8, -, -, -, -, w13, w14, w15, w16, w17, w18, -, -, -, w22, w23, w24, w25, w26, w27, w28, w29, w30, w31, w32, w33, w34, w35, w36, w37, w38, w39, w40, w41, w42, w43, w44, w45, -, -, -⟩ := hw.zip
    have c3 := ofOptN_toOptN 4 w3 cLen_len
    have c8 := ofOptL_toOptL w8
    have c14 := ofOptN_mand 4 w14 cLen_len hm14
    have c15 := ofOptN_toOptN 4 w15 cLen_len
    have c16 := ofOptN_toOptN 4 w16 cTime_len
    have c17 := ofOptN_toOptN 4 w17 cHeight_len
    have c24 := ofOptN_toOptN 8 w24 cLen_len
    have c32 := ofOptN_toOptN 8 w32 cLen_len
    have c33 := ofOptL_toOptL w33
    have c34 := ofOptN_toOptN 8 w34 cLen_len
    have c41 := ofOptN_toOptN 8 w41 cLen_len
    have c45 := ofOptN_toOptN 1 w45 cLen_len
    refine ⟨?_, ?_⟩
    · simp only [PsetInput.toSlots, ofOpt_toOpt w0, ofOpt_toOpt w1, c3.1, ofOpt_toOpt w4, ofOpt_toOpt w5, ofOpt_toOpt w7, c8.1, ofOpt_mand w13 hm13, c14.1, c15.1, c16.1, c17.1, ofOpt_toOpt w18, ofOpt_toOpt w22, ofOpt_toOpt w23, c24.1, ofOpt_toOpt w25, ofOpt_toOpt w26, ofOpt_toOpt w27, ofOpt_toOpt w28, ofOpt_toOpt w29, ofOpt_toOpt w30, ofOpt_toOpt w31, c32.1, c33.1, c34.1, ofOpt_toOpt w35, ofOpt_toOpt w36, ofOpt_toOpt w37, ofOpt_toOpt w38, ofOpt_toOpt w39, ofOpt_toOpt w40, c41.1, ofOpt_toOpt w42, ofOpt_toOpt w43, ofOpt_toOpt w44, c45.1]
    · exact {
        sighashType := c3.2,
        finalScriptWitness := c8.2,
        previousOutputIndex := c14.2,
        sequence := c15.2,
        requiredTimeLocktime := c16.2,
        requiredHeightLocktime := c17.2,
        issuanceValueAmount := c24.2,
        peginValue := c32.2,
        peginWitness := c33.2,
        issuanceInflationKeys := c34.2,
        amount := c41.2,
        blindedIssuance := c45.2 }
  · cases h

end EV
