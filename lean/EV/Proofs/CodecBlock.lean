/-
  Laws of the block-level codecs (EV.Model.Block), built on CodecPrim and CodecTx: dynafed parameters by their tag
  byte, the header by the dynafed bit of its version word, the block as header and transactions.  The block hash is
  taken of the header with its witness cleared: `hashPreimage` is that header's encoding without the last byte, so the
  header codec's injectivity is the hash preimage's.
-/
import EV.Model.Block
import EV.Proofs.CodecPrim
import EV.Proofs.CodecTx
namespace EV.Proofs.CodecBlock
open EV EV.Codec EV.Proofs.CodecPrim EV.Proofs.CodecTx

/-- core's lemma at the literal the model writes: `rw` does not see `0x80000000` as `2^31` -/
theorem or_hi (v : Nat) (h : v < 2^31) : v ||| 0x80000000 = v + 2^31 := Nat.or_two_pow_eq_add_of_lt h

set_option smartUnfolding false in
theorem fullParams_dec_eq : FullParams.dec =
    (bytesVec.pair <| (le 4).pair <| bytesVec.pair <| bytesVec.pair bytesVecVec).map
      fun (s, l, fp, fs, ext) => ⟨s, l, fp, fs, ext⟩ := by
  simp only [Dec.pair, Dec.map, Dec.bind_assoc, Dec.pure_bind]
  rfl

theorem fullParams_lawful : Lawful FullParams.dec FullParams.enc FullParams.wf :=
  ((bytesVec_lawful.pair <| (le_lawful 4).pair <| bytesVec_lawful.pair <|
      bytesVec_lawful.pair bytesVecVec_lawful).map
    (g := fun f : FullParams =>
      (f.signblockscript, f.signblockWitnessLimit, f.fedpegProgram, f.fedpegscript, f.extensionSpace))
    (fun _ h => ⟨rfl, h⟩) (fun _ h => ⟨rfl, h⟩)).congr fullParams_dec_eq
    (fun _ => by simp only [FullParams.enc, List.append_assoc])

set_option smartUnfolding false in
theorem params_dec_cons (t : UInt8) (r0 : Bytes) : Params.dec (t :: r0) =
    if t = 0 then .ok (.null, r0)
    else if t = 1 then
      (bytesVec.bind fun s => (le 4).bind fun l => (take 32).bind fun e => Dec.pure (.compact s l e)) r0
    else if t = 2 then (FullParams.dec.bind fun f => Dec.pure (.full f)) r0
    else .err "bad serialize type for dynafed parameters" := by
  unfold Params.dec Dec.bind Dec.pure
  rfl

theorem params_lawful : Lawful Params.dec Params.enc Params.wf := by
  refine .of_sound (fun bs => ?_) fun v r hw => ?_
  · cases bs with
    | nil => exact .err
    | cons t r0 =>
      rw [params_dec_cons]
      refine .ite (fun h0 => ?_) fun _ => ?_
      · subst h0
        exact .ok ⟨rfl, trivial⟩
      refine .ite (fun h1 => ?_) fun _ => ?_
      · subst h1
        refine bytesVec_lawful.sound_bind fun s r1 w1 e1 => (le_lawful 4).sound_bind fun l r2 w2 e2 =>
          (take_lawful 32).sound_bind fun e r3 w3 e3 => ?_
        subst e1 e2 e3
        refine .ok ⟨?_, w1, w2, w3⟩
        simp only [Params.enc, List.append_assoc]
        rfl
      refine .ite (fun h2 => ?_) fun _ => .err
      subst h2
      refine fullParams_lawful.sound_bind fun f r1 w1 e1 => ?_
      subst e1
      exact .ok ⟨rfl, w1⟩
  · cases v with
    | null => rfl
    | compact s l e =>
      obtain ⟨w1, w2, w3⟩ := hw
      simp only [Params.enc, List.append_assoc, List.cons_append, List.nil_append, params_dec_cons,
        if_neg (by decide : ¬ (1 : UInt8) = 0), if_true, bytesVec_lawful.bind_enc w1,
        (le_lawful 4).bind_enc w2, (take_lawful 32).bind_enc w3]
      rfl
    | full f =>
      simp only [Params.enc, List.cons_append, List.nil_append, params_dec_cons,
        if_neg (by decide : ¬ (2 : UInt8) = 0), if_neg (by decide : ¬ (2 : UInt8) = 1), if_true,
        fullParams_lawful.bind_enc hw]
      rfl

theorem word_dyn (w : Nat) (h : w / 2^31 = 1) : (w % 2^31) ||| 0x80000000 = w := by
  rw [or_hi _ (Nat.mod_lt _ (by decide))]
  omega

set_option smartUnfolding false in
theorem header_dec_eq : BlockHeader.dec =
    (le 4).bind fun v =>
      let isDyna := v / 2^31 = 1
      let version := if isDyna then v % 2^31 else v
      (take 32).bind fun prev => (take 32).bind fun mr => (le 4).bind fun time => (le 4).bind fun height r5 =>
        if isDyna then
          (Params.dec.bind fun cur => Params.dec.bind fun prop => bytesVecVec.bind fun w =>
            Dec.pure ⟨version, prev, mr, time, height, .dynafed cur prop w⟩) r5
        else
          (bytesVec.bind fun c => bytesVec.bind fun s =>
            Dec.pure ⟨version, prev, mr, time, height, .proof c s⟩) r5 := by
  unfold BlockHeader.dec Dec.bind Dec.pure
  rfl

theorem header_lawful : Lawful BlockHeader.dec BlockHeader.enc BlockHeader.wf := by
  refine .of_sound (fun bs => ?_) fun h r hw => ?_
  · rw [header_dec_eq]
    refine (le_lawful 4).sound_bind fun v r1 w1 e1 => (take_lawful 32).sound_bind fun prev r2 w2 e2 =>
      (take_lawful 32).sound_bind fun mr r3 w3 e3 => (le_lawful 4).sound_bind fun time r4 w4 e4 =>
      (le_lawful 4).sound_bind fun height r5 w5 e5 => ?_
    subst e1 e2 e3 e4 e5
    by_cases hdy : v / 2^31 = 1
    · simp only [if_pos hdy]
      refine params_lawful.sound_bind fun cur r6 w6 e6 => params_lawful.sound_bind fun prop r7 w7 e7 =>
        bytesVecVec_lawful.sound_bind fun w r8 w8 e8 => ?_
      subst e6 e7 e8
      refine .ok ⟨?_, Nat.mod_lt _ (by decide), w2, w3, w4, w5, w6, w7, w8⟩
      simp only [BlockHeader.enc, BlockHeader.versionWord, ExtData.isDynafed, ExtData.enc, if_true,
        List.append_assoc, word_dyn v hdy]
    · simp only [if_neg hdy]
      refine bytesVec_lawful.sound_bind fun c r6 w6 e6 => bytesVec_lawful.sound_bind fun s r7 w7 e7 => ?_
      subst e6 e7
      refine .ok ⟨?_, (by omega : v < 2^31), w2, w3, w4, w5, w6, w7⟩
      simp only [BlockHeader.enc, BlockHeader.versionWord, ExtData.isDynafed, ExtData.enc,
        List.append_assoc, Bool.false_eq_true, if_false]
  · obtain ⟨version, prev, mr, time, height, ext⟩ := h
    obtain ⟨hver, hprev, hroot, htime, hheight, hext⟩ := hw
    dsimp only at hver hprev hroot htime hheight hext
    have c2 := (take_lawful 32).bind_enc (β := BlockHeader) hprev
    have c3 := (take_lawful 32).bind_enc (β := BlockHeader) hroot
    have c4 := (le_lawful 4).bind_enc (β := BlockHeader) htime
    have c5 := (le_lawful 4).bind_enc (β := BlockHeader) hheight
    cases ext with
    | proof c s =>
      have hnd : ¬ version / 2^31 = 1 := by
        rw [Nat.div_eq_of_lt hver]
        decide
      simp only [header_dec_eq, BlockHeader.enc, BlockHeader.versionWord, ExtData.isDynafed,
        ExtData.enc, List.append_assoc, Bool.false_eq_true, if_false,
        (le_lawful 4).bind_enc (a := version) (by omega), c2, c3, c4, c5, if_neg hnd,
        bytesVec_lawful.bind_enc hext.1, bytesVec_lawful.bind_enc hext.2]
      rfl
    | dynafed cur prop w =>
      have hd : (version + 2^31) / 2^31 = 1 := by
        rw [Nat.add_div_right _ (by decide), Nat.div_eq_of_lt hver]
      have hm : (version + 2^31) % 2^31 = version := by
        rw [Nat.add_mod_right, Nat.mod_eq_of_lt hver]
      simp only [header_dec_eq, BlockHeader.enc, BlockHeader.versionWord, ExtData.isDynafed,
        ExtData.enc, List.append_assoc, if_true, or_hi version hver,
        (le_lawful 4).bind_enc (a := version + 2^31) (by omega), c2, c3, c4, c5, hd, hm,
        params_lawful.bind_enc hext.1, params_lawful.bind_enc hext.2.1, bytesVecVec_lawful.bind_enc hext.2.2]
      rfl

set_option smartUnfolding false in
theorem block_dec_eq (P : Prims) : Block.dec P =
    (BlockHeader.dec.pair (vecOf P.sizeTx (Tx.dec P))).map fun (h, txs) => ⟨h, txs⟩ := by
  simp only [Dec.pair, Dec.map, Dec.bind_assoc, Dec.pure_bind]
  rfl

theorem block_lawful (P : Prims) (hs : SizesPos P) : Lawful (Block.dec P) Block.enc (Block.wf P) :=
  ((header_lawful.pair (vecOf_lawful P.sizeTx hs.tx _ _ _ (tx_lawful P hs))).map
    (g := fun b : Block => (b.header, b.txdata))
    (fun _ h => ⟨rfl, h⟩) (fun _ h => ⟨rfl, h⟩)).congr (block_dec_eq P) (fun _ => rfl)

/-- the preimage ignores the solution / signblock witness, which is what `clear_witness` empties -/
theorem hashPreimage_clearWitness (h : BlockHeader) : h.clearWitness.hashPreimage = h.hashPreimage := by
  obtain ⟨version, prev, mr, time, height, ext⟩ := h
  cases ext <;> rfl

theorem clearWitness_wf (h : BlockHeader) (hw : h.wf) : h.clearWitness.wf := by
  obtain ⟨version, prev, mr, time, height, ext⟩ := h
  obtain ⟨hver, hprev, hroot, htime, hheight, hext⟩ := hw
  refine ⟨hver, hprev, hroot, htime, hheight, ?_⟩
  cases ext with
  | proof c s => exact ⟨hext.1, by simp [maxVecSize]⟩
  | dynafed c p w =>
    refine ⟨hext.1, hext.2.1, ?_, ?_⟩
    · simp [maxVecSize]
    · exact nofun

theorem clearWitness_enc (h : BlockHeader) : h.clearWitness.enc = h.hashPreimage ++ [0] := by
  unfold BlockHeader.clearWitness BlockHeader.enc BlockHeader.hashPreimage BlockHeader.versionWord
  cases hx : h.ext <;>
    simp [ExtData.clearWitness, ExtData.enc, ExtData.encHashed, ExtData.isDynafed, encBytesVec, encBytesVecVec,
      encVec, encVarint]

/-- every field except the witness part of the extension data, the dynafed marker included: a legacy and a dynafed
    header never share a preimage -/
theorem hashPreimage_injective (a b : BlockHeader) (ha : a.wf) (hb : b.wf)
    (h : a.hashPreimage = b.hashPreimage) : a.clearWitness = b.clearWitness :=
  enc_injective_of_complete header_lawful _ _ (clearWitness_wf a ha) (clearWitness_wf b hb)
    (by rw [clearWitness_enc, clearWitness_enc, h])

theorem sum_map_size (P : Prims) (l : List Tx) (h : ∀ t ∈ l, t.wf P) :
    (l.map Tx.size).sum = (l.flatMap Tx.enc).length := by
  rw [List.length_flatMap, List.map_congr_left fun t ht => size_eq_enc_length P t (h t ht)]

theorem block_size_eq (P : Prims) (b : Block) (h : b.wf P) : b.size = b.enc.length := by
  obtain ⟨_, _, htxs⟩ := h
  simp only [Block.size, Block.enc, encVec, List.length_append, encVarint_length,
    sum_map_size P _ htxs, Nat.add_assoc]

set_option linter.unusedVariables false in
/-- `Block::weight` -/
theorem block_weight_eq (P : Prims) (b : Block) :
    b.weight = 4 * (b.header.enc.length + varintSize b.txdata.length) + (b.txdata.map Tx.weight).sum := rfl

end EV.Proofs.CodecBlock
