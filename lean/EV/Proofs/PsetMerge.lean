/-
  Laws of `merge` (EV.Model.Pset): nothing present in an operand is lost, sortedness of the maps is preserved,
  `Input::merge`/`Output::merge` are associative and, on operands that agree wherever both define a value (`Compat`),
  commutative; the xpub key-source reconciliation as a decision table; `Global::merge`.
-/
import EV.Model.Pset
import EV.Proofs.PsetMap
import EV.Proofs.Res
namespace EV
open Codec

/-! Printed by `tools/gen_pset_fields.py lean-proofs` from the field table, down to the line "end of the printed part":
    change it there. -/
theorem PsetInput.Sorted.partialSigs {x : PsetInput} (h : x.Sorted) : KV.Sorted x.partialSigs := h.1

theorem PsetInput.Sorted.bip32Derivation {x : PsetInput} (h : x.Sorted) : KV.Sorted x.bip32Derivation := h.2.1

theorem PsetInput.Sorted.ripemd160Preimages {x : PsetInput} (h : x.Sorted) : KV.Sorted x.ripemd160Preimages := h.2.2.1

theorem PsetInput.Sorted.sha256Preimages {x : PsetInput} (h : x.Sorted) : KV.Sorted x.sha256Preimages := h.2.2.2.1

theorem PsetInput.Sorted.hash160Preimages {x : PsetInput} (h : x.Sorted) : KV.Sorted x.hash160Preimages := h.2.2.2.2.1

theorem PsetInput.Sorted.hash256Preimages {x : PsetInput} (h : x.Sorted) : KV.Sorted x.hash256Preimages := h.2.2.2.2.2.1

theorem PsetInput.Sorted.tapScriptSigs {x : PsetInput} (h : x.Sorted) : KV.Sorted x.tapScriptSigs := h.2.2.2.2.2.2.1

theorem PsetInput.Sorted.tapScripts {x : PsetInput} (h : x.Sorted) : KV.Sorted x.tapScripts := h.2.2.2.2.2.2.2.1

theorem PsetInput.Sorted.tapKeyOrigins {x : PsetInput} (h : x.Sorted) : KV.Sorted x.tapKeyOrigins := h.2.2.2.2.2.2.2.2.1

theorem PsetInput.Sorted.proprietary {x : PsetInput} (h : x.Sorted) : KV.Sorted x.proprietary := h.2.2.2.2.2.2.2.2.2.1

theorem PsetInput.Sorted.unknown {x : PsetInput} (h : x.Sorted) : KV.Sorted x.unknown := h.2.2.2.2.2.2.2.2.2.2

theorem PsetInput.merge_keeps (x y : PsetInput) : PsetInput.Keeps x y (x.merge y) where
  nonWitnessUtxo := mergeOpt_isSome_of_or _ _
  witnessUtxo := mergeOpt_isSome_of_or _ _
  partialSigs := fun k => (KV.mem_keys_extend _ _ k).2
  sighashType := mergeOpt_isSome_of_or _ _
  redeemScript := mergeOpt_isSome_of_or _ _
  witnessScript := mergeOpt_isSome_of_or _ _
  bip32Derivation := fun k => (KV.mem_keys_extend _ _ k).2
  finalScriptSig := mergeOpt_isSome_of_or _ _
  finalScriptWitness := mergeOpt_isSome_of_or _ _
  ripemd160Preimages := fun k => (KV.mem_keys_extend _ _ k).2
  sha256Preimages := fun k => (KV.mem_keys_extend _ _ k).2
  hash160Preimages := fun k => (KV.mem_keys_extend _ _ k).2
  hash256Preimages := fun k => (KV.mem_keys_extend _ _ k).2
  previousTxid := rfl
  previousOutputIndex := rfl
  sequence := mergeOpt_isSome_of_or _ _
  requiredTimeLocktime := maxOpt_isSome_of_or _ _
  requiredHeightLocktime := maxOpt_isSome_of_or _ _
  tapKeySig := mergeOpt_isSome_of_or _ _
  tapScriptSigs := fun k => (KV.mem_keys_extend _ _ k).2
  tapScripts := fun k => (KV.mem_keys_extend _ _ k).2
  tapKeyOrigins := fun k => (KV.mem_keys_extend _ _ k).2
  tapInternalKey := mergeOpt_isSome_of_or _ _
  tapMerkleRoot := mergeOpt_isSome_of_or _ _
  issuanceValueAmount := mergeOpt_isSome_of_or _ _
  issuanceValueComm := mergeOpt_isSome_of_or _ _
  issuanceValueRangeproof := mergeOpt_isSome_of_or _ _
  issuanceKeysRangeproof := mergeOpt_isSome_of_or _ _
  peginTx := mergeOpt_isSome_of_or _ _
  peginTxoutProof := mergeOpt_isSome_of_or _ _
  peginGenesisHash := mergeOpt_isSome_of_or _ _
  peginClaimScript := mergeOpt_isSome_of_or _ _
  peginValue := mergeOpt_isSome_of_or _ _
  peginWitness := mergeOpt_isSome_of_or _ _
  issuanceInflationKeys := mergeOpt_isSome_of_or _ _
  issuanceInflationKeysComm := mergeOpt_isSome_of_or _ _
  issuanceBlindingNonce := mergeOpt_isSome_of_or _ _
  issuanceAssetEntropy := mergeOpt_isSome_of_or _ _
  inUtxoRangeproof := mergeOpt_isSome_of_or _ _
  inIssuanceBlindValueProof := mergeOpt_isSome_of_or _ _
  inIssuanceBlindInflationKeysProof := mergeOpt_isSome_of_or _ _
  amount := mergeOpt_isSome_of_or _ _
  blindValueProof := mergeOpt_isSome_of_or _ _
  asset := mergeOpt_isSome_of_or _ _
  blindAssetProof := mergeOpt_isSome_of_or _ _
  blindedIssuance := mergeOpt_isSome_of_or _ _
  proprietary := fun k => (KV.mem_keys_extend _ _ k).2
  unknown := fun k => (KV.mem_keys_extend _ _ k).2

theorem PsetInput.merge_sorted (x y : PsetInput) (hx : x.Sorted) : (x.merge y).Sorted :=
  ⟨KV.sorted_extend _ _ hx.partialSigs,
   KV.sorted_extend _ _ hx.bip32Derivation,
   KV.sorted_extend _ _ hx.ripemd160Preimages,
   KV.sorted_extend _ _ hx.sha256Preimages,
   KV.sorted_extend _ _ hx.hash160Preimages,
   KV.sorted_extend _ _ hx.hash256Preimages,
   KV.sorted_extend _ _ hx.tapScriptSigs,
   KV.sorted_extend _ _ hx.tapScripts,
   KV.sorted_extend _ _ hx.tapKeyOrigins,
   KV.sorted_extend _ _ hx.proprietary,
   KV.sorted_extend _ _ hx.unknown⟩

theorem PsetInput.merge_comm (x y : PsetInput) (hx : x.Sorted) (hy : y.Sorted) (hc : PsetInput.Compat x y) : x.merge y = y.merge x := by
  unfold PsetInput.merge
  apply PsetInput.ext
  case nonWitnessUtxo => exact mergeOpt_comm hc.nonWitnessUtxo
  case witnessUtxo => exact mergeOpt_comm hc.witnessUtxo
  case partialSigs => exact KV.extend_comm hx.partialSigs hy.partialSigs hc.partialSigs
  case sighashType => exact mergeOpt_comm hc.sighashType
  case redeemScript => exact mergeOpt_comm hc.redeemScript
  case witnessScript => exact mergeOpt_comm hc.witnessScript
  case bip32Derivation => exact KV.extend_comm hx.bip32Derivation hy.bip32Derivation hc.bip32Derivation
  case finalScriptSig => exact mergeOpt_comm hc.finalScriptSig
  case finalScriptWitness => exact mergeOpt_comm hc.finalScriptWitness
  case ripemd160Preimages => exact KV.extend_comm hx.ripemd160Preimages hy.ripemd160Preimages hc.ripemd160Preimages
  case sha256Preimages => exact KV.extend_comm hx.sha256Preimages hy.sha256Preimages hc.sha256Preimages
  case hash160Preimages => exact KV.extend_comm hx.hash160Preimages hy.hash160Preimages hc.hash160Preimages
  case hash256Preimages => exact KV.extend_comm hx.hash256Preimages hy.hash256Preimages hc.hash256Preimages
  case previousTxid => exact hc.previousTxid
  case previousOutputIndex => exact hc.previousOutputIndex
  case sequence => exact mergeOpt_comm hc.sequence
  case requiredTimeLocktime => exact maxOpt_comm _ _
  case requiredHeightLocktime => exact maxOpt_comm _ _
  case tapKeySig => exact mergeOpt_comm hc.tapKeySig
  case tapScriptSigs => exact KV.extend_comm hx.tapScriptSigs hy.tapScriptSigs hc.tapScriptSigs
  case tapScripts => exact KV.extend_comm hx.tapScripts hy.tapScripts hc.tapScripts
  case tapKeyOrigins => exact KV.extend_comm hx.tapKeyOrigins hy.tapKeyOrigins hc.tapKeyOrigins
  case tapInternalKey => exact mergeOpt_comm hc.tapInternalKey
  case tapMerkleRoot => exact mergeOpt_comm hc.tapMerkleRoot
  case issuanceValueAmount => exact mergeOpt_comm (optAgree_of_eq hc.issuanceValueAmount)
  case issuanceValueComm => exact mergeOpt_comm (optAgree_of_eq hc.issuanceValueComm)
  case issuanceValueRangeproof => exact mergeOpt_comm hc.issuanceValueRangeproof
  case issuanceKeysRangeproof => exact mergeOpt_comm hc.issuanceKeysRangeproof
  case peginTx => exact mergeOpt_comm hc.peginTx
  case peginTxoutProof => exact mergeOpt_comm hc.peginTxoutProof
  case peginGenesisHash => exact mergeOpt_comm hc.peginGenesisHash
  case peginClaimScript => exact mergeOpt_comm hc.peginClaimScript
  case peginValue => exact mergeOpt_comm hc.peginValue
  case peginWitness => exact mergeOpt_comm hc.peginWitness
  case issuanceInflationKeys => exact mergeOpt_comm (optAgree_of_eq hc.issuanceInflationKeys)
  case issuanceInflationKeysComm => exact mergeOpt_comm (optAgree_of_eq hc.issuanceInflationKeysComm)
  case issuanceBlindingNonce => exact mergeOpt_comm (optAgree_of_eq hc.issuanceBlindingNonce)
  case issuanceAssetEntropy => exact mergeOpt_comm (optAgree_of_eq hc.issuanceAssetEntropy)
  case inUtxoRangeproof => exact mergeOpt_comm hc.inUtxoRangeproof
  case inIssuanceBlindValueProof => exact mergeOpt_comm hc.inIssuanceBlindValueProof
  case inIssuanceBlindInflationKeysProof => exact mergeOpt_comm hc.inIssuanceBlindInflationKeysProof
  case amount => exact mergeOpt_comm hc.amount
  case blindValueProof => exact mergeOpt_comm hc.blindValueProof
  case asset => exact mergeOpt_comm hc.asset
  case blindAssetProof => exact mergeOpt_comm hc.blindAssetProof
  case blindedIssuance => exact mergeOpt_comm hc.blindedIssuance
  case proprietary => exact KV.extend_comm hx.proprietary hy.proprietary hc.proprietary
  case unknown => exact KV.extend_comm hx.unknown hy.unknown hc.unknown

theorem PsetInput.merge_assoc (x y z : PsetInput) (hx : x.Sorted) (hy : y.Sorted) (hz : z.Sorted) : (x.merge y).merge z = x.merge (y.merge z) := by
  -- `merge!` and `max` are associative outright; for `extend`, the unfolded `hx hy hz` are conjunctions of `KV.Sorted`, one per map field
  unfold PsetInput.Sorted at hx hy hz
  simp only [PsetInput.merge, mergeOpt_assoc, maxOpt_assoc, KV.extend_assoc, hx, hy, hz]

theorem PsetInput.merge_compat (x y z : PsetInput) (hy : y.Sorted) (h1 : PsetInput.Compat x z) (h2 : PsetInput.Compat y z) :
    PsetInput.Compat (x.merge y) z where
  nonWitnessUtxo := optAgree_mergeOpt h1.nonWitnessUtxo h2.nonWitnessUtxo
  witnessUtxo := optAgree_mergeOpt h1.witnessUtxo h2.witnessUtxo
  partialSigs := KV.agree_extend hy.partialSigs h1.partialSigs h2.partialSigs
  sighashType := optAgree_mergeOpt h1.sighashType h2.sighashType
  redeemScript := optAgree_mergeOpt h1.redeemScript h2.redeemScript
  witnessScript := optAgree_mergeOpt h1.witnessScript h2.witnessScript
  bip32Derivation := KV.agree_extend hy.bip32Derivation h1.bip32Derivation h2.bip32Derivation
  finalScriptSig := optAgree_mergeOpt h1.finalScriptSig h2.finalScriptSig
  finalScriptWitness := optAgree_mergeOpt h1.finalScriptWitness h2.finalScriptWitness
  ripemd160Preimages := KV.agree_extend hy.ripemd160Preimages h1.ripemd160Preimages h2.ripemd160Preimages
  sha256Preimages := KV.agree_extend hy.sha256Preimages h1.sha256Preimages h2.sha256Preimages
  hash160Preimages := KV.agree_extend hy.hash160Preimages h1.hash160Preimages h2.hash160Preimages
  hash256Preimages := KV.agree_extend hy.hash256Preimages h1.hash256Preimages h2.hash256Preimages
  previousTxid := h1.previousTxid
  previousOutputIndex := h1.previousOutputIndex
  sequence := optAgree_mergeOpt h1.sequence h2.sequence
  requiredTimeLocktime := maxOpt_of_eq h1.requiredTimeLocktime h2.requiredTimeLocktime
  requiredHeightLocktime := maxOpt_of_eq h1.requiredHeightLocktime h2.requiredHeightLocktime
  tapKeySig := optAgree_mergeOpt h1.tapKeySig h2.tapKeySig
  tapScriptSigs := KV.agree_extend hy.tapScriptSigs h1.tapScriptSigs h2.tapScriptSigs
  tapScripts := KV.agree_extend hy.tapScripts h1.tapScripts h2.tapScripts
  tapKeyOrigins := KV.agree_extend hy.tapKeyOrigins h1.tapKeyOrigins h2.tapKeyOrigins
  tapInternalKey := optAgree_mergeOpt h1.tapInternalKey h2.tapInternalKey
  tapMerkleRoot := optAgree_mergeOpt h1.tapMerkleRoot h2.tapMerkleRoot
  issuanceValueAmount := mergeOpt_of_eq h1.issuanceValueAmount h2.issuanceValueAmount
  issuanceValueComm := mergeOpt_of_eq h1.issuanceValueComm h2.issuanceValueComm
  issuanceValueRangeproof := optAgree_mergeOpt h1.issuanceValueRangeproof h2.issuanceValueRangeproof
  issuanceKeysRangeproof := optAgree_mergeOpt h1.issuanceKeysRangeproof h2.issuanceKeysRangeproof
  peginTx := optAgree_mergeOpt h1.peginTx h2.peginTx
  peginTxoutProof := optAgree_mergeOpt h1.peginTxoutProof h2.peginTxoutProof
  peginGenesisHash := optAgree_mergeOpt h1.peginGenesisHash h2.peginGenesisHash
  peginClaimScript := optAgree_mergeOpt h1.peginClaimScript h2.peginClaimScript
  peginValue := optAgree_mergeOpt h1.peginValue h2.peginValue
  peginWitness := optAgree_mergeOpt h1.peginWitness h2.peginWitness
  issuanceInflationKeys := mergeOpt_of_eq h1.issuanceInflationKeys h2.issuanceInflationKeys
  issuanceInflationKeysComm := mergeOpt_of_eq h1.issuanceInflationKeysComm h2.issuanceInflationKeysComm
  issuanceBlindingNonce := mergeOpt_of_eq h1.issuanceBlindingNonce h2.issuanceBlindingNonce
  issuanceAssetEntropy := mergeOpt_of_eq h1.issuanceAssetEntropy h2.issuanceAssetEntropy
  inUtxoRangeproof := optAgree_mergeOpt h1.inUtxoRangeproof h2.inUtxoRangeproof
  inIssuanceBlindValueProof := optAgree_mergeOpt h1.inIssuanceBlindValueProof h2.inIssuanceBlindValueProof
  inIssuanceBlindInflationKeysProof := optAgree_mergeOpt h1.inIssuanceBlindInflationKeysProof h2.inIssuanceBlindInflationKeysProof
  amount := optAgree_mergeOpt h1.amount h2.amount
  blindValueProof := optAgree_mergeOpt h1.blindValueProof h2.blindValueProof
  asset := optAgree_mergeOpt h1.asset h2.asset
  blindAssetProof := optAgree_mergeOpt h1.blindAssetProof h2.blindAssetProof
  blindedIssuance := optAgree_mergeOpt h1.blindedIssuance h2.blindedIssuance
  proprietary := KV.agree_extend hy.proprietary h1.proprietary h2.proprietary
  unknown := KV.agree_extend hy.unknown h1.unknown h2.unknown

theorem PsetOutput.Sorted.bip32Derivation {x : PsetOutput} (h : x.Sorted) : KV.Sorted x.bip32Derivation := h.1

theorem PsetOutput.Sorted.tapKeyOrigins {x : PsetOutput} (h : x.Sorted) : KV.Sorted x.tapKeyOrigins := h.2.1

theorem PsetOutput.Sorted.proprietary {x : PsetOutput} (h : x.Sorted) : KV.Sorted x.proprietary := h.2.2.1

theorem PsetOutput.Sorted.unknown {x : PsetOutput} (h : x.Sorted) : KV.Sorted x.unknown := h.2.2.2

theorem PsetOutput.merge_keeps (x y : PsetOutput) : PsetOutput.Keeps x y (x.merge y) where
  redeemScript := mergeOpt_isSome_of_or _ _
  witnessScript := mergeOpt_isSome_of_or _ _
  bip32Derivation := fun k => (KV.mem_keys_extend _ _ k).2
  tapInternalKey := mergeOpt_isSome_of_or _ _
  tapTree := mergeOpt_isSome_of_or _ _
  tapKeyOrigins := fun k => (KV.mem_keys_extend _ _ k).2
  amount := mergeOpt_isSome_of_or _ _
  amountComm := mergeOpt_isSome_of_or _ _
  scriptPubkey := rfl
  asset := mergeOpt_isSome_of_or _ _
  assetComm := mergeOpt_isSome_of_or _ _
  valueRangeproof := mergeOpt_isSome_of_or _ _
  assetSurjectionProof := mergeOpt_isSome_of_or _ _
  blindingKey := mergeOpt_isSome_of_or _ _
  ecdhPubkey := mergeOpt_isSome_of_or _ _
  blinderIndex := mergeOpt_isSome_of_or _ _
  blindValueProof := mergeOpt_isSome_of_or _ _
  blindAssetProof := mergeOpt_isSome_of_or _ _
  proprietary := fun k => (KV.mem_keys_extend _ _ k).2
  unknown := fun k => (KV.mem_keys_extend _ _ k).2

theorem PsetOutput.merge_sorted (x y : PsetOutput) (hx : x.Sorted) : (x.merge y).Sorted :=
  ⟨KV.sorted_extend _ _ hx.bip32Derivation,
   KV.sorted_extend _ _ hx.tapKeyOrigins,
   KV.sorted_extend _ _ hx.proprietary,
   KV.sorted_extend _ _ hx.unknown⟩

theorem PsetOutput.merge_comm (x y : PsetOutput) (hx : x.Sorted) (hy : y.Sorted) (hc : PsetOutput.Compat x y) : x.merge y = y.merge x := by
  unfold PsetOutput.merge
  apply PsetOutput.ext
  case redeemScript => exact mergeOpt_comm hc.redeemScript
  case witnessScript => exact mergeOpt_comm hc.witnessScript
  case bip32Derivation => exact KV.extend_comm hx.bip32Derivation hy.bip32Derivation hc.bip32Derivation
  case tapInternalKey => exact mergeOpt_comm hc.tapInternalKey
  case tapTree => exact mergeOpt_comm hc.tapTree
  case tapKeyOrigins => exact KV.extend_comm hx.tapKeyOrigins hy.tapKeyOrigins hc.tapKeyOrigins
  case amount => exact mergeOpt_comm (optAgree_of_eq hc.amount)
  case amountComm => exact mergeOpt_comm (optAgree_of_eq hc.amountComm)
  case scriptPubkey => exact hc.scriptPubkey
  case asset => exact mergeOpt_comm (optAgree_of_eq hc.asset)
  case assetComm => exact mergeOpt_comm (optAgree_of_eq hc.assetComm)
  case valueRangeproof => exact mergeOpt_comm hc.valueRangeproof
  case assetSurjectionProof => exact mergeOpt_comm hc.assetSurjectionProof
  case blindingKey => exact mergeOpt_comm hc.blindingKey
  case ecdhPubkey => exact mergeOpt_comm (optAgree_of_eq hc.ecdhPubkey)
  case blinderIndex => exact mergeOpt_comm hc.blinderIndex
  case blindValueProof => exact mergeOpt_comm hc.blindValueProof
  case blindAssetProof => exact mergeOpt_comm hc.blindAssetProof
  case proprietary => exact KV.extend_comm hx.proprietary hy.proprietary hc.proprietary
  case unknown => exact KV.extend_comm hx.unknown hy.unknown hc.unknown

theorem PsetOutput.merge_assoc (x y z : PsetOutput) (hx : x.Sorted) (hy : y.Sorted) (hz : z.Sorted) : (x.merge y).merge z = x.merge (y.merge z) := by
  -- `merge!` is associative outright; for `extend`, the unfolded `hx hy hz` are conjunctions of `KV.Sorted`, one per map field
  unfold PsetOutput.Sorted at hx hy hz
  simp only [PsetOutput.merge, mergeOpt_assoc, KV.extend_assoc, hx, hy, hz]

theorem PsetOutput.merge_compat (x y z : PsetOutput) (hy : y.Sorted) (h1 : PsetOutput.Compat x z) (h2 : PsetOutput.Compat y z) :
    PsetOutput.Compat (x.merge y) z where
  redeemScript := optAgree_mergeOpt h1.redeemScript h2.redeemScript
  witnessScript := optAgree_mergeOpt h1.witnessScript h2.witnessScript
  bip32Derivation := KV.agree_extend hy.bip32Derivation h1.bip32Derivation h2.bip32Derivation
  tapInternalKey := optAgree_mergeOpt h1.tapInternalKey h2.tapInternalKey
  tapTree := optAgree_mergeOpt h1.tapTree h2.tapTree
  tapKeyOrigins := KV.agree_extend hy.tapKeyOrigins h1.tapKeyOrigins h2.tapKeyOrigins
  amount := mergeOpt_of_eq h1.amount h2.amount
  amountComm := mergeOpt_of_eq h1.amountComm h2.amountComm
  scriptPubkey := h1.scriptPubkey
  asset := mergeOpt_of_eq h1.asset h2.asset
  assetComm := mergeOpt_of_eq h1.assetComm h2.assetComm
  valueRangeproof := optAgree_mergeOpt h1.valueRangeproof h2.valueRangeproof
  assetSurjectionProof := optAgree_mergeOpt h1.assetSurjectionProof h2.assetSurjectionProof
  blindingKey := optAgree_mergeOpt h1.blindingKey h2.blindingKey
  ecdhPubkey := mergeOpt_of_eq h1.ecdhPubkey h2.ecdhPubkey
  blinderIndex := optAgree_mergeOpt h1.blinderIndex h2.blinderIndex
  blindValueProof := optAgree_mergeOpt h1.blindValueProof h2.blindValueProof
  blindAssetProof := optAgree_mergeOpt h1.blindAssetProof h2.blindAssetProof
  proprietary := KV.agree_extend hy.proprietary h1.proprietary h2.proprietary
  unknown := KV.agree_extend hy.unknown h1.unknown h2.unknown
-- end of the printed part

/-- `s` is a proper suffix of `l`: the relation between two derivation paths that `xpubReconcile` tests -/
def ProperSuffix (s l : List Nat) : Prop := ∃ pre, pre ≠ [] ∧ l = pre ++ s

instance (s l : List Nat) : Decidable (ProperSuffix s l) :=
  decidable_of_iff (s.length < l.length ∧ l.drop (l.length - s.length) = s) (by
    constructor
    · rintro ⟨hlt, hd⟩
      refine ⟨l.take (l.length - s.length), ?_, ?_⟩
      · intro h
        have := congrArg List.length h
        simp only [List.length_take, List.length_nil] at this
        omega
      · conv => lhs; rw [← List.take_append_drop (l.length - s.length) l]
        rw [hd]
    · rintro ⟨pre, hne, rfl⟩
      have hp : 0 < pre.length := List.length_pos_iff.mpr hne
      refine ⟨by simp only [List.length_append]; omega, ?_⟩
      have : (pre ++ s).length - s.length = pre.length := by simp only [List.length_append]; omega
      rw [this, List.drop_left])

theorem properSuffix_iff (s l : List Nat) :
    ProperSuffix s l ↔ (s.length < l.length ∧ l.drop (l.length - s.length) = s) := by
  constructor
  · rintro ⟨pre, hne, rfl⟩
    have hp : 0 < pre.length := List.length_pos_iff.mpr hne
    exact ⟨List.length_append ▸ Nat.lt_add_of_pos_left hp, (List.suffix_iff_eq_drop.mp ⟨pre, rfl⟩).symm⟩
  · rintro ⟨hlt, hd⟩
    obtain ⟨pre, rfl⟩ := List.suffix_iff_eq_drop.mpr hd.symm
    exact ⟨pre, fun h => Nat.lt_irrefl _ (h ▸ hlt), rfl⟩

theorem properSuffix_length {s l : List Nat} (h : ProperSuffix s l) : s.length < l.length :=
  ((properSuffix_iff s l).1 h).1

theorem properSuffix_eq (s l : List Nat) : properSuffix s l = .ok (decide (ProperSuffix s l)) := by
  unfold properSuffix subUsize sliceFrom
  by_cases hlt : s.length < l.length
  · have h1 : ¬ l.length < s.length := Nat.lt_asymm hlt
    have h2 : ¬ l.length - s.length > l.length := Nat.not_lt.mpr (Nat.sub_le ..)
    simp only [hlt, if_true, h1, if_false, h2, Res.ok.injEq]
    apply decide_eq_decide.mpr
    rw [properSuffix_iff, eq_comm]
    exact (and_iff_right hlt).symm
  · have : ¬ ProperSuffix s l := fun h => hlt (properSuffix_length h)
    simp only [hlt, if_false, this, decide_false]

/-- `mine` is the entry of `self`, `theirs` that of `other`. The last branch (`MergeConflict`): equal paths with
    different fingerprints, or neither path a proper suffix of the other. -/
theorem xpubReconcile_table (mine theirs : KeySource) :
    xpubReconcile mine theirs =
      if theirs = mine then .ok mine
      else if ProperSuffix theirs.path mine.path then .ok mine
      else if ProperSuffix mine.path theirs.path then .ok theirs
      else .err "MergeConflict" := by
  have hk : (theirs.path = mine.path ∧ theirs.fp = mine.fp) ↔ theirs = mine := by
    cases theirs; cases mine; simp only [KeySource.mk.injEq, and_comm]
  unfold xpubReconcile
  rw [properSuffix_eq, properSuffix_eq]
  simp only [hk]
  by_cases h1 : ProperSuffix theirs.path mine.path
  · simp only [h1, decide_true, if_true]
  · by_cases h2 : ProperSuffix mine.path theirs.path
    · simp only [h1, h2, decide_true, decide_false, if_true, if_false]
    · simp only [h1, h2, decide_false, if_false]

theorem xpubReconcile_post (mine theirs : KeySource) :
    Res.Post (fun ks => ks = mine ∨ ks = theirs) (xpubReconcile mine theirs) := by
  rw [xpubReconcile_table]
  split
  · exact .ok (.inl rfl)
  split
  · exact .ok (.inl rfl)
  split
  · exact .ok (.inr rfl)
  · exact .err trivial

namespace PsetGlobal

theorem mergeXpub_cons (self r : List (Bytes × KeySource)) (k : Bytes) (theirs : KeySource) :
    mergeXpub self ((k, theirs) :: r) =
      ((KV.lookup k self).elim (.ok theirs) (xpubReconcile · theirs)).bind fun ks =>
        mergeXpub (KV.insert k ks self) r := by
  rw [mergeXpub]
  cases KV.lookup k self with
  | none => rfl
  | some mine =>
    dsimp only [Option.elim]
    cases xpubReconcile mine theirs <;> rfl

/-- what the xpub loop on the maps `a` (of `self`) and `b` guarantees of its result `res` -/
structure XpubPost (a b res : List (Bytes × KeySource)) : Prop where
  sorted : KV.Sorted a → KV.Sorted res
  keys : ∀ k, (k ∈ KV.keys a ∨ k ∈ KV.keys b) → k ∈ KV.keys res
  mem : ∀ x ∈ res, x ∈ a ∨ x ∈ b

theorem mergeXpub_post (self other : List (Bytes × KeySource)) :
    Res.Post (XpubPost self other) (mergeXpub self other) := by
  induction other generalizing self with
  | nil => exact .ok ⟨id, fun k hk => hk.resolve_right List.not_mem_nil, fun _ => .inl⟩
  | cons kv r ih =>
    -- whichever of the two key sources is stored under the key of `kv`, the loop goes on from `insert kv.1 v self`
    have step : ∀ v, ((kv.1, v) ∈ self ∨ v = kv.2) →
        Res.Post (XpubPost self (kv :: r)) (mergeXpub (KV.insert kv.1 v self) r) := by
      intro v hv
      refine (ih _).imp fun res _ ⟨hsorted, hkeys, hmem⟩ => ⟨?_, ?_, ?_⟩
      · exact fun hs => hsorted (KV.sorted_insert _ _ _ hs)
      · intro k hk
        rw [KV.keys_cons, List.mem_cons, or_left_comm, ← or_assoc, ← KV.mem_keys_insert _ v] at hk
        exact hkeys k hk
      · intro x hx
        rcases hmem x hx with h | h
        · rcases KV.mem_insert _ _ _ _ h with rfl | h
          · exact hv.imp id fun (e : v = kv.2) => e ▸ List.mem_cons_self
          · exact .inl h
        · exact .inr (List.mem_cons_of_mem _ h)
    rw [mergeXpub_cons]
    refine .bind ?_
    cases hl : KV.lookup kv.1 self with
    | none => exact step _ (.inr rfl)
    | some mine =>
      exact (xpubReconcile_post mine kv.2).imp fun v _ hv =>
        step v (hv.imp (fun (e : v = mine) => e ▸ KV.mem_of_lookup hl) id)

theorem mergeXpub_of_agree (self other : List (Bytes × KeySource)) (ho : KV.Sorted other)
    (h : KV.Agree self other) : mergeXpub self other = .ok (KV.extend self other) := by
  induction other generalizing self with
  | nil => rfl
  | cons kv r ih =>
    obtain ⟨k, theirs⟩ := kv
    have hr : KV.Sorted r := ((KV.sorted_cons _ _ _).1 ho).2
    -- `k` is not a key of `r`, so the entry stored under it does not disturb the agreement with `r`
    have hstep : KV.Agree (KV.insert k theirs self) r := by
      intro k' u w h1 h2
      have hkk : k' ≠ k := by
        intro e
        rw [e, KV.lookup_tail_none ho] at h2
        cases h2
      rw [KV.lookup_insert, if_neg hkk] at h1
      exact h k' u w h1 ((KV.lookup_cons_ne hkk theirs r).trans h2)
    rw [mergeXpub_cons, KV.extend_cons]
    cases hl : KV.lookup k self with
    | none => exact ih _ hr hstep
    | some mine =>
      -- the two maps agree under `k`
      cases h k mine theirs hl (KV.lookup_cons_self ..)
      show (xpubReconcile theirs theirs).bind _ = _
      rw [xpubReconcile_table, if_pos rfl]
      exact ih _ hr hstep

/-- global fields agree wherever both define a value; the transaction data coincide -/
structure Compat (x y : PsetGlobal) : Prop where
  txVersion : x.txVersion = y.txVersion
  fallbackLocktime : x.fallbackLocktime = y.fallbackLocktime
  inputCount : x.inputCount = y.inputCount
  outputCount : x.outputCount = y.outputCount
  xpub : KV.Agree x.xpub y.xpub
  elementsTxModifiableFlag : OptAgree x.elementsTxModifiableFlag y.elementsTxModifiableFlag
  proprietary : KV.Agree x.proprietary y.proprietary
  unknown : KV.Agree x.unknown y.unknown

/-- nothing present in `x` or `y` is absent from `z` -/
structure Keeps (x y z : PsetGlobal) : Prop where
  txVersion : z.txVersion = x.txVersion
  fallbackLocktime : (x.fallbackLocktime.isSome ∨ y.fallbackLocktime.isSome) → z.fallbackLocktime.isSome
  inputCount : z.inputCount = x.inputCount
  outputCount : z.outputCount = x.outputCount
  txModifiable : z.txModifiable = some ((x.txModifiable.getD 0) ||| (y.txModifiable.getD 0))
  version : x.version ≤ z.version ∧ y.version ≤ z.version ∧ (z.version = x.version ∨ z.version = y.version)
  xpub : ∀ k, (k ∈ KV.keys x.xpub ∨ k ∈ KV.keys y.xpub) → k ∈ KV.keys z.xpub
  scalars : ∀ s, (s ∈ x.scalars ∨ s ∈ y.scalars) ↔ s ∈ z.scalars
  elementsTxModifiableFlag : (x.elementsTxModifiableFlag.isSome ∨ y.elementsTxModifiableFlag.isSome) → z.elementsTxModifiableFlag.isSome
  proprietary : ∀ k, (k ∈ KV.keys x.proprietary ∨ k ∈ KV.keys y.proprietary) → k ∈ KV.keys z.proprietary
  unknown : ∀ k, (k ∈ KV.keys x.unknown ∨ k ∈ KV.keys y.unknown) → k ∈ KV.keys z.unknown

/-- the result of `Global::merge` once the xpub loop has produced `xp` -/
def mergeWith (x y : PsetGlobal) (xp : List (Bytes × KeySource)) : PsetGlobal :=
  { x with
    txModifiable := some ((x.txModifiable.getD 0) ||| (y.txModifiable.getD 0))
    fallbackLocktime := mergeOpt x.fallbackLocktime y.fallbackLocktime
    version := max x.version y.version
    xpub := xp
    scalars := sortDedup (x.scalars ++ y.scalars)
    elementsTxModifiableFlag := mergeOpt x.elementsTxModifiableFlag y.elementsTxModifiableFlag
    proprietary := KV.extend x.proprietary y.proprietary
    unknown := KV.extend x.unknown y.unknown }

theorem merge_eq (x y : PsetGlobal) : x.merge y = (mergeXpub x.xpub y.xpub).bind fun xp => .ok (mergeWith x y xp) := by
  unfold merge
  cases mergeXpub x.xpub y.xpub <;> rfl

theorem merge_post (x y : PsetGlobal) :
    Res.Post (fun z => ∃ xp, mergeXpub x.xpub y.xpub = .ok xp ∧ z = mergeWith x y xp) (x.merge y) := by
  rw [merge_eq]
  exact .bind ((mergeXpub_post _ _).imp fun xp hxp _ => .ok ⟨xp, hxp, rfl⟩)

theorem merge_ok {x y z : PsetGlobal} (h : x.merge y = .ok z) :
    ∃ xp, mergeXpub x.xpub y.xpub = .ok xp ∧ z = mergeWith x y xp :=
  (merge_post x y).of_ok h

/-- the global fields read by `extract_tx`, in the merge `z` of `x` and `y` -/
structure TxDataOf (x y z : PsetGlobal) : Prop where
  txVersion : z.txVersion = x.txVersion
  fallbackLocktime : z.fallbackLocktime = mergeOpt x.fallbackLocktime y.fallbackLocktime
  inputCount : z.inputCount = x.inputCount
  outputCount : z.outputCount = x.outputCount

theorem merge_txData {x y z : PsetGlobal} (h : x.merge y = .ok z) : TxDataOf x y z := by
  obtain ⟨xp, _, rfl⟩ := merge_ok h
  exact ⟨rfl, rfl, rfl, rfl⟩

theorem merge_no_panic (x y : PsetGlobal) (s : String) : x.merge y ≠ .panic s :=
  (merge_post x y).ne_panic s

theorem merge_keeps (x y z : PsetGlobal) (h : x.merge y = .ok z) : Keeps x y z := by
  obtain ⟨xp, hx, rfl⟩ := merge_ok h
  exact {
    txVersion := rfl
    fallbackLocktime := mergeOpt_isSome_of_or _ _
    inputCount := rfl
    outputCount := rfl
    txModifiable := rfl
    version := ⟨Nat.le_max_left .., Nat.le_max_right .., Std.max_eq_or⟩
    xpub := ((mergeXpub_post _ _).of_ok hx).keys
    scalars := fun s => by simp only [mergeWith, mem_sortDedup, List.mem_append]
    elementsTxModifiableFlag := mergeOpt_isSome_of_or _ _
    proprietary := fun k => (KV.mem_keys_extend _ _ k).2
    unknown := fun k => (KV.mem_keys_extend _ _ k).2 }

theorem Sorted.xpub {x : PsetGlobal} (h : x.Sorted) : KV.Sorted x.xpub := h.1

theorem Sorted.proprietary {x : PsetGlobal} (h : x.Sorted) : KV.Sorted x.proprietary := h.2.1

theorem Sorted.unknown {x : PsetGlobal} (h : x.Sorted) : KV.Sorted x.unknown := h.2.2

theorem merge_sorted (x y z : PsetGlobal) (hx : x.Sorted) (h : x.merge y = .ok z) : z.Sorted := by
  obtain ⟨xp, hxp, rfl⟩ := merge_ok h
  exact ⟨((mergeXpub_post _ _).of_ok hxp).sorted hx.xpub, KV.sorted_extend _ _ hx.proprietary,
    KV.sorted_extend _ _ hx.unknown⟩

theorem merge_of_agree (x y : PsetGlobal) (hy : KV.Sorted y.xpub) (h : KV.Agree x.xpub y.xpub) :
    x.merge y = .ok (mergeWith x y (KV.extend x.xpub y.xpub)) := by
  rw [merge_eq, mergeXpub_of_agree _ _ hy h]
  rfl

theorem merge_comm (x y : PsetGlobal) (hx : x.Sorted) (hy : y.Sorted) (hc : Compat x y) : x.merge y = y.merge x := by
  rw [merge_of_agree x y hy.xpub hc.xpub, merge_of_agree y x hx.xpub (KV.agree_symm hc.xpub)]
  simp only [mergeWith, hc.txVersion, hc.fallbackLocktime, hc.inputCount, hc.outputCount,
    Nat.or_comm (x.txModifiable.getD 0), Nat.max_comm x.version, sortDedup_comm x.scalars,
    mergeOpt_comm hc.elementsTxModifiableFlag, KV.extend_comm hx.xpub hy.xpub hc.xpub,
    KV.extend_comm hx.proprietary hy.proprietary hc.proprietary, KV.extend_comm hx.unknown hy.unknown hc.unknown]

theorem merge_assoc (x y z xy yz : PsetGlobal) (hx : x.Sorted) (hy : y.Sorted) (hz : z.Sorted)
    (hxy : KV.Agree x.xpub y.xpub) (hyz : KV.Agree y.xpub z.xpub) (hxz : KV.Agree x.xpub z.xpub)
    (h1 : x.merge y = .ok xy) (h2 : y.merge z = .ok yz) : xy.merge z = x.merge yz := by
  rw [merge_of_agree x y hy.xpub hxy] at h1
  rw [merge_of_agree y z hz.xpub hyz] at h2
  cases h1
  cases h2
  rw [merge_of_agree _ z hz.xpub (KV.agree_extend hy.xpub hxz hyz),
    merge_of_agree x _ (KV.sorted_extend _ _ hy.xpub)
      (KV.agree_symm (KV.agree_extend hz.xpub (KV.agree_symm hxy) (KV.agree_symm hxz)))]
  simp only [mergeWith, Option.getD_some, mergeOpt_assoc, Nat.or_assoc, Nat.max_assoc, sortDedup_assoc,
    KV.extend_assoc hx.xpub hy.xpub hz.xpub, KV.extend_assoc hx.proprietary hy.proprietary hz.proprietary, KV.extend_assoc hx.unknown hy.unknown hz.unknown]

theorem merge_compat (x y z xy : PsetGlobal) (hy : y.Sorted) (hxy : KV.Agree x.xpub y.xpub)
    (h1 : Compat x z) (h2 : Compat y z) (hm : x.merge y = .ok xy) : Compat xy z := by
  rw [merge_of_agree x y hy.xpub hxy] at hm
  cases hm
  exact {
    txVersion := h1.txVersion
    fallbackLocktime := mergeOpt_of_eq h1.fallbackLocktime h2.fallbackLocktime
    inputCount := h1.inputCount
    outputCount := h1.outputCount
    xpub := KV.agree_extend hy.xpub h1.xpub h2.xpub
    elementsTxModifiableFlag := optAgree_mergeOpt h1.elementsTxModifiableFlag h2.elementsTxModifiableFlag
    proprietary := KV.agree_extend hy.proprietary h1.proprietary h2.proprietary
    unknown := KV.agree_extend hy.unknown h1.unknown h2.unknown }

end PsetGlobal
end EV
