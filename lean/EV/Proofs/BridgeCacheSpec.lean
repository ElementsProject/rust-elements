/-
  Bridge C13 × C03.  C13: a used `SighashCache` answers like a fresh one; C03: the as-coded functions equal
  the transcription of the specifications.  Composed: every digest a cache returns — in any state a history
  of queries and `witness_mut` updates can reach — is the SPECIFICATION digest of that query over the
  original transaction.
-/
import EV.Proofs.SighashCacheProofs
import EV.Proofs.SighashRefine
namespace EV.Sighash
open EV EV.Codec

/-- the digest the specifications (Part 2 of `EV.Model.Sighash`) assign to a query: Elements Core's
    `SignatureHash(SigVersion::BASE)`, double SHA-256 of the BIP143 (+ issuance) message, tagged hash of
    the Elements taproot message -/
def specDigest (H : SigHashes) (tx : Tx) : Query → Res Bytes
  | .legacy idx script ty => specLegacySighash H tx idx script ty.asU32
  | .segwit idx sc v ty => (specSegwit H tx idx sc v ty.asU32).map H.sha256d
  | .taproot idx pv annex leaf ty g =>
    (specTaproot H tx idx pv annex leaf ty.byte g).map (H.tagged Gen.tapSighashTag)

/-- queries on which the specifications define an outcome other than an assertion failure: the signed
    input exists (legacy, segwit v0 — outside, code and Core both abort), the taproot hash type is one of
    the seven `SchnorrSighashType::from_u8` produces.  `n` is the number of inputs. -/
def Query.Covered (n : Nat) : Query → Prop
  | .legacy idx _ _ => idx < n
  | .segwit idx _ _ _ => idx < n
  | .taproot _ _ _ _ ty _ => ty ≠ .reserved

def Op.Covered (n : Nat) : Op → Prop
  | .q qq => qq.Covered n
  | .w _ _ => True

def specOut (H : SigHashes) (tx : Tx) : Op → Out
  | .q qq => .digest (specDigest H tx qq)
  | .w idx _ => .wit (decide (idx < tx.input.length))

variable (H : SigHashes)

theorem fresh_eq_specDigest (hd : Dbl H) (tx : Tx) (q : Query) (hq : q.Covered tx.input.length) :
    fresh H tx q = specDigest H tx q := by
  cases q with
  | legacy idx script ty => exact legacy_digest_refines H tx idx script ty hq
  | segwit idx sc v ty =>
    simp only [fresh, specDigest, segwitSighash, segwit_msg_eq_spec H hd tx idx sc v ty hq]
  | taproot idx pv annex leaf ty g =>
    simp only [fresh, specDigest, taprootSighash, taproot_refines H tx idx pv annex leaf ty g hq]

theorem runOriginal_eq_spec (hd : Dbl H) (tx : Tx) (ops : List Op) (hcov : ∀ o ∈ ops, o.Covered tx.input.length) :
    runOriginal H tx ops = ops.map (specOut H tx) := by
  rw [runOriginal_eq_map]
  refine List.map_congr_left fun op hop => ?_
  cases op with
  | q q => exact congrArg Out.digest (fresh_eq_specDigest H hd tx q (hcov _ hop))
  | w idx st => rfl

end EV.Sighash
