/-
  Bridge C03 × C15.  The sighash model (C03) has its own `tapLeafHash` (`TapLeafHash::from_script` as the
  sighash driver calls it); the script-tree model (C15) builds merkle roots and control blocks from
  `Taproot.leafHash`.  The two are the same function of (script, leaf version) once the C15 hash record is
  the C03 one under the three taproot tags (`tapHashesOf`, which is how the two drivers instantiate them).
-/
import EV.Proofs.TaprootSpend
import EV.Proofs.SighashErrors
namespace EV.Proofs.BridgeTapLeaf
open EV EV.Codec EV.Sighash EV.Taproot

/-- the C15 hash record induced by the C03 one: `sha256t` under the tags `TapLeaf/elements`,
    `TapBranch/elements`, `TapTweak/elements` (src/taproot.rs `sha256t_hash_newtype!`) -/
def tapHashesOf (H : SigHashes) : TapHashes :=
  { leaf := H.tagged Gen.Taproot.leafTag
    branch := H.tagged Gen.Taproot.branchTag
    tweak := H.tagged Gen.Taproot.tweakTag }

/-- the leaf tag was extracted twice from the Rust source (for C03 and for C15): same string -/
theorem leafTag_agree : Gen.tapLeafTag = Gen.Taproot.leafTag := by decide

theorem tapLeafHash_eq (H : SigHashes) (script : Bytes) (ver : Nat) :
    Sighash.tapLeafHash H script ver = Taproot.leafHash (tapHashesOf H) script (UInt8.ofNat ver) := by
  simp only [Sighash.tapLeafHash, Taproot.leafHash, Taproot.leafPreimage, tapHashesOf, leafTag_agree,
    List.singleton_append]

theorem tapLeafHash_eq' (H : SigHashes) (script : Bytes) (ver : UInt8) :
    Sighash.tapLeafHash H script ver.toNat = Taproot.leafHash (tapHashesOf H) script ver := by
  rw [tapLeafHash_eq, UInt8.ofNat_toNat]

theorem leafHash_binds (T : TapHashes) (s s' : Bytes) (v v' : UInt8) (hs : s.length < 2 ^ 64)
    (hs' : s'.length < 2 ^ 64) (h : Taproot.leafHash T s v = Taproot.leafHash T s' v') :
    (s = s' ∧ v = v') ∨ EV.Proofs.TaprootCb.Collision T.leaf :=
  (Proofs.CodecPrim.eq_or_collision h).imp_left (EV.Proofs.TaprootCb.leafPreimage_inj s s' v v' hs hs')

theorem collision_iff (f : Bytes → Bytes) : EV.Proofs.TaprootCb.Collision f ↔ Sighash.Collision f := Iff.rfl

theorem len32_of (H : SigHashes) (h : ∀ tag x, (H.tagged tag x).length = 32) :
    EV.Proofs.TaprootCb.Len32 (tapHashesOf H) := ⟨fun x => h _ x, fun x => h _ x⟩

/-- `taproot_encode_signing_data_to`: `leaf_hash.consensus_encode`, `KEY_VERSION_0`, `code_separator_pos` -/
theorem msgTaproot_leaf_suffix (H : SigHashes) (tx : Tx) (idx : Nat) (pv : Prevouts) (annex : Option Bytes)
    (lh : Bytes) (pos : Nat) (ty : SchnorrTy) (g m : Bytes)
    (h : msgTaproot H tx idx pv annex (some (lh, pos)) ty g = .ok m) :
    ∃ pre, m = pre ++ (lh ++ [UInt8.ofNat Gen.sighashKeyVersion0] ++ encLe 4 pos) :=
  (msgTaproot_post H tx idx pv annex (some (lh, pos)) ty g).of_ok h

end EV.Proofs.BridgeTapLeaf
