/-
  The loop of `fast_merkle_root` as coded computes the level-by-level root (C18).

  The slots are read as a binary counter: slot 0 holds the last leaf when the count is odd, and the remaining slots are
  the state of the same algorithm run on the pairs of the other leaves (`InvR`), so every loop is analysed by recursion
  on the slot list.  The coded loops test against the constants 32 and 2^32 and take fuel (33 for the carry, 34 for the
  sweep); they are first restated with the number `g` of levels left as their one measure (`carryG`, `sweepG`), which
  dropping slot 0 leaves as it is.

  Last, the commitment half of C18, about `levelRoot` alone (`root_commits`).
-/
import EV.Model.FastMerkle
namespace EV.Proofs.FastMerkle
open EV.FastMerkle

variable {α : Type}

theorem levelRoot_nil (comb : α → α → α) (zero : α) : levelRoot comb zero [] = zero := by
  rw [levelRoot]

theorem levelRoot_single (comb : α → α → α) (zero a : α) : levelRoot comb zero [a] = a := by
  rw [levelRoot]

theorem levelRoot_cons_cons (comb : α → α → α) (zero a b : α) (rest : List α) :
    levelRoot comb zero (a :: b :: rest) = levelRoot comb zero (pairUp comb (a :: b :: rest)) := by
  rw [levelRoot]

theorem levelRoot_pairUp (comb : α → α → α) (zero : α) (l : List α) :
    levelRoot comb zero (pairUp comb l) = levelRoot comb zero l := by
  match l with
  | [] => simp [pairUp]
  | [a] => simp [pairUp]
  | a :: b :: rest => rw [levelRoot_cons_cons]

theorem pairUp_length (comb : α → α → α) (l : List α) :
    (pairUp comb l).length = (l.length + 1) / 2 := by
  fun_induction pairUp comb l with
  | case1 a b rest ih =>
    simp only [List.length_cons, ih]
    omega
  | case2 a => simp
  | case3 => simp

theorem pairUp_length_even (comb : α → α → α) (l : List α) (h : l.length % 2 = 0) :
    (pairUp comb l).length = l.length / 2 := by
  rw [pairUp_length]
  omega

theorem pairUp_append (comb : α → α → α) (l m : List α) (h : l.length % 2 = 0) :
    pairUp comb (l ++ m) = pairUp comb l ++ pairUp comb m := by
  fun_induction pairUp comb l with
  | case1 a b rest ih =>
    have : rest.length % 2 = 0 := by
      simp only [List.length_cons] at h
      omega
    simp only [List.cons_append, pairUp, ih this]
  | case2 a => simp at h
  | case3 => rfl

/-- the step of the invariant when slot 0 is merged -/
theorem pairUp_append_pair (comb : α → α → α) (l : List α) (a b : α) (h : l.length % 2 = 0) :
    pairUp comb (l ++ [a] ++ [b]) = pairUp comb l ++ [comb a b] := by
  rw [List.append_assoc, pairUp_append comb l _ h]
  rfl

/-- the slot invariant after the leaves `pre` -/
inductive InvR (comb : α → α → α) : List α → List α → Prop
  | nil : InvR comb [] []
  | even (s : α) {rest pre : List α} :
    pre.length % 2 = 0 → InvR comb rest (pairUp comb pre) → InvR comb (s :: rest) pre
  | odd {s : α} {rest l : List α} :
    l.length % 2 = 0 → InvR comb rest (pairUp comb l) → InvR comb (s :: rest) (l ++ [s])

theorem InvR.no_leaves (comb : α → α → α) (inner : List α) : InvR comb inner [] := by
  induction inner with
  | nil => exact .nil
  | cons s rest ih => exact .even s rfl ih

/-- `carry` at `level = 32 - g`: the levels left are the bound and the fuel in one -/
def carryG (comb : α → α → α) (inner : List α) (count : Nat) : Nat → Nat → α → Option (Nat × α)
  | 0, _, _ => none
  | g+1, level, temp =>
    if count.testBit level then some (level, temp)
    else match inner[level]? with
      | none => none
      | some x => carryG comb inner count g (level+1) (comb x temp)

/-- the two loops of the sweep as one, seen from inside the inner loop at `level = 32 - g`: at a set bit the inner
    loop ends, and the outer loop stops or rounds the count up (`level + (g+1)` is the 32 of the code) -/
def sweepG (comb : α → α → α) (inner : List α) : Nat → Nat → Nat → α → Option α
  | 0, _, _, _ => none
  | g+1, count, level, res =>
    if count.testBit level then
      if count = 2^level then some res
      else if count + 2^level ≥ 2^(level+(g+1)) then none
      else sweepG comb inner g (count + 2^level) (level+1) res
    else match inner[level]? with
      | none => none
      | some x => sweepG comb inner g count (level+1) (comb x res)

theorem carry_eq (comb : α → α → α) (inner : List α) (count g : Nat) :
    ∀ (fuel level : Nat) (temp : α), level + g = 32 → g < fuel →
      carry comb inner count fuel level temp = carryG comb inner count g level temp := by
  induction g with
  | zero =>
    intro fuel level temp hg hf
    obtain ⟨f, rfl⟩ := Nat.exists_eq_add_of_lt hf
    rw [carry, if_pos (Nat.le_of_eq hg.symm : 32 ≤ level)]
    rfl
  | succ g ih =>
    intro fuel level temp hg hf
    obtain ⟨f, rfl⟩ := Nat.exists_eq_add_of_lt hf
    rw [carry, carryG, if_neg (Nat.not_le.2 (hg ▸ Nat.lt_add_of_pos_right (Nat.succ_pos g)))]
    split
    · rfl
    · cases inner[level]? with
      | none => rfl
      | some x => exact ih _ _ _ (Nat.add_right_comm level 1 g ▸ hg) (Nat.lt_add_right f (Nat.lt_succ_self g))

theorem sweepInner_eq (comb : α → α → α) (inner : List α) (count fuel level : Nat) (temp : α) :
    sweepInner comb inner count fuel level temp = carry comb inner count fuel level temp := by
  induction fuel generalizing level temp with
  | zero => rfl
  | succ f ih =>
    simp only [sweepInner, carry, ih]

/-- the search for the lowest set bit is the carry loop without its accumulator -/
theorem lowestSet_eq (comb : α → α → α) (inner : List α) (hlen : inner.length = 32)
    (count fuel level : Nat) (temp : α) :
    lowestSet count fuel level = (carry comb inner count fuel level temp).map Prod.fst := by
  induction fuel generalizing level temp with
  | zero => rfl
  | succ f ih =>
    rw [lowestSet, carry]
    by_cases hl : level ≥ 32
    · rw [if_pos hl, if_pos hl]
      rfl
    · rw [if_neg hl, if_neg hl, List.getElem?_eq_getElem (hlen ▸ Nat.not_le.1 hl)]
      cases count.testBit level with
      | true => rfl
      | false => exact ih _ _

theorem sweep_eq (comb : α → α → α) (inner : List α) (g : Nat) :
    ∀ (fuel count level : Nat) (res : α), level + g = 32 → g < fuel →
      (carryG comb inner count g level res).bind (fun p => sweep comb inner fuel count p.1 p.2)
        = sweepG comb inner g count level res := by
  induction g with
  | zero =>
    intros
    rfl
  | succ g ih =>
    intro fuel count level res hg hf
    obtain ⟨f, rfl⟩ := Nat.exists_eq_add_of_lt hf
    have hg' : level + 1 + g = 32 := Nat.add_right_comm level 1 g ▸ hg
    have hm : g < g + 1 + f := Nat.lt_add_right f (Nat.lt_succ_self g)
    rw [carryG, sweepG]
    split
    · -- the inner loop ends: one round of the outer loop
      rw [Option.bind_some, sweep, if_neg (Nat.not_le.2 (hg ▸ Nat.lt_add_of_pos_right (Nat.succ_pos g))), hg,
        ← ih (g+1+f) _ (level+1) res hg' hm]
      simp only [sweepInner_eq, carry_eq comb inner _ g 34 (level+1) res hg' (by omega)]
      cases carryG comb inner (count + 2^level) g (level+1) res <;> rfl
    · cases inner[level]? with
      | none => rfl
      | some x => exact ih _ _ _ _ hg' (Nat.lt_succ_of_lt hm)

/-! ### Dropping slot 0 halves the counter and lowers every level by one -/

/-- a result of the carry on the slots above slot 0, read on the full slot list: every level is one higher -/
def shiftRes : Option (Nat × α) → Option (Nat × α) :=
  Option.map fun p => (p.1 + 1, p.2)

theorem carryG_shift (comb : α → α → α) (s : α) (inner : List α) (count g level : Nat) (temp : α) :
    carryG comb (s :: inner) count g (level+1) temp = shiftRes (carryG comb inner (count/2) g level temp) := by
  induction g generalizing level temp with
  | zero => rfl
  | succ g ih =>
    simp only [carryG, Nat.testBit_succ, List.getElem?_cons_succ, ih]
    split
    · rfl
    · cases inner[level]? <;> rfl

theorem sweepG_shift (comb : α → α → α) (s : α) (inner : List α) (g count level : Nat) (res : α)
    (heven : count % 2 = 0) :
    sweepG comb (s :: inner) g count (level+1) res = sweepG comb inner g (count/2) level res := by
  obtain ⟨c, rfl⟩ : ∃ c, count = 2 * c := ⟨count / 2, by omega⟩
  rw [Nat.mul_div_cancel_left c Nat.two_pos]
  clear heven
  induction g generalizing c level res with
  | zero => rfl
  | succ g ih =>
    simp only [sweepG, Nat.testBit_succ, Nat.mul_div_cancel_left _ Nat.two_pos, List.getElem?_cons_succ,
      Nat.add_right_comm _ 1, Nat.pow_succ, Nat.mul_comm _ 2, ← Nat.mul_add, Nat.mul_left_cancel_iff Nat.two_pos,
      ge_iff_le, Nat.mul_le_mul_left_iff Nat.two_pos, ih]

theorem carryG_cons (comb : α → α → α) (s : α) (rest : List α) (c g : Nat) (t : α) :
    carryG comb (s :: rest) c (g+1) 0 t
      = if c % 2 = 1 then some (0, t) else shiftRes (carryG comb rest (c/2) g 0 (comb s t)) := by
  simp only [carryG, Nat.testBit_zero, decide_eq_true_eq, List.getElem?_cons_zero, carryG_shift]

/-- one step of the sweep from level 0, seen on the remaining slots: an odd count other than 1 is rounded up -/
theorem sweepG_cons (comb : α → α → α) (s : α) (rest : List α) (g c : Nat) (res : α) :
    sweepG comb (s :: rest) (g+1) c 0 res
      = if c % 2 = 1 then
          if c = 1 then some res else if c + 1 ≥ 2^(g+1) then none else sweepG comb rest g ((c+1)/2) 0 res
        else sweepG comb rest g (c/2) 0 (comb s res) := by
  simp only [sweepG, Nat.testBit_zero, decide_eq_true_eq, Nat.pow_zero, Nat.zero_add, List.getElem?_cons_zero]
  by_cases h : c % 2 = 1
  · rw [if_pos h, if_pos h, sweepG_shift _ _ _ _ _ _ _ (by omega)]
  · rw [if_neg h, if_neg h, sweepG_shift _ _ _ _ _ _ _ (Nat.mod_two_ne_one.1 h)]

theorem carryG_push (comb : α → α → α) (inner pre : List α) (x : α)
    (hk : pre.length + 1 < 2^inner.length) (hinv : InvR comb inner pre) :
    ∃ l t, carryG comb inner (pre.length+1) inner.length 0 x = some (l, t) ∧
      InvR comb (inner.set l t) (pre ++ [x]) := by
  induction hinv generalizing x with
  | nil => simp at hk
  | even s hev hrest =>
    rw [List.length_cons, carryG_cons]
    exact ⟨0, x, if_pos (by omega), .odd hev hrest⟩
  | @odd s rest p hp hrest ih =>
    rw [List.length_append, List.length_singleton] at hk ⊢
    obtain ⟨hc, hk2⟩ : (pairUp comb p).length + 1 = (p.length+1+1)/2 ∧
        (pairUp comb p).length + 1 < 2^rest.length := by
      rw [List.length_cons, Nat.pow_succ] at hk
      rw [pairUp_length_even comb p hp]
      omega
    obtain ⟨l, t, hcar, hi⟩ := ih (comb s x) hk2
    have hlen : (p ++ [s] ++ [x]).length % 2 = 0 := by
      rw [List.append_assoc, List.length_append]
      exact (Nat.add_mod_right p.length 2).trans hp
    rw [List.length_cons, carryG_cons, if_neg (by omega), ← hc, hcar]
    refine ⟨l+1, t, rfl, .even s hlen ?_⟩
    -- the leaf in slot 0 and the new one are the last pair of the level above
    rw [pairUp_append_pair comb p s x hp]
    exact hi

theorem pushAll_inv (comb : α → α → α) (ls : List α) :
    ∀ (inner : List α) (pre : List α),
      inner.length = 32 → (pre ++ ls).length < 2^32 → InvR comb inner pre →
      ∃ inner', pushAll comb (inner, pre.length) ls = some (inner', (pre ++ ls).length) ∧
        inner'.length = 32 ∧ InvR comb inner' (pre ++ ls) := by
  induction ls with
  | nil =>
    intro inner pre hl _ hinv
    rw [List.append_nil]
    exact ⟨inner, rfl, hl, hinv⟩
  | cons x ls ih =>
    intro inner pre hl hk hinv
    rw [List.append_cons] at hk ⊢
    have h1 : pre.length + 1 < 2^32 := by
      simp only [List.length_append, List.length_singleton] at hk
      omega
    obtain ⟨l, t, hc, hi⟩ := carryG_push comb inner pre x (hl ▸ h1) hinv
    rw [hl] at hc
    obtain ⟨inner', hp, hi'⟩ := ih (inner.set l t) (pre ++ [x]) (by simpa using hl) hk hi
    refine ⟨inner', ?_, hi'⟩
    simp only [pushAll, pushLeaf, ge_iff_le, Nat.not_le.2 h1, if_false,
      carry_eq comb inner _ 32 33 0 x rfl (by decide), hc, setSlot]
    simpa using hp

/-- the sweep from a pending node `res` with the finished leaves `pre` before it: every occupied slot is folded into
    `res` on the way up, which is what pairing level by level does to `pre ++ [res]` -/
theorem sweep_root (comb : α → α → α) (zero : α) (inner : List α) :
    ∀ (n : Nat) (pre : List α) (res : α), pre.length < 2^n → InvR comb inner pre →
      sweepG comb inner (n+1) (pre.length+1) 0 res = some (levelRoot comb zero (pre ++ [res])) := by
  induction inner with
  | nil =>
    intro n pre res _ hinv
    cases hinv
    simp [sweepG, levelRoot_single]
  | cons s rest ih =>
    intro n pre res hk hinv
    rw [sweepG_cons]
    by_cases hzero : pre.length = 0
    · obtain rfl : pre = [] := List.eq_nil_of_length_eq_zero hzero
      simp [levelRoot_single]
    · -- a further round needs a further slot
      cases n with
      | zero => exact absurd (Nat.lt_one_iff.1 hk) hzero
      | succ m =>
      rw [← levelRoot_pairUp comb zero (pre ++ _)]
      cases hinv with
      | even _ hev hrest =>
        -- the pending node is promoted unchanged
        obtain ⟨h1, h2, h3, h4, h5⟩ : (pre.length+1) % 2 = 1 ∧ pre.length + 1 ≠ 1 ∧
            pre.length + 1 + 1 < 2^(m+1+1) ∧ (pre.length+1+1)/2 = (pairUp comb pre).length + 1 ∧
            (pairUp comb pre).length < 2^m := by
          rw [pairUp_length_even comb pre hev, Nat.pow_succ _ (m+1)]
          rw [Nat.pow_succ] at hk
          omega
        rw [if_pos h1, if_neg h2, if_neg (Nat.not_le.2 h3), h4, ih m _ res h5 hrest,
          pairUp_append comb pre _ hev]
        rfl
      | @odd _ _ l hl hrest =>
        -- slot 0 holds the last finished leaf: it is paired with the pending node
        rw [List.length_append, List.length_singleton] at hk ⊢
        obtain ⟨h1, h2, h3⟩ : (l.length+1+1) % 2 = 0 ∧ (l.length+1+1)/2 = (pairUp comb l).length + 1 ∧
            (pairUp comb l).length < 2^m := by
          rw [pairUp_length_even comb l hl]
          rw [Nat.pow_succ] at hk
          omega
        rw [if_neg (Nat.mod_two_ne_one.2 h1), h2, ih m _ (comb s res) h3 hrest, pairUp_append_pair comb l s res hl]

/-- The final phase at the lowest set bit `l` of the leaf count: the carry loop from level 0 stops at `l`, which is how
    the code finds it; slot `l` holds some `r`; the sweep from level `l` started on `r` returns the level-by-level root.
    The accumulator `x` of the carry is arbitrary: only the level it stops at is read. -/
theorem lowest_slot_sweep (comb : α → α → α) (zero : α) (inner pre : List α) (hinv : InvR comb inner pre) :
    ∀ (n : Nat) (x : α), 1 ≤ pre.length → pre.length ≤ 2^n →
      ∃ l t r, l ≤ n ∧ carryG comb inner pre.length (n+1) 0 x = some (l, t) ∧ pre.length.testBit l ∧
        inner[l]? = some r ∧ sweepG comb inner (n-l+1) pre.length l r = some (levelRoot comb zero pre) := by
  induction hinv with
  | nil =>
    intro n x hk1
    simp at hk1
  | @even s rest pre hev hrest ih =>
    intro n x hk1 hk
    cases n with
    | zero => omega
    | succ m =>
    have hl2 := pairUp_length_even comb pre hev
    obtain ⟨h1, h2⟩ : 1 ≤ (pairUp comb pre).length ∧ (pairUp comb pre).length ≤ 2^m := by
      rw [Nat.pow_succ] at hk
      omega
    obtain ⟨l, t, r, hle, hl, hb, hr, hsw⟩ := ih m (comb s x) h1 h2
    rw [hl2] at hl hb hsw
    refine ⟨l+1, t, r, Nat.succ_le_succ hle, ?_, by rwa [Nat.testBit_succ], hr, ?_⟩
    · rw [carryG_cons, if_neg (Nat.mod_two_ne_one.2 hev), hl]
      rfl
    · rw [Nat.add_sub_add_right, sweepG_shift _ _ _ _ _ _ _ hev, hsw, levelRoot_pairUp]
  | @odd s rest p hp hrest _ =>
    -- the sweep starts from slot 0, which holds the last leaf
    intro n x _ hk
    rw [List.length_append, List.length_singleton] at hk ⊢
    have hodd : (p.length + 1) % 2 = 1 := by omega
    exact ⟨0, x, s, n.zero_le, by rw [carryG_cons, if_pos hodd], by simpa using hodd, rfl,
      sweep_root comb zero (s :: rest) n p s hk (.even s hp hrest)⟩

theorem fast_eq_level (comb : α → α → α) (zero : α) (leaves : List α)
    (h : leaves.length ≤ 2^31) :
    fast comb zero leaves = some (levelRoot comb zero leaves) := by
  cases leaves with
  | nil => simp [fast, levelRoot_nil]
  | cons x ls =>
    have hlt : (x :: ls).length < 2^32 := Nat.lt_of_le_of_lt h (by decide)
    obtain ⟨inner, hp, hil, hinv⟩ := pushAll_inv comb (x :: ls) (List.replicate 32 zero) []
      (by simp) hlt (.no_leaves comb _)
    simp only [List.length_nil, List.nil_append] at hp hinv
    obtain ⟨l, t, r, hle, hl, hb, hr, hsw⟩ := lowest_slot_sweep comb zero inner (x :: ls) hinv 31 x (by simp) h
    -- at the set bit `l` the inner loop ends at once, so `sweep_eq` speaks of the coded sweep from `l`
    have hs := sweep_eq comb inner (31-l+1) 34 (x :: ls).length l r (by omega) (by omega)
    rw [carryG, if_pos hb, Option.bind_some, hsw] at hs
    simp only [fast, List.isEmpty_cons, Bool.false_eq_true, if_false, hp,
      lowestSet_eq comb inner hil _ _ _ x, carry_eq comb inner _ 32 33 0 x rfl (by decide), hl, Option.map_some, hr, hs]

theorem fast_two (comb : α → α → α) (zero a b : α) : fast comb zero [a, b] = some (comb a b) := by
  rw [fast_eq_level comb zero [a, b] (by simp), levelRoot_cons_cons, pairUp, pairUp, levelRoot_single]

theorem fast_three (comb : α → α → α) (zero a b c : α) : fast comb zero [a, b, c] = some (comb (comb a b) c) := by
  rw [fast_eq_level comb zero [a, b, c] (by simp)]
  simp only [levelRoot_cons_cons, pairUp, levelRoot_single]

/-- the body of the collision is written out, so that by unfolding this proves `… ∨ Collision comb` under each name the
    collision of a two-argument hash has (`Props.C18.Collision`, `Coll2` of `Proofs.Issuance`) -/
theorem comb_inj {comb : α → α → α} {a b c d : α} (h : comb a b = comb c d) :
    (a = c ∧ b = d) ∨ ∃ a b c d, (a, b) ≠ (c, d) ∧ comb a b = comb c d :=
  (Classical.em ((a, b) = (c, d))).imp Prod.mk.inj fun e => ⟨a, b, c, d, e, h⟩

theorem pairUp_inj (comb : α → α → α) (l₁ l₂ : List α) (hlen : l₁.length = l₂.length)
    (h : pairUp comb l₁ = pairUp comb l₂) :
    l₁ = l₂ ∨ (∃ a b c d, (a, b) ≠ (c, d) ∧ comb a b = comb c d) := by
  fun_induction pairUp comb l₁ generalizing l₂ with
  | case1 a b rest ih =>
    match l₂, hlen with
    | c :: d :: rest₂, hlen =>
      simp only [pairUp, List.cons.injEq] at h
      rcases comb_inj h.1 with ⟨rfl, rfl⟩ | hc
      · exact (ih rest₂ (by simpa using hlen) h.2).imp_left (congrArg (a :: b :: ·))
      · exact .inr hc
  | case2 a =>
    match l₂, hlen with
    | [c], _ => exact .inl h
  | case3 =>
    match l₂, hlen with
    | [], _ => exact .inl rfl

theorem root_commits (comb : α → α → α) (zero : α) (l₁ l₂ : List α)
    (hlen : l₁.length = l₂.length)
    (hroot : levelRoot comb zero l₁ = levelRoot comb zero l₂) :
    l₁ = l₂ ∨ (∃ a b c d, (a, b) ≠ (c, d) ∧ comb a b = comb c d) := by
  fun_induction levelRoot comb zero l₁ generalizing l₂ with
  | case1 => exact .inl (List.eq_nil_of_length_eq_zero hlen.symm).symm
  | case2 a =>
    match l₂, hlen with
    | [c], _ =>
      rw [levelRoot_single] at hroot
      exact .inl (congrArg (· :: []) hroot)
  | case3 a b rest ih =>
    match l₂, hlen with
    | c :: d :: r₂, hlen =>
      rw [levelRoot_cons_cons] at hroot
      rcases ih _ (by rw [pairUp_length, pairUp_length, hlen]) hroot with h | h
      · exact pairUp_inj comb _ _ hlen h
      · exact .inr h

end EV.Proofs.FastMerkle
