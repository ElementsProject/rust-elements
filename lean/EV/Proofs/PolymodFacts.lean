/-
  EV.Proofs.PolymodFacts — the two finite tables of each code (`Table1`, `Table2`), one kernel evaluation each.
-/
import EV.Proofs.PolymodTable
namespace EV.Bech32
open Code

theorem bech32Code_table1 : bech32Code.Table1 := table1_of_ok _ (by decide +kernel)

theorem blech32Code_table1 : blech32.code.Table1 := table1_of_ok _ (by decide +kernel)

theorem bech32Code_table2 :
    bech32Code.Table2 (bech32.target ^^^ bech32m.target) (bech32SwitchBound - 1) :=
  table2_of_ok _ bech32Code_good bech32Code_lowBij _ _ 1023 (by decide +kernel)

theorem blech32Code_table2 :
    blech32.code.Table2 (blech32.target ^^^ blech32m.target) (blech32SwitchBound - 1) :=
  table2_of_ok _ blech32Code_good blech32Code_lowBij _ _ 1023 (by decide +kernel)

end EV.Bech32
