/-
  The PSET input of property C11 (`IssPsetInput`, the fields `issuance_ids` reads) is the projection of the full PSET
  input of C08/C14/C07 (`PsetInput`, all 48 fields): the conversions `from_txin`, `extract` and the accessors agree
  under the projection, so C11's `ids_agree` speaks about the same `from_tx`/`extract_tx` as C08's `extract_from_tx`,
  and what C11 says about TxIn → PSET input → extracted TxIn is read off C08's closed form of that round trip
  (`toTxIn_fromTxIn`, `index_iff` of EV.Proofs.PsetRoundTrip).
-/
import EV.Proofs.Issuance
import EV.Proofs.PsetRoundTrip
namespace EV.Proofs.IssuanceBridge
open EV EV.Proofs.Issuance EV.Proofs.PsetRoundTrip

/-- forget the fields the issuance derivation does not read -/
def proj (i : PsetInput) : IssPsetInput :=
  { previousTxid := i.previousTxid
    previousOutputIndex := i.previousOutputIndex
    sequence := i.sequence
    finalScriptSig := i.finalScriptSig
    finalScriptWitness := i.finalScriptWitness
    peginWitness := i.peginWitness
    issuanceValueAmount := i.issuanceValueAmount
    issuanceValueComm := i.issuanceValueComm
    issuanceValueRangeproof := i.issuanceValueRangeproof
    issuanceKeysRangeproof := i.issuanceKeysRangeproof
    issuanceInflationKeys := i.issuanceInflationKeys
    issuanceInflationKeysComm := i.issuanceInflationKeysComm
    issuanceBlindingNonce := i.issuanceBlindingNonce
    issuanceAssetEntropy := i.issuanceAssetEntropy }

theorem valueAmount_eq (v : Value) :
    PsetInput.valueAmount v = (match v with | .explicit x => some x | _ => none) := by cases v <;> rfl

theorem valueComm_eq (v : Value) :
    PsetInput.valueComm v = (match v with | .conf c => some c | _ => none) := by cases v <;> rfl

/-- `Input::from_txin` of the two models agree -/
theorem fromTxin_proj (t : TxIn) : proj (PsetInput.fromTxIn t) = IssPsetInput.fromTxin t := by
  unfold PsetInput.fromTxIn IssPsetInput.fromTxin
  cases t.isPegin <;> cases t.hasIssuance <;> rfl

theorem fromTxin_index (t : TxIn) : (IssPsetInput.fromTxin t).previousOutputIndex = t.voutWord := by
  rw [← fromTxin_proj, fromTxIn_eq]
  rfl

theorem fromTxin_txid (t : TxIn) : (IssPsetInput.fromTxin t).previousTxid = t.previousOutput.txid := by
  rw [← fromTxin_proj, fromTxIn_eq]
  rfl

theorem pairValue_eq (a : Option Nat) (c : Option Bytes) : PsetInput.pairValue a c = IssPsetInput.valueOf a c := by
  cases a <;> cases c <;> rfl

theorem assetIssuance_proj (i : PsetInput) : (proj i).assetIssuance = i.assetIssuance := by
  simp [proj, IssPsetInput.assetIssuance, PsetInput.assetIssuance, pairValue_eq, Issuance.zero32, zero32]

theorem hasIssuance_proj (i : PsetInput) : (proj i).hasIssuance = i.hasIssuance := by
  simp [IssPsetInput.hasIssuance, PsetInput.hasIssuance, assetIssuance_proj]

theorem isPegin_proj (i : PsetInput) : (proj i).isPegin = i.isPegin := rfl

/-- the per-input part of `extract_tx` -/
theorem extract_proj (i : PsetInput) : (proj i).extractIn = i.toTxIn := by
  -- all fields but the issuance agree by definition
  rw [IssPsetInput.extractIn, assetIssuance_proj]
  rfl

theorem extractIn_fromTxin (t : TxIn) : (IssPsetInput.fromTxin t).extractIn = (PsetInput.fromTxIn t).toTxIn := by
  rw [← fromTxin_proj, extract_proj]

theorem extractIn_fromTxin_outpoint (t : TxIn) : (IssPsetInput.fromTxin t).extractIn.previousOutput =
    ⟨t.previousOutput.txid, IssPsetInput.plainIndex t.voutWord⟩ :=
  congrArg TxIn.previousOutput ((extractIn_fromTxin t).trans (toTxIn_fromTxIn t))

theorem extractIn_fromTxin_isPegin (t : TxIn) :
    (IssPsetInput.fromTxin t).extractIn.isPegin = (CodecTx.splitWord t.voutWord).2.1 :=
  congrArg TxIn.isPegin ((extractIn_fromTxin t).trans (toTxIn_fromTxIn t))

variable (H : Hashes)

/-- for ANY input: the ids at the index the flag word strips to (the input's own when `IndexOk`, the coinbase index at
    the one excluded word), with the issuance `from_txin` copies -/
theorem ids_fromTxin (t : TxIn) :
    (IssPsetInput.fromTxin t).issuanceIds H =
      ({ t with previousOutput := ⟨t.previousOutput.txid, IssPsetInput.plainIndex t.voutWord⟩
                assetIssuance := if t.hasIssuance then t.assetIssuance else AssetIssuance.null } : TxIn).issuanceIds H := by
  rw [← ids_extractIn, extractIn_fromTxin, toTxIn_fromTxIn]
  rfl

/-- `asset_issuance()` of the PSET input built from a TxIn: `extract_tx` copies it unchanged -/
theorem fromTxin_assetIssuance (t : TxIn) :
    (IssPsetInput.fromTxin t).assetIssuance = if t.hasIssuance then t.assetIssuance else AssetIssuance.null :=
  congrArg TxIn.assetIssuance ((extractIn_fromTxin t).trans (toTxIn_fromTxIn t))

theorem assetIssuance_fromTxin (t : TxIn) (h : IssuanceOk t) : (IssPsetInput.fromTxin t).assetIssuance = t.assetIssuance :=
  (fromTxin_assetIssuance t).trans (issuance_of_ok t h)

/-- without an issuance both are null -/
theorem fromTxin_amounts (t : TxIn) :
    (IssPsetInput.fromTxin t).assetIssuance.amount = t.assetIssuance.amount ∧
    (IssPsetInput.fromTxin t).assetIssuance.inflationKeys = t.assetIssuance.inflationKeys := by
  rw [fromTxin_assetIssuance]
  cases hq : t.hasIssuance
  · obtain ⟨ha, hk⟩ := amounts_null_of_not_hasIssuance t hq
    exact ⟨ha.symm, hk.symm⟩
  · exact ⟨rfl, rfl⟩

theorem fromTxin_amount (t : TxIn) :
    IssPsetInput.valueOf (IssPsetInput.fromTxin t).issuanceValueAmount (IssPsetInput.fromTxin t).issuanceValueComm
      = t.assetIssuance.amount := (fromTxin_amounts t).1

theorem fromTxin_keys (t : TxIn) :
    IssPsetInput.valueOf (IssPsetInput.fromTxin t).issuanceInflationKeys (IssPsetInput.fromTxin t).issuanceInflationKeysComm
      = t.assetIssuance.inflationKeys := (fromTxin_amounts t).2

theorem plainIndex_word (v : Nat) (p q : Bool) (h : IndexOk v p q) :
    IssPsetInput.plainIndex ((v ||| (if p then 2^30 else 0)) ||| (if q then 2^31 else 0)) = v := by
  rcases h with h | rfl
  · exact ((index_iff v p q _ rfl).2 (Or.inr h)).1
  · exact congrArg IssPsetInput.plainIndex (EV.Proofs.CodecTx.joinWord_coinbase p q)

/-- the coinbase word carries no flags -/
theorem pegin_word (v : Nat) (p q : Bool)
    (h : (v < 2^30 ∧ ¬ (v = 2^30 - 1 ∧ p = true ∧ q = true)) ∨ (v = 0xffffffff ∧ p = false)) :
    (CodecTx.splitWord (CodecTx.joinWord v p q)).2.1 = p :=
  ((index_iff v p q _ rfl).2 h.symm).2

theorem ids_agree_pset (t : TxIn) (h : IndexOk t.previousOutput.vout t.isPegin t.hasIssuance) (hi : IssuanceOk t) :
    (IssPsetInput.fromTxin t).issuanceIds H = t.issuanceIds H := by
  rw [ids_fromTxin, TxIn.voutWord, plainIndex_word _ _ _ h, issuance_of_ok t hi]

end EV.Proofs.IssuanceBridge
