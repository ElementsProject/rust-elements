/-
  The legacy SIGHASH_SINGLE constants, and for each stage of `taproot_encode_signing_data_to` the classes of
  `sighash::Error` it can return (`Res.Post` with the class as the condition on errors).
-/
import EV.Proofs.SighashBasics
namespace EV.Sighash
open EV EV.Codec

/-- the constant written by `encode_legacy_signing_data_to`, the constant returned by
    `legacy_sighash` and Core's `uint256::ONE` are the same 32 bytes -/
theorem legacy_constants : Gen.legacySingleBugConst = uint256One ∧ legacyOne = uint256One := by
  constructor <;> decide

theorem checkAll_cases (pv : Prevouts) (tx : Tx) :
    pv.checkAll tx = .ok () ∨ pv.checkAll tx = .err ePrevoutsSize := by
  cases pv with
  | one j p => exact Or.inl rfl
  | all ps =>
    simp only [Prevouts.checkAll]
    split
    · exact Or.inr rfl
    · exact Or.inl rfl

theorem checkAll_post (pv : Prevouts) (tx : Tx) : (pv.checkAll tx).Post (fun _ => True) (· ∈ [ePrevoutsSize]) := by
  rcases checkAll_cases pv tx with h | h
  · rw [h]
    exact .ok trivial
  · rw [h]
    exact .err (List.mem_singleton.mpr rfl)

theorem tapInsPart_post (H : SigHashes) (tx : Tx) (pv : Prevouts) (ty : SchnorrTy) :
    (tapInsPart H tx pv ty).Post (fun _ => True) (· ∈ [ePrevoutKind]) := by
  simp only [tapInsPart]
  split
  · exact .ok trivial
  · cases pv with
    | one j p => exact .err (List.mem_singleton.mpr rfl)
    | all ps => exact .ok trivial

theorem tapThisPart_post (H : SigHashes) (tx : Tx) (idx : Nat) (pv : Prevouts) (ty : SchnorrTy) :
    (tapThisPart H tx idx pv ty).Post (fun _ => True) (· ∈ [eIndex, ePrevoutIndex]) := by
  simp only [tapThisPart]
  split
  · cases tx.input[idx]? with
    | none => exact .err List.mem_cons_self
    | some txin =>
      exact .bind (((get_post pv idx).imp_err fun e he => List.mem_cons_of_mem _ he).imp fun _ _ _ => .ok trivial)
  · exact .ok trivial

theorem tapSinglePart_post (H : SigHashes) (tx : Tx) (idx : Nat) (ty : SchnorrTy) :
    (tapSinglePart H tx idx ty).Post (fun _ => True) (· ∈ [eSingle]) := by
  simp only [tapSinglePart]
  split
  · cases tx.output[idx]? with
    | none => exact .err (List.mem_singleton.mpr rfl)
    | some o => exact .ok trivial
  · exact .ok trivial

/-- the stages in the order the encoder runs them -/
theorem msgTaproot_post (H : SigHashes) (tx : Tx) (idx : Nat) (pv : Prevouts) (annex : Option Bytes)
    (leaf : Option (Bytes × Nat)) (ty : SchnorrTy) (g : Bytes) :
    (msgTaproot H tx idx pv annex leaf ty g).Post (fun m => ∃ pre, m = pre ++ tapLeafPart leaf)
      (· ∈ [ePrevoutsSize, ePrevoutKind, eIndex, ePrevoutIndex, eSingle]) :=
  .bind (((checkAll_post pv tx).imp_err (by simp)).imp fun _ _ _ =>
    .bind (((tapInsPart_post H tx pv ty).imp_err (by simp)).imp fun _ _ _ =>
      .bind (((tapThisPart_post H tx idx pv ty).imp_err (by simp)).imp fun _ _ _ =>
        .bind (((tapSinglePart_post H tx idx ty).imp_err (by simp)).imp fun _ _ _ => .ok ⟨_, rfl⟩))))

end EV.Sighash
