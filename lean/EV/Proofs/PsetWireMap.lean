/-
  The generic typed-map codec of EV.Model.PsetWire is lawful for ANY field table.  Under `TableOk` well-formed
  slots (`WfSlots`) come back from their encoding, whatever the emission order of the `BTreeMap` groups
  (`decMap_encMap`); under `TableLaw` whatever the pair loop accepts is well-formed (`decMap_wf`).  The loop never
  panics (`decMap_total`).
-/
import EV.Proofs.PsetWireRaw
import EV.Proofs.PsetMap
import EV.Proofs.Res
namespace EV.Proofs.PsetWireMap
open EV EV.Codec EV.PsetWire EV.Proofs.CodecPrim EV.Proofs.PsetWireRaw

/-- a table that routes every key it emits back to the field it came from -/
structure TableOk (T : List Field) : Prop where
  nodup : (T.map (·.tag)).Nodup
  noPlainProp : ∀ f ∈ T, f.tag ≠ .plain propType

/-- a proprietary key that is not routed to a dedicated field of the table -/
def PropFree (T : List Field) (k : Bytes) : Prop :=
  ∃ pfx sub ik, decPropKey k = some (pfx, sub, ik) ∧ (pfx = psetPrefix → findTag T (.pset sub) = none)

/-- an unknown key `type ‖ data`: its type byte has no field of its own -/
def UnkFree (T : List Field) (k : Bytes) : Prop :=
  ∃ ty r, k = ty :: r ∧ ty ≠ propType ∧ findTag T (.plain ty) = none

/-- the inner key `k` is one that `classify` routes to tag `t`: a condition only for the two catch-all tags -/
def tagOk (T : List Field) (t : Tag) (k : Bytes) : Prop :=
  match t with
  | .propAny => PropFree T k
  | .unkAny => UnkFree T k
  | _ => True

theorem findTag_eq (t : Tag) : ∀ T : List Field, findTag T t = T.findIdx? (·.tag = t)
  | [] => rfl
  | f :: fs => by simp only [findTag, List.findIdx?_cons, findTag_eq t fs, decide_eq_true_iff]

theorem findTag_some {T : List Field} {t : Tag} {i : Nat} (h : findTag T t = some i) :
    ∃ f, T[i]? = some f ∧ f.tag = t := by
  obtain ⟨hi, ht, _⟩ := List.findIdx?_eq_some_iff_getElem.mp (findTag_eq t T ▸ h)
  exact ⟨T[i], List.getElem?_eq_getElem hi, of_decide_eq_true ht⟩

theorem findTag_complete {T : List Field} (hn : (T.map (·.tag)).Nodup) {i : Nat} {f : Field} (h : T[i]? = some f) :
    findTag T f.tag = some i := by
  obtain ⟨hi, rfl⟩ := List.getElem?_eq_some_iff.mp h
  rw [findTag_eq]
  refine List.findIdx?_eq_some_iff_getElem.mpr ⟨hi, decide_eq_true rfl, fun j hji hj => ?_⟩
  -- an earlier entry with the same tag would be a duplicate
  have hne := List.pairwise_iff_getElem.mp hn j i (by rw [List.length_map]; exact Nat.lt_trans hji hi)
    (by rw [List.length_map]; exact hi) hji
  rw [List.getElem_map, List.getElem_map] at hne
  exact hne (of_decide_eq_true hj)

theorem psetPrefix_len : psetPrefix.length ≤ maxVecSize := by decide

theorem classify_complete {T : List Field} (hT : TableOk T) {i : Nat} {f : Field} (h : T[i]? = some f) (k : Bytes)
    (hk : tagOk T f.tag k) : classify T (rawKeyOf f.tag k) = .ok (i, k) := by
  have hf := findTag_complete hT.nodup h
  have hmem : f ∈ T := List.mem_of_getElem? h
  cases ht : f.tag with
  | plain ty =>
    rw [ht] at hf
    have hne : ¬ ty = propType := fun e => hT.noPlainProp f hmem (by rw [ht, e])
    simp only [rawKeyOf, classify, if_neg hne, hf]
  | pset sub =>
    rw [ht] at hf
    simp only [rawKeyOf, classify, if_true, decPropKey_enc _ _ _ psetPrefix_len, hf]
  | propAny =>
    rw [ht] at hf hk
    obtain ⟨pfx, sub, ik, h1, h2⟩ := hk
    simp only [rawKeyOf, classify, if_true, h1]
    by_cases e : pfx = psetPrefix
    · simp only [if_pos e, h2 e, hf]
    · simp only [if_neg e, hf]
  | unkAny =>
    rw [ht] at hf hk
    obtain ⟨ty, r, rfl, h1, h2⟩ := hk
    simp only [rawKeyOf, List.headD_cons, List.tail_cons, classify, if_neg h1, h2, hf]

theorem classify_post (T : List Field) (rk : RawKey) :
    (classify T rk).Post fun q => ∃ f, T[q.1]? = some f ∧ rawKeyOf f.tag q.2 = rk ∧ tagOk T f.tag q.2 := by
  obtain ⟨ty, key⟩ := rk
  -- every accepting branch returns the position `findTag` gave for some tag `t`
  have found {t : Tag} {j : Nat} {k : Bytes} (hj : findTag T t = some j) (hraw : rawKeyOf t k = ⟨ty, key⟩) (hok : tagOk T t k) :
      (Res.ok (j, k) : Res (Nat × Bytes)).Post fun q => ∃ f, T[q.1]? = some f ∧ rawKeyOf f.tag q.2 = ⟨ty, key⟩ ∧ tagOk T f.tag q.2 := by
    obtain ⟨f, hf, ht⟩ := findTag_some hj
    exact .ok ⟨f, hf, ht ▸ hraw, ht ▸ hok⟩
  unfold classify
  split
  next hty =>
    subst hty
    split
    next => exact .err trivial
    next pfx sub k' hd =>
      have e1 : key = encPropKey pfx sub k' := (decPropKey_sound _ _ _ _ hd).1
      split
      next j hj =>
        split at hj
        next hp => exact found hj (by simp only [rawKeyOf, e1, hp]) trivial
        next => cases hj
      next hnone =>
        split
        next j hp => exact found hp rfl ⟨pfx, sub, k', hd, fun e => by rw [if_pos e] at hnone; exact hnone⟩
        next => exact .err trivial
  next hty =>
    split
    next j hp => exact found hp rfl trivial
    next hp =>
      split
      next j hu => exact found hu rfl ⟨ty, key, rfl, hty, hp⟩
      next => exact .err trivial

theorem classify_sound {T : List Field} {rk : RawKey} {i : Nat} {ik : Bytes} (h : classify T rk = .ok (i, ik)) :
    ∃ f, T[i]? = some f ∧ rawKeyOf f.tag ik = rk ∧ tagOk T f.tag ik :=
  (classify_post T rk).of_ok h

/-- the shape of a slot by kind of field: at most one entry under the empty key, a `BTreeMap` (strictly sorted,
    valid non-empty keys), or a `Vec` of distinct valid keys -/
def shapeOk (f : Field) (s : Slot) : Prop :=
  match f.kind with
  | .opt => s.length ≤ 1 ∧ ∀ kv ∈ s, kv.1 = []
  | .optLast => s.length ≤ 1 ∧ ∀ kv ∈ s, kv.1 = []
  | .map => KV.Sorted s ∧ ∀ kv ∈ s, kv.1 ≠ [] ∧ f.validKey kv.1 = true
  | .keyList => (KV.keys s).Nodup ∧ ∀ kv ∈ s, f.validKey kv.1 = true

theorem shapeOk_unkeyed {f : Field} {s : Slot} (hk : f.kind = .opt ∨ f.kind = .optLast) :
    shapeOk f s ↔ s.length ≤ 1 ∧ ∀ kv ∈ s, kv.1 = [] := by
  unfold shapeOk
  rcases hk with hk | hk <;> rw [hk]

theorem shapeOk_map {f : Field} {s : Slot} (hk : f.kind = .map) :
    shapeOk f s ↔ KV.Sorted s ∧ ∀ kv ∈ s, kv.1 ≠ [] ∧ f.validKey kv.1 = true := by
  unfold shapeOk
  rw [hk]

theorem shapeOk_keyList {f : Field} {s : Slot} (hk : f.kind = .keyList) :
    shapeOk f s ↔ (KV.keys s).Nodup ∧ ∀ kv ∈ s, f.validKey kv.1 = true := by
  unfold shapeOk
  rw [hk]

/-- an entry a decoder can have produced -/
def entryOk (T : List Field) (f : Field) (kv : Bytes × Bytes) : Prop :=
  tagOk T f.tag kv.1 ∧ (rawKeyOf f.tag kv.1).key.length ≤ maxVecSize ∧ kv.2.length ≤ maxVecSize ∧
    f.normVal kv.1 kv.2 = some kv.2

section
variable {T : List Field} {f : Field} {kv : Bytes × Bytes} (h : entryOk T f kv)
include h

theorem entryOk.routed : tagOk T f.tag kv.1 := h.1

theorem entryOk.keyLen : (rawKeyOf f.tag kv.1).key.length ≤ maxVecSize := h.2.1

theorem entryOk.valLen : kv.2.length ≤ maxVecSize := h.2.2.1

theorem entryOk.canon : f.normVal kv.1 kv.2 = some kv.2 := h.2.2.2

end

/-- a slot a decoder can have left for field `f` -/
structure WfSlot (T : List Field) (f : Field) (s : Slot) : Prop where
  entries : ∀ kv ∈ s, entryOk T f kv
  shape : shapeOk f s

def WfSlots (T : List Field) (st : List Slot) : Prop :=
  st.length = T.length ∧ ∀ (i : Nat) f s, T[i]? = some f → st[i]? = some s → WfSlot T f s

/-- `WfSlots` by recursion over the table: over a literal table `simp only [WfZip]` turns it into one `WfSlot` per
    field.  The routing table `T` is kept apart from the list walked, so that unfolding the literal leaves it alone. -/
def WfZip (T : List Field) : List Field → List Slot → Prop
  | [], [] => True
  | f :: fs, s :: ss => WfSlot T f s ∧ WfZip T fs ss
  | _, _ => False

theorem wfZip_iff (T : List Field) : ∀ (fs : List Field) (ss : List Slot),
    WfZip T fs ss ↔ (ss.length = fs.length ∧ ∀ (i : Nat) f s, fs[i]? = some f → ss[i]? = some s → WfSlot T f s)
  | [], [] => by simp [WfZip]
  | [], _ :: _ => by simp [WfZip]
  | _ :: _, [] => by simp [WfZip]
  | f :: fs, s :: ss => by
    simp only [WfZip, wfZip_iff T fs ss, List.length_cons, Nat.add_right_cancel_iff]
    constructor
    · rintro ⟨h0, hl, hr⟩
      refine ⟨hl, fun i g t hg ht => ?_⟩
      cases i with
      | zero =>
        cases hg
        cases ht
        exact h0
      | succ j => exact hr j g t hg ht
    · rintro ⟨hl, hr⟩
      exact ⟨hr 0 f s rfl rfl, hl, fun i g t hg ht => hr (i + 1) g t hg ht⟩

theorem WfSlots.zip {T : List Field} {st : List Slot} (h : WfSlots T st) : WfZip T T st := (wfZip_iff T T st).mpr h

theorem WfSlots.of_zip {T : List Field} {st : List Slot} (h : WfZip T T st) : WfSlots T st := (wfZip_iff T T st).mp h

theorem wfSlot_nil (T : List Field) (f : Field) : WfSlot T f [] := by
  refine ⟨nofun, ?_⟩
  unfold shapeOk
  cases f.kind <;> simp [KV.Sorted, KV.keys]

theorem unkeyed_cases {T : List Field} {f : Field} {s : Slot} (h : WfSlot T f s) (hk : f.kind = .opt ∨ f.kind = .optLast) :
    s = [] ∨ ∃ v, s = [([], v)] ∧ f.normVal [] v = some v := by
  have hs := (shapeOk_unkeyed hk).mp h.shape
  rcases s with _ | ⟨⟨k, v⟩, _ | _⟩
  · exact .inl rfl
  · cases hs.2 (k, v) (List.mem_cons_self ..)
    exact .inr ⟨v, rfl, (h.entries _ (List.mem_cons_self ..)).canon⟩
  · have := hs.1
    simp only [List.length_cons] at this
    omega

theorem wfSlots_empty (T : List Field) : WfSlots T (emptySlots T) := by
  refine ⟨by simp [emptySlots], ?_⟩
  intro i f s hf hs
  simp only [emptySlots, List.getElem?_map, hf, Option.map_some, Option.some.injEq] at hs
  subst hs
  exact wfSlot_nil T f

/-- what a successful `Field.insert` (one arm of `insert_pair`) did with the canonical value `c`, by kind -/
def Inserted (f : Field) (s : Slot) (k c : Bytes) (s' : Slot) : Prop :=
  match f.kind with
  | .opt => k = [] ∧ s = [] ∧ s' = [([], c)]
  | .optLast => k = [] ∧ s' = [([], c)]
  | .map => k ≠ [] ∧ f.validKey k = true ∧ KV.lookup k s = none ∧ s' = KV.insert k c s
  | .keyList => f.validKey k = true ∧ KV.lookup k s = none ∧ s' = s ++ [(k, c)]

theorem inserted_opt {f : Field} {s s' : Slot} {k c : Bytes} (hk : f.kind = .opt) :
    Inserted f s k c s' ↔ k = [] ∧ s = [] ∧ s' = [([], c)] := by
  unfold Inserted
  rw [hk]

theorem inserted_map {f : Field} {s s' : Slot} {k c : Bytes} (hk : f.kind = .map) :
    Inserted f s k c s' ↔ k ≠ [] ∧ f.validKey k = true ∧ KV.lookup k s = none ∧ s' = KV.insert k c s := by
  unfold Inserted
  rw [hk]

theorem inserted_keyList {f : Field} {s s' : Slot} {k c : Bytes} (hk : f.kind = .keyList) :
    Inserted f s k c s' ↔ f.validKey k = true ∧ KV.lookup k s = none ∧ s' = s ++ [(k, c)] := by
  unfold Inserted
  rw [hk]

theorem inserted_unkeyed {f : Field} {s s' : Slot} {k c : Bytes} (hk : f.kind = .opt ∨ f.kind = .optLast)
    (h : Inserted f s k c s') : k = [] ∧ s' = [([], c)] := by
  unfold Inserted at h
  rcases hk with hk | hk
  · rw [hk] at h
    exact ⟨h.1, h.2.2⟩
  · rw [hk] at h
    exact h

theorem insert_post (f : Field) (s : Slot) (k v : Bytes) :
    (f.insert s k v).Post fun s' => ∃ c, f.normVal k v = some c ∧ Inserted f s k c s' := by
  have hval {k' : Bytes} {g : Bytes → Slot} {e : String} {Q : Slot → Prop} (h : ∀ c, f.normVal k' v = some c → Q (g c)) :
      (match f.normVal k' v with | some c => Res.ok (g c) | none => .err e).Post Q := by
    split
    next c hn => exact .ok (h c hn)
    next => exact .err trivial
  unfold Field.insert Inserted
  cases f.kind with
  | opt =>
    refine .guard fun hk => .guard fun hs => ?_
    cases Decidable.not_not.mp hk
    exact hval fun c hn => ⟨c, hn, rfl, Decidable.not_not.mp hs, rfl⟩
  | optLast =>
    refine .guard fun hk => ?_
    cases Decidable.not_not.mp hk
    exact hval fun c hn => ⟨c, hn, rfl, rfl⟩
  | map =>
    refine .guard fun h0 => .guard fun hv => .guard fun hl => hval fun c hn => ?_
    exact ⟨c, hn, h0, eq_true_of_ne_false hv, Option.not_isSome_iff_eq_none.mp hl, rfl⟩
  | keyList =>
    refine .guard fun hv => .guard fun hl => hval fun c hn => ?_
    exact ⟨c, hn, eq_true_of_ne_false hv, Option.not_isSome_iff_eq_none.mp hl, rfl⟩

theorem insert_ok {f : Field} {s s' : Slot} {k v : Bytes} (h : f.insert s k v = .ok s') :
    ∃ c, f.normVal k v = some c ∧ Inserted f s k c s' :=
  (insert_post f s k v).of_ok h

theorem insert_ok_spec (f : Field) (hnl : f.kind ≠ .optLast) (s s' : Slot) (k v : Bytes)
    (h : f.insert s k v = .ok s') :
    ∃ c, f.normVal k v = some c ∧ KV.lookup k s = none ∧
      ∀ k0, KV.lookup k0 s' = if k0 = k then some c else KV.lookup k0 s := by
  obtain ⟨c, hn, hi⟩ := insert_ok h
  refine ⟨c, hn, ?_⟩
  cases hk : f.kind with
  | opt =>
    obtain ⟨rfl, rfl, rfl⟩ := (inserted_opt hk).mp hi
    exact ⟨rfl, fun _ => rfl⟩
  | optLast => exact absurd hk hnl
  | map =>
    obtain ⟨_, _, hlk, rfl⟩ := (inserted_map hk).mp hi
    exact ⟨hlk, KV.lookup_insert k c s⟩
  | keyList =>
    obtain ⟨_, hlk, rfl⟩ := (inserted_keyList hk).mp hi
    refine ⟨hlk, fun k0 => ?_⟩
    rw [KV.lookup_append]
    show mergeOpt _ (if k0 = k then some c else none) = _
    split
    next e => rw [e, hlk, mergeOpt_none_left]
    next => cases KV.lookup k0 s <;> rfl

theorem getElem?_set_self' {α} {l : List α} {i : Nat} {a b : α} (h : l[i]? = some a) : (l.set i b)[i]? = some b :=
  List.getElem?_set_self (List.getElem?_eq_some_iff.mp h).1

/-- what the pair loop does to the one slot of field `f` while it reads a run of pairs routed there -/
def insertMany (f : Field) : Slot → List (Bytes × Bytes) → Res Slot
  | s, [] => .ok s
  | s, kv :: r => (f.insert s kv.1 kv.2).bind fun s' => insertMany f s' r

theorem insertAll_emit {T : List Field} (hT : TableOk T) {i : Nat} {f : Field} (hf : T[i]? = some f)
    (kvs : List (Bytes × Bytes)) (hk : ∀ kv ∈ kvs, tagOk T f.tag kv.1) :
    ∀ (st : List Slot) (s0 s1 : Slot) (more : List Pair), st[i]? = some s0 → insertMany f s0 kvs = .ok s1 →
      insertAll T st (kvs.map (fun kv => (rawKeyOf f.tag kv.1, kv.2)) ++ more) = insertAll T (st.set i s1) more := by
  induction kvs with
  | nil =>
    intro st s0 s1 more hs hm
    simp only [insertMany, Res.ok.injEq] at hm
    subst hm
    simp only [List.map_nil, List.nil_append]
    obtain ⟨hi, rfl⟩ := List.getElem?_eq_some_iff.mp hs
    rw [List.set_getElem_self hi]
  | cons kv r ih =>
    intro st s0 s1 more hs hm
    obtain ⟨s', hi, hm⟩ := Res.bind_eq_ok.mp hm
    have hc := classify_complete hT hf kv.1 (hk kv (List.mem_cons_self ..))
    have hs' : (st.set i s')[i]? = some s' := getElem?_set_self' hs
    simp only [List.map_cons, List.cons_append, insertAll, insertPair, hc, hf, hs, hi]
    rw [ih (fun kv' h' => hk kv' (List.mem_cons_of_mem _ h')) (st.set i s') s' s1 more hs' hm, List.set_set]

theorem insertBy_perm (lt : Bytes → Bytes → Bool) (x : Bytes × Bytes) (l : Slot) : (insertBy lt x l).Perm (x :: l) := by
  induction l with
  | nil => exact .refl _
  | cons z r ih =>
    simp only [insertBy]
    split
    · exact (ih.cons z).trans (.swap x z r)
    · exact .refl _

theorem sortBy_perm (lt : Bytes → Bytes → Bool) (l : Slot) : (sortBy lt l).Perm l := by
  induction l with
  | nil => exact .refl _
  | cons z r ih => exact (insertBy_perm lt z _).trans (ih.cons z)

theorem order_perm (f : Field) (s : Slot) : (f.order s).Perm s := by
  unfold Field.order
  split
  · exact sortBy_perm _ s
  · exact .refl s

/-- `BTreeMap::extend` rebuilds a sorted map from any rearrangement of its entries -/
theorem extend_of_perm {l s : Slot} (hp : l.Perm s) (hs : KV.Sorted s) : KV.extend [] l = s := by
  have hn : (KV.keys l).Nodup := (hp.map Prod.fst).nodup_iff.mpr hs.nodup
  apply KV.ext_of_sorted (KV.sorted_extend _ _ KV.sorted_nil) hs
  intro k
  rw [KV.lookup_extend_nodup _ _ hn, KV.lookup_perm hp hn]
  cases KV.lookup k s <;> rfl

/-- `map` and `keyList` fields take a run of new, pairwise different keys in the same way; they differ in how one entry is
    put into the slot (`g`) -/
theorem insertMany_fold (f : Field) (hnl : f.kind ≠ .optLast) (g : Slot → Bytes × Bytes → Slot) :
    ∀ (l acc : Slot), (∀ acc, ∀ kv ∈ l, KV.lookup kv.1 acc = none → f.insert acc kv.1 kv.2 = .ok (g acc kv)) → (KV.keys l).Nodup →
      (∀ k ∈ KV.keys l, KV.lookup k acc = none) → ∀ s, l.foldl g acc = s → insertMany f acc l = .ok s
  | [], _, _, _, _, _, hs => congrArg _ hs
  | kv :: r, acc, hg, hn, hd, s, hs => by
    obtain ⟨hnew, hn'⟩ := List.nodup_cons.mp hn
    have hi := hg acc kv List.mem_cons_self (hd kv.1 List.mem_cons_self)
    -- a key of the rest is still absent after the step
    obtain ⟨_, _, _, hlk⟩ := insert_ok_spec f hnl _ _ _ _ hi
    rw [insertMany, hi, Res.ok_bind]
    refine insertMany_fold f hnl g r (g acc kv) (fun a kv' h => hg a kv' (List.mem_cons_of_mem _ h)) hn'
      (fun k hk => ?_) s hs
    rw [hlk, if_neg fun (e : k = kv.1) => hnew (e ▸ hk)]
    exact hd k (List.mem_cons_of_mem _ hk)

theorem foldl_snoc {α} (l acc : List α) : l.foldl (fun s x => s ++ [x]) acc = acc ++ l := by
  induction l generalizing acc with
  | nil => exact (List.append_nil acc).symm
  | cons x r ih => rw [List.foldl_cons, ih, List.append_assoc, List.singleton_append]

theorem insertMany_order (T : List Field) (f : Field) (s : Slot) (h : WfSlot T f s) :
    insertMany f [] (f.order s) = .ok s := by
  have hen := h.entries
  have unkeyed (hk : f.kind = .opt ∨ f.kind = .optLast) : insertMany f [] (f.order s) = .ok s := by
    have ho : f.order s = s := by unfold Field.order; rcases hk with hk | hk <;> rw [hk]
    rw [ho]
    rcases unkeyed_cases h hk with rfl | ⟨v, rfl, hv⟩
    · rfl
    · rcases hk with hk | hk <;> simp [insertMany, Res.bind, Field.insert, hk, hv]
  cases hk : f.kind with
  | opt => exact unkeyed (Or.inl hk)
  | optLast => exact unkeyed (Or.inr hk)
  | map =>
    -- the entries in emission order are inserted one by one: `KV.extend`
    have hsh := (shapeOk_map hk).mp h.shape
    have hp := order_perm f s
    refine insertMany_fold f (by simp [hk]) (fun m kv => KV.insert kv.1 kv.2 m) _ []
      (fun acc kv hkv hnew => ?_) ((hp.map Prod.fst).nodup_iff.mpr hsh.1.nodup) (fun _ _ => rfl) s
      (extend_of_perm hp hsh.1)
    replace hkv := hp.mem_iff.mp hkv
    simp only [Field.insert, hk, if_neg (hsh.2 kv hkv).1, (hsh.2 kv hkv).2, hnew,
      Option.isSome_none, (hen kv hkv).canon, Bool.false_eq_true, if_false, Bool.true_eq_false]
  | keyList =>
    have hsh := (shapeOk_keyList hk).mp h.shape
    simp only [Field.order, hk]
    refine insertMany_fold f (by simp [hk]) (fun m kv => m ++ [kv]) s []
      (fun acc kv hkv hnew => ?_) hsh.1 (fun _ _ => rfl) s (foldl_snoc s [])
    simp only [Field.insert, hk, hsh.2 kv hkv, hnew,
      Option.isSome_none, (hen kv hkv).canon, Bool.false_eq_true, if_false, Bool.true_eq_false]

theorem getPairs_cons (f : Field) (fs : List Field) (s : Slot) (ss : List Slot) :
    getPairs (f :: fs) (s :: ss) = f.emit s ++ getPairs fs ss := rfl

theorem pairOk_getPairs {T : List Field} : ∀ {fs : List Field} {ss : List Slot}, WfZip T fs ss →
    ∀ p ∈ getPairs fs ss, PairOk p
  | f :: _, s :: _, hz, p, hp => by
    refine (List.mem_append.mp hp).elim (fun h => ?_) (pairOk_getPairs hz.2 p)
    obtain ⟨kv, hkv, rfl⟩ := List.mem_map.mp h
    have := hz.1.entries kv ((order_perm f s).mem_iff.mp hkv)
    exact ⟨this.keyLen, this.valLen⟩
  | [], _, _, _, hp => nomatch hp
  | _ :: _, [], _, _, hp => nomatch hp

/-- the table is walked with the slots before the position reached already filled in -/
theorem insertAll_getPairs_aux {T : List Field} (hT : TableOk T) :
    ∀ (suf : List Field) (sPre sSuf : List Slot), T.drop sPre.length = suf → WfZip T suf sSuf →
      insertAll T (sPre ++ emptySlots suf) (getPairs suf sSuf) = .ok (sPre ++ sSuf)
  | [], _, [], _, _ => rfl
  | [], _, _ :: _, _, hw => hw.elim
  | _ :: _, _, [], _, hw => hw.elim
  | f :: fs, sPre, s :: ss, hd, ⟨hws, hwr⟩ => by
    have hf : T[sPre.length]? = some f := by
      rw [← Nat.add_zero sPre.length, ← List.getElem?_drop, hd]
      rfl
    have hs0 : (sPre ++ emptySlots (f :: fs))[sPre.length]? = some [] := by
      rw [List.getElem?_append_right (Nat.le_refl _), Nat.sub_self]
      rfl
    have hk : ∀ kv ∈ f.order s, tagOk T f.tag kv.1 := fun kv hkv => (hws.entries kv ((order_perm f s).mem_iff.mp hkv)).routed
    rw [getPairs_cons, Field.emit, insertAll_emit hT hf (f.order s) hk _ [] s _ hs0 (insertMany_order T f s hws),
      List.set_append_right _ _ (Nat.le_refl _), Nat.sub_self]
    have := insertAll_getPairs_aux hT fs (sPre ++ [s]) ss
      (by rw [List.length_append, ← List.drop_drop, hd]; rfl) hwr
    rwa [List.append_assoc, List.append_assoc] at this

theorem insertAll_getPairs {T : List Field} (hT : TableOk T) (st : List Slot) (hw : WfSlots T st) :
    insertAll T (emptySlots T) (getPairs T st) = .ok st :=
  insertAll_getPairs_aux hT T [] st rfl hw.zip

/-- the value codec of the field is idempotent (a stored value is accepted again, unchanged) and never lengthens a
    value (so the stored value fits a pair if the one read did) -/
def FieldLaw (f : Field) : Prop :=
  ∀ k v c, f.normVal k v = some c → f.normVal k c = some c ∧ c.length ≤ v.length

def TableLaw (T : List Field) : Prop := ∀ f ∈ T, FieldLaw f

theorem insert_wf (T : List Field) (f : Field) (hl : FieldLaw f) (s s' : Slot) (k v : Bytes) (hw : WfSlot T f s)
    (htag : tagOk T f.tag k) (hklen : (rawKeyOf f.tag k).key.length ≤ maxVecSize) (hvlen : v.length ≤ maxVecSize)
    (h : f.insert s k v = .ok s') : WfSlot T f s' := by
  obtain ⟨c, hn, hi⟩ := insert_ok h
  obtain ⟨h1, h2⟩ := hl _ _ _ hn
  have hnew : entryOk T f (k, c) := ⟨htag, hklen, Nat.le_trans h2 hvlen, h1⟩
  have hone : ∀ kv ∈ [(k, c)], entryOk T f kv := fun kv hkv => List.mem_singleton.mp hkv ▸ hnew
  have unkeyed (hk : f.kind = .opt ∨ f.kind = .optLast) : WfSlot T f s' := by
    obtain ⟨rfl, rfl⟩ := inserted_unkeyed hk hi
    exact ⟨hone, (shapeOk_unkeyed hk).mpr ⟨Nat.le_refl 1, fun kv hkv => List.mem_singleton.mp hkv ▸ rfl⟩⟩
  cases hk : f.kind with
  | opt => exact unkeyed (.inl hk)
  | optLast => exact unkeyed (.inr hk)
  | map =>
    have hsh := (shapeOk_map hk).mp hw.shape
    obtain ⟨h0, hv, _, rfl⟩ := (inserted_map hk).mp hi
    refine ⟨fun kv hkv => (KV.mem_insert _ _ _ _ hkv).elim (fun e => e ▸ hnew) (hw.entries kv), (shapeOk_map hk).mpr ?_⟩
    exact ⟨KV.sorted_insert _ _ _ hsh.1, fun kv hkv => (KV.mem_insert _ _ _ _ hkv).elim (fun e => e ▸ ⟨h0, hv⟩) (hsh.2 kv)⟩
  | keyList =>
    have hsh := (shapeOk_keyList hk).mp hw.shape
    obtain ⟨hv, hlk, rfl⟩ := (inserted_keyList hk).mp hi
    refine ⟨fun kv hkv => (List.mem_append.mp hkv).elim (hw.entries kv) (hone kv), (shapeOk_keyList hk).mpr ?_⟩
    refine ⟨?_, fun kv hkv => (List.mem_append.mp hkv).elim (hsh.2 kv) (fun e => List.mem_singleton.mp e ▸ hv)⟩
    -- the keys stay distinct: the new one was looked up and not found
    simp only [KV.keys, List.map_append, List.map_cons, List.map_nil]
    refine List.nodup_append.mpr ⟨hsh.1, by simp, ?_⟩
    intro a ha b hb e
    cases List.mem_singleton.mp hb
    exact (KV.lookup_eq_none_iff _ _).mp hlk (e ▸ ha)

theorem insertPair_post (T : List Field) (st : List Slot) (p : Pair) :
    (insertPair T st p).Post fun st' => ∃ (i : Nat) (ik : Bytes) (f : Field) (s s' : Slot), classify T p.1 = .ok (i, ik) ∧
      T[i]? = some f ∧ st[i]? = some s ∧ f.insert s ik p.2 = .ok s' ∧ st' = st.set i s' := by
  unfold insertPair
  split
  next i ik hc =>
    split
    next f s hf hs =>
      split
      next s' hi => exact .ok ⟨i, ik, f, s, s', hc, hf, hs, hi, rfl⟩
      next => exact .err trivial
      next m hi => exact absurd hi ((insert_post f s ik p.2).ne_panic m)
    next => exact .err trivial
  next => exact .err trivial
  next m hc => exact absurd hc ((classify_post T p.1).ne_panic m)

theorem insertPair_ok {T : List Field} {st st' : List Slot} {p : Pair} (h : insertPair T st p = .ok st') :
    ∃ (i : Nat) (ik : Bytes) (f : Field) (s s' : Slot), classify T p.1 = .ok (i, ik) ∧ T[i]? = some f ∧
      st[i]? = some s ∧ f.insert s ik p.2 = .ok s' ∧ st' = st.set i s' :=
  (insertPair_post T st p).of_ok h

theorem insertAll_cons (T : List Field) (st : List Slot) (p : Pair) (ps : List Pair) :
    insertAll T st (p :: ps) = (insertPair T st p).bind fun st1 => insertAll T st1 ps := by
  rw [insertAll]
  cases insertPair T st p <;> rfl

theorem insertAll_cons_ok {T : List Field} {st st' : List Slot} {p : Pair} {ps : List Pair}
    (h : insertAll T st (p :: ps) = .ok st') : ∃ st1, insertPair T st p = .ok st1 ∧ insertAll T st1 ps = .ok st' :=
  Res.bind_eq_ok.mp (insertAll_cons T st p ps ▸ h)

theorem insertPair_wf {T : List Field} (hL : TableLaw T) (st st' : List Slot) (p : Pair) (hw : WfSlots T st)
    (hp : PairOk p) (h : insertPair T st p = .ok st') : WfSlots T st' := by
  obtain ⟨i, ik, f, s, s', hc, hf, hs, hi, rfl⟩ := insertPair_ok h
  obtain ⟨g, hg, hraw, htag⟩ := classify_sound hc
  cases hf.symm.trans hg
  have hnew := insert_wf T f (hL f (List.mem_of_getElem? hf)) s s' ik p.2 (hw.2 i f s hf hs) htag
    (by rw [hraw]; exact hp.1) hp.2 hi
  refine ⟨by rw [List.length_set]; exact hw.1, ?_⟩
  intro j g t hg ht
  by_cases e : i = j
  · subst e
    rw [getElem?_set_self' hs] at ht
    cases ht
    cases hf.symm.trans hg
    exact hnew
  · rw [List.getElem?_set_ne e] at ht
    exact hw.2 j g t hg ht

theorem insertAll_post {T : List Field} {P : List Slot → Prop} : ∀ (ps : List Pair) (st : List Slot),
    (∀ p ∈ ps, ∀ st st', P st → insertPair T st p = .ok st' → P st') → P st → (insertAll T st ps).Post P
  | [], _, _, h => .ok h
  | p :: ps, st, hstep, h => by
    rw [insertAll_cons]
    refine .bind ((insertPair_post T st p).imp fun st1 h1 _ => ?_)
    exact insertAll_post ps st1 (fun q hq => hstep q (List.mem_cons_of_mem _ hq)) (hstep p List.mem_cons_self st st1 h h1)

theorem insertAll_wf {T : List Field} (hL : TableLaw T) (ps : List Pair) (st st' : List Slot) (hw : WfSlots T st)
    (hp : ∀ p ∈ ps, PairOk p) (h : insertAll T st ps = .ok st') : WfSlots T st' :=
  (insertAll_post ps st (fun p hp' st st' hw h => insertPair_wf hL st st' p hw (hp p hp') h) hw).of_ok h

theorem insertAll_total (T : List Field) (ps : List Pair) (st : List Slot) (m : String) : insertAll T st ps ≠ .panic m :=
  (insertAll_post (P := fun _ => True) ps st (fun _ _ _ _ _ _ => trivial) trivial).ne_panic m

theorem decMap_encMap {T : List Field} (hT : TableOk T) (st : List Slot) (hw : WfSlots T st) (r : Bytes) :
    decMap T (encMap T st ++ r) = .ok (st, r) := by
  simp only [decMap, encMap, decMapRaw_lawful.complete _ _ (pairOk_getPairs hw.zip),
    insertAll_getPairs hT st hw]

theorem decMap_eq (T : List Field) (bs : Bytes) : decMap T bs =
    (decMapRaw bs).bind fun q => (insertAll T (emptySlots T) q.1).bind fun st => .ok (st, q.2) := by
  unfold decMap
  rcases decMapRaw bs with ⟨ps, r⟩ | e | m <;> try rfl
  dsimp only [Res.bind]
  cases insertAll T (emptySlots T) ps <;> rfl

theorem decMap_ok {T : List Field} {bs : Bytes} {st : List Slot} {r : Bytes} (h : decMap T bs = .ok (st, r)) :
    ∃ ps, decMapRaw bs = .ok (ps, r) ∧ insertAll T (emptySlots T) ps = .ok st := by
  obtain ⟨⟨ps, r1⟩, hr, h⟩ := Res.bind_eq_ok.mp (decMap_eq T bs ▸ h)
  obtain ⟨st1, hi, e⟩ := Res.bind_eq_ok.mp h
  cases e
  exact ⟨ps, hr, hi⟩

theorem decMap_wf {T : List Field} (hL : TableLaw T) (bs : Bytes) (st : List Slot) (r : Bytes)
    (h : decMap T bs = .ok (st, r)) : WfSlots T st := by
  obtain ⟨ps, hr, hi⟩ := decMap_ok h
  exact insertAll_wf hL ps _ _ (wfSlots_empty T) (decMapRaw_lawful.sound _ _ _ hr).2 hi

theorem decMap_total (T : List Field) (bs : Bytes) (m : String) : decMap T bs ≠ .panic m :=
  decMap_eq T bs ▸ Res.bind_ne_panic (decMapRaw_lawful.total bs) (fun _ => Res.bind_ne_panic (insertAll_total T _ _) fun _ _ h => by cases h) m

end EV.Proofs.PsetWireMap
