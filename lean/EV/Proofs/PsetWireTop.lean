/-
  The codecs of `Global`, `Input`, `Output` and of the whole PSET (EV.Model.PsetSer), on the well-formed class
  `WfGlobal` / `WfInput` / `WfOutput` / `WfPset`.  Each of the three record decoders comes as a triple: `…_post`
  (never a panic; what is accepted was accepted by `decMap` as the `toSlots` of the record, which is well-formed),
  `…_dec_iff` (the decoder accepts exactly that) and `…_roundtrip`.  The whole PSET: `Pset.dec` written as a chain
  of binds (`pset_dec_eq`), along which `pset_roundtrip` and `deserialize_post` go.
-/
import EV.Model.PsetSer
import EV.Proofs.PsetWireRec
import EV.Proofs.CodecTx
import EV.Proofs.PsetExtract
namespace EV.Proofs.PsetWireTop
open EV EV.Codec EV.PsetWire EV.Proofs.CodecPrim EV.Proofs.PsetWireMap EV.Proofs.PsetWireCodec EV.Proofs.PsetWireConv

/-- a `Global` the decoder can produce: canonical slots, fields within their Rust widths, PSET version 2 -/
def WfGlobal (W : WirePrims) (g : PsetGlobal) : Prop :=
  WfSlots (globalTable W) g.toSlots ∧ g.Bounds ∧ g.version = Gen.PsetWire.psetVersion

def WfInput (W : WirePrims) (x : PsetInput) : Prop := WfSlots (inputTable W) x.toSlots ∧ x.Bounds

/-- canonical slots, bounds and the acceptance rules of `impl Decodable for Output` (amount or commitment, asset or commitment,
    blinder index where a blinding key is set, blinding data absent or complete) -/
def WfOutput (W : WirePrims) (x : PsetOutput) : Prop :=
  WfSlots (outputTable W) x.toSlots ∧ x.Bounds ∧ x.accepted = .ok ()

def WfPset (W : WirePrims) (p : Pset) : Prop :=
  WfGlobal W p.global ∧ (∀ i ∈ p.inputs, WfInput W i) ∧ (∀ o ∈ p.outputs, WfOutput W o) ∧
    p.global.inputCount = p.inputs.length ∧ p.global.outputCount = p.outputs.length ∧
    p.inputs.length ≤ Pset.maxMaps ∧ p.outputs.length ≤ Pset.maxMaps

theorem WfOutput.accepted {W : WirePrims} {x : PsetOutput} (h : WfOutput W x) : x.accepted = .ok () := h.2.2

section
variable {W : WirePrims} {p : Pset} (h : WfPset W p)
include h

theorem WfPset.global : WfGlobal W p.global := h.1

theorem WfPset.inputs : ∀ i ∈ p.inputs, WfInput W i := h.2.1

theorem WfPset.outputs : ∀ o ∈ p.outputs, WfOutput W o := h.2.2.1

theorem WfPset.inputCount : p.global.inputCount = p.inputs.length := h.2.2.2.1

theorem WfPset.outputCount : p.global.outputCount = p.outputs.length := h.2.2.2.2.1

end

/-- `impl Decodable for Input` -/
theorem input_post (W : WirePrims) (bs : Bytes) :
    (PsetInput.dec W bs).Post fun q => decMap (inputTable W) bs = .ok (q.1.toSlots, q.2) ∧ WfInput W q.1 := by
  unfold PsetInput.dec
  split
  next st r hd =>
    have hw := decMap_wf (inputTable_law W) _ _ _ hd
    split
    next => exact .err trivial
    next x ho =>
      refine .guard fun h1 => .guard fun h2 => .ok ?_
      obtain ⟨rfl, hb⟩ := PsetInput.toSlots_ofSlots W st x hw h1 h2 ho
      exact ⟨hd, hw, hb⟩
  next => exact .err trivial
  next m hd => exact absurd hd (decMap_total _ _ m)

theorem input_dec_iff {W : WirePrims} {bs : Bytes} {x : PsetInput} {r : Bytes} :
    PsetInput.dec W bs = .ok (x, r) ↔ decMap (inputTable W) bs = .ok (x.toSlots, r) ∧ WfInput W x := by
  refine ⟨(input_post W bs).of_ok, fun ⟨hd, hw⟩ => ?_⟩
  simp only [PsetInput.dec, hd, PsetInput.ofSlots_toSlots x hw.2]
  rfl

theorem input_roundtrip (W : WirePrims) (x : PsetInput) (h : WfInput W x) (r : Bytes) :
    PsetInput.dec W (PsetInput.enc W x ++ r) = .ok (x, r) :=
  input_dec_iff.mpr ⟨decMap_encMap (inputTable_ok W) _ h.1 r, h⟩

theorem accepted_total (o : PsetOutput) (m : String) : o.accepted ≠ .panic m :=
  Res.guard_ne_panic (Res.guard_ne_panic (Res.guard_ne_panic (Res.guard_ne_panic nofun)))

/-- `impl Decodable for Output`: the acceptance rules are tested last, on the record read -/
theorem output_post (W : WirePrims) (bs : Bytes) :
    (PsetOutput.dec W bs).Post fun q => decMap (outputTable W) bs = .ok (q.1.toSlots, q.2) ∧ WfOutput W q.1 := by
  unfold PsetOutput.dec
  split
  next st r hd =>
    have hw := decMap_wf (outputTable_law W) _ _ _ hd
    split
    next => exact .err trivial
    next x ho =>
      refine .guard fun h1 => ?_
      obtain ⟨rfl, hb⟩ := PsetOutput.toSlots_ofSlots W st x hw h1 ho
      split
      next ha => exact .ok ⟨hd, hw, hb, ha⟩
      next => exact .err trivial
      next m ha => exact absurd ha (accepted_total x m)
  next => exact .err trivial
  next m hd => exact absurd hd (decMap_total _ _ m)

theorem output_dec_iff {W : WirePrims} {bs : Bytes} {x : PsetOutput} {r : Bytes} :
    PsetOutput.dec W bs = .ok (x, r) ↔ decMap (outputTable W) bs = .ok (x.toSlots, r) ∧ WfOutput W x := by
  refine ⟨(output_post W bs).of_ok, fun ⟨hd, hw⟩ => ?_⟩
  simp only [PsetOutput.dec, hd, PsetOutput.ofSlots_toSlots x hw.2.1, hw.2.2]
  rfl

theorem output_roundtrip (W : WirePrims) (x : PsetOutput) (h : WfOutput W x) (r : Bytes) :
    PsetOutput.dec W (PsetOutput.enc W x ++ r) = .ok (x, r) :=
  output_dec_iff.mpr ⟨decMap_encMap (outputTable_ok W) _ h.1 r, h⟩

/-- `impl Decodable for Global`: four mandatory fields and the test for PSET version 2 -/
theorem global_post (W : WirePrims) (bs : Bytes) :
    (PsetGlobal.dec W bs).Post fun q => decMap (globalTable W) bs = .ok (q.1.toSlots, q.2) ∧ WfGlobal W q.1 := by
  unfold PsetGlobal.dec
  split
  next st r hd =>
    have hw := decMap_wf (globalTable_law W) _ _ _ hd
    split
    next => exact .err trivial
    next g ho =>
      refine .guard fun hm1 => .guard fun hv => .guard fun hm2 => .guard fun hm3 => .guard fun hm4 => .ok ?_
      obtain ⟨rfl, hb⟩ := PsetGlobal.toSlots_ofSlots W st g hw hm2 hm3 hm4 hm1 ho
      exact ⟨hd, hw, hb, Decidable.not_not.mp hv⟩
  next => exact .err trivial
  next m hd => exact absurd hd (decMap_total _ _ m)

theorem global_dec_iff {W : WirePrims} {bs : Bytes} {g : PsetGlobal} {r : Bytes} :
    PsetGlobal.dec W bs = .ok (g, r) ↔ decMap (globalTable W) bs = .ok (g.toSlots, r) ∧ WfGlobal W g := by
  refine ⟨(global_post W bs).of_ok, fun ⟨hd, hw⟩ => ?_⟩
  simp only [PsetGlobal.dec, hd, PsetGlobal.ofSlots_toSlots g hw.2.1, hw.2.2, ne_eq, not_true_eq_false, if_false]
  rfl

theorem global_roundtrip (W : WirePrims) (g : PsetGlobal) (h : WfGlobal W g) (r : Bytes) :
    PsetGlobal.dec W (PsetGlobal.enc W g ++ r) = .ok (g, r) :=
  global_dec_iff.mpr ⟨decMap_encMap (globalTable_ok W) _ h.1 r, h⟩

theorem magic_length : Pset.magic.length = 4 := by decide

/-- `sanity_check` -/
theorem sanity_post (p : Pset) :
    p.sanityCheck.Post fun _ => p.global.inputCount = p.inputs.length ∧ p.global.outputCount = p.outputs.length :=
  .guard fun h1 => .guard fun h2 => .ok ⟨Decidable.not_not.mp h1, Decidable.not_not.mp h2⟩

set_option smartUnfolding false in
theorem pset_dec_eq (W : WirePrims) (bs : Bytes) : Pset.dec W bs =
    (take 4 bs).bind fun q0 =>
      if q0.1 ≠ Pset.magic then .err "InvalidMagic" else
      match q0.2 with
      | [] => .err "eof"
      | s :: r1 =>
        if s ≠ Pset.separator then .err "InvalidSeparator" else
        (PsetGlobal.dec W r1).bind fun q1 =>
          if q1.1.inputCount > Pset.maxMaps then .err "TooLargePset" else
          (repeatN (PsetInput.dec W) q1.1.inputCount q1.2).bind fun q2 =>
            if q1.1.outputCount > Pset.maxMaps then .err "TooLargePset" else
            (repeatN (PsetOutput.dec W) q1.1.outputCount q2.2).bind fun q3 =>
              (Pset.sanityCheck ⟨q1.1, q2.1, q3.1⟩).bind fun _ => .ok (⟨q1.1, q2.1, q3.1⟩, q3.2) := rfl

theorem pset_roundtrip (W : WirePrims) (p : Pset) (h : WfPset W p) : Pset.deserialize W (Pset.serialize W p) = .ok p := by
  obtain ⟨hg, hi, ho, hci, hco, hli, hlo⟩ := h
  have hgr := global_roundtrip W p.global hg (p.inputs.flatMap (PsetInput.enc W) ++ p.outputs.flatMap (PsetOutput.enc W))
  have hir := repeatN_complete (PsetInput.dec W) (PsetInput.enc W) (WfInput W) (fun v r hv => input_roundtrip W v hv r)
    p.inputs (p.outputs.flatMap (PsetOutput.enc W)) hi
  have hor := repeatN_complete (PsetOutput.dec W) (PsetOutput.enc W) (WfOutput W) (fun v r hv => output_roundtrip W v hv r)
    p.outputs [] ho
  rw [← hci] at hir
  rw [← hco, List.append_nil] at hor
  have hd : Pset.dec W (Pset.serialize W p) = .ok (p, []) := by
    rw [pset_dec_eq, Pset.serialize, (take_lawful 4).complete _ _ magic_length, List.append_assoc]
    simp only [Res.ok_bind, ne_eq, not_true_eq_false, if_false, hgr, if_neg (Nat.not_lt.mpr (hci ▸ hli)),
      if_neg (Nat.not_lt.mpr (hco ▸ hlo)), hir, hor, (PsetExtract.sanityCheck_eq_ok p ()).mpr ⟨hci, hco⟩]
  rw [Pset.deserialize, hd]

theorem pset_dec_post (W : WirePrims) (bs : Bytes) : (Pset.dec W bs).Post fun q => WfPset W q.1 := by
  rw [pset_dec_eq]
  refine .bind (.intro ((take_lawful 4).total bs) fun q0 _ => .guard fun _ => ?_)
  split
  next => exact .err trivial
  next s r1 _ =>
    refine .guard fun _ => .bind ((global_post W r1).imp fun q1 _ hg => .guard fun hni => ?_)
    have hin := repeatN_post (fun b => (input_post W b).imp fun _ _ h => h.2) q1.1.inputCount q1.2
    refine .bind (Res.Post.imp hin fun q2 _ h2 => .guard fun hno => ?_)
    have hout := repeatN_post (fun b => (output_post W b).imp fun _ _ h => h.2) q1.1.outputCount q2.2
    refine .bind (Res.Post.imp hout fun q3 _ h3 => ?_)
    refine .bind ((sanity_post _).imp fun _ _ _ => .ok ?_)
    exact ⟨hg.2, h2.2, h3.2, h2.1.symm, h3.1.symm, h2.1 ▸ Nat.le_of_not_gt hni, h3.1 ▸ Nat.le_of_not_gt hno⟩

/-- `encode::deserialize` -/
theorem deserialize_post (W : WirePrims) (bs : Bytes) : (Pset.deserialize W bs).Post fun p => WfPset W p := by
  have h := pset_dec_post W bs
  unfold Pset.deserialize
  -- the outcome of `Pset.dec` as a variable: `split` on the unfolded `match` is slow for Lean to check
  generalize Pset.dec W bs = x at h
  match x, h with
  | .ok (_, []), h => exact .ok h
  | .ok (_, _ :: _), _ => exact .err trivial
  | .err _, _ => exact .err trivial
  | .panic _, h => exact h.elim

open EV.Elip

theorem assetMetadata_deser_ser (utf8 : Bytes → Bool) (m : AssetMetadata) (hu : utf8 m.contract = true)
    (hl : m.contract.length ≤ maxVecSize) (hp : m.prevout.wf) : AssetMetadata.deser utf8 m.ser = .ok m := by
  unfold AssetMetadata.deser AssetMetadata.ser
  rw [bytesVec_lawful.complete m.contract _ hl]
  simp only [hu, Bool.not_true, Bool.false_eq_true, if_false]
  rw [EV.Proofs.CodecTx.outpoint_lawful.complete_nil hp]

theorem tokenMetadata_deser_ser (m : TokenMetadata) (hl : m.assetId.length = 32) : TokenMetadata.deser m.ser = .ok m := by
  obtain ⟨a, b⟩ := m
  simp only at hl
  have ht : take 32 a = .ok (a, []) := (take_lawful 32).complete_nil hl
  cases b <;> simp [TokenMetadata.deser, TokenMetadata.ser, ht]

end EV.Proofs.PsetWireTop

-- `OutRules` is named in `EV.Proofs.PsetBridge`, with its users `merge_accepted` and `fromTxOut_accepted_iff`
namespace EV.Proofs.PsetBridge

/-- the four acceptance rules of an output, as propositions about which fields are present -/
structure OutRules (o : PsetOutput) : Prop where
  value : o.amount.isSome = true ∨ o.amountComm.isSome = true
  asset : o.asset.isSome = true ∨ o.assetComm.isSome = true
  index : o.blindingKey.isSome = true → o.blinderIndex.isSome = true
  complete : o.blindingKey.isSome = true →
    (o.amountComm.isSome = true ∨ o.assetComm.isSome = true ∨ o.valueRangeproof.isSome = true ∨
      o.assetSurjectionProof.isSome = true ∨ o.ecdhPubkey.isSome = true) →
    (o.amountComm.isSome = true ∧ o.assetComm.isSome = true ∧ o.valueRangeproof.isSome = true ∧
      o.assetSurjectionProof.isSome = true ∧ o.ecdhPubkey.isSome = true)

end EV.Proofs.PsetBridge

namespace EV.Proofs.PsetWireTop

theorem isPartiallyBlinded_iff (o : PsetOutput) : o.isPartiallyBlinded = true ↔ o.blindingKey.isSome = true ∧
    (o.amountComm.isSome = true ∨ o.assetComm.isSome = true ∨ o.valueRangeproof.isSome = true ∨
      o.assetSurjectionProof.isSome = true ∨ o.ecdhPubkey.isSome = true) := by
  simp only [PsetOutput.isPartiallyBlinded, Bool.and_eq_true, Bool.or_eq_true, or_assoc]

theorem isFullyBlinded_iff (o : PsetOutput) : o.isFullyBlinded = true ↔ o.blindingKey.isSome = true ∧
    o.amountComm.isSome = true ∧ o.assetComm.isSome = true ∧ o.valueRangeproof.isSome = true ∧
      o.assetSurjectionProof.isSome = true ∧ o.ecdhPubkey.isSome = true := by
  simp only [PsetOutput.isFullyBlinded, Bool.and_eq_true, and_assoc]

theorem accepted_iff (o : PsetOutput) : o.accepted = .ok () ↔ PsetBridge.OutRules o := by
  -- each of the four tests of `accepted`, read as "does not fire"
  have value {α β} (a : Option α) (b : Option β) : (a.isNone && b.isNone) = false ↔ a.isSome = true ∨ b.isSome = true := by
    cases a <;> cases b <;> simp
  have index {α β} (a : Option α) (b : Option β) : (a.isSome && b.isNone) = false ↔ (a.isSome = true → b.isSome = true) := by
    cases a <;> cases b <;> simp
  have complete (k p f : Bool) : (k && p && !f) = false ↔ (k = true → p = true → f = true) := by
    cases k <;> cases p <;> cases f <;> simp
  unfold PsetOutput.accepted
  rw [Res.guard_eq_ok, Res.guard_eq_ok, Res.guard_eq_ok, Res.guard_eq_ok, and_iff_left rfl, Bool.not_eq_true,
    Bool.not_eq_true, Bool.not_eq_true, Bool.not_eq_true, value, value, index, complete,
    isPartiallyBlinded_iff, isFullyBlinded_iff]
  constructor
  · rintro ⟨h1, h2, h3, h4⟩
    exact ⟨h1, h2, h3, fun hk hp => (h4 hk ⟨hk, hp⟩).2⟩
  · rintro ⟨h1, h2, h3, h4⟩
    exact ⟨h1, h2, h3, fun hk hp => ⟨hk, h4 hk hp.2⟩⟩

end EV.Proofs.PsetWireTop
