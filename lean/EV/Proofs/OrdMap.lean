/-
  An association list kept sorted by a Boolean strict order on its keys, with insert-or-replace at the sorted position
  (`ins`), is how the model writes Rust's `BTreeMap`: `KV.insert` (key order `bytesLt`) for the PSET containers and
  `Json.insertKV` (key order `blt`) for serde_json's objects are `ins` at their order; at the order that holds of no two
  keys `ins` replaces in place and puts a new key at the end, which is how the model lists a `HashMap`
  (`TxAcc.feeMapAdd`).  Lookups are core's `List.lookup`.  `lt_iff_of_lex`, then `StrictTotal.of_lt`, give each of the
  model's tests for the lexicographic `<` of byte strings its laws from the library's.
-/
import EV.Model.Bytes
namespace EV.OrdMap

variable {κ V : Type}

/-- what the lemmas below ask of a key order -/
structure StrictTotal (lt : κ → κ → Bool) : Prop where
  irrefl : ∀ a, lt a a = false
  trans : ∀ {a b c}, lt a b = true → lt b c = true → lt a c = true
  total : ∀ {a b}, lt a b = false → lt b a = false → a = b

theorem StrictTotal.asymm {lt : κ → κ → Bool} (h : StrictTotal lt) {a b : κ} (hab : lt a b = true) :
    lt b a = false :=
  Bool.eq_false_iff.mpr fun hba => Bool.false_ne_true ((h.irrefl a).symm.trans (h.trans hab hba))

theorem StrictTotal.of_not {lt : κ → κ → Bool} (h : StrictTotal lt) {a b : κ} (hab : ¬ lt a b = true)
    (ne : a ≠ b) : lt b a = true :=
  Decidable.by_contra fun hba => ne (h.total (Bool.eq_false_iff.mpr hab) (Bool.eq_false_iff.mpr hba))

/-- a test on byte strings that compares the heads, and the tails when the heads are equal, decides the lexicographic
    `<` of core `List`, however it is written -/
theorem lt_iff_of_lex {lt : Bytes → Bytes → Bool} (h00 : lt [] [] = false)
    (h01 : ∀ b bs, lt [] (b :: bs) = true) (h10 : ∀ a as, lt (a :: as) [] = false)
    (h11 : ∀ a as b bs, lt (a :: as) (b :: bs) = true ↔ a < b ∨ a = b ∧ lt as bs = true) :
    ∀ a b : Bytes, lt a b = true ↔ a < b
  | [], [] => by simp [h00]
  | [], _ :: _ => by simp [h01]
  | _ :: _, [] => by simp [h10]
  | a :: as, b :: bs => by rw [h11, List.cons_lt_cons_iff, lt_iff_of_lex h00 h01 h10 h11 as bs]

/-- For `Bytes` and not for any `κ`: `List.lt_irrefl`, `List.lt_trans`, `List.le_antisymm` ask for order instances on
    the elements, which `UInt8` has. -/
theorem StrictTotal.of_lt {lt : Bytes → Bytes → Bool} (h : ∀ a b, lt a b = true ↔ a < b) : StrictTotal lt where
  irrefl a := Bool.eq_false_iff.mpr fun e => List.lt_irrefl a ((h a a).1 e)
  trans h1 h2 := (h _ _).2 (List.lt_trans ((h _ _).1 h1) ((h _ _).1 h2))
  total h1 h2 := List.le_antisymm (fun hba => Bool.eq_false_iff.mp h2 ((h _ _).2 hba))
    (fun hab => Bool.eq_false_iff.mp h1 ((h _ _).2 hab))

def Sorted (lt : κ → κ → Bool) (m : List (κ × V)) : Prop := (m.map Prod.fst).Pairwise fun a b => lt a b = true

theorem Sorted.nodup_keys {lt : κ → κ → Bool} (h : StrictTotal lt) {l : List (κ × V)} (hs : Sorted lt l) :
    (l.map Prod.fst).Nodup :=
  List.Pairwise.imp (R := fun a b => lt a b = true) (fun {a b} hab (e : a = b) => by
    rw [e, h.irrefl] at hab
    cases hab) hs

section
variable [DecidableEq κ] {lt : κ → κ → Bool}

/-- `BTreeMap::insert`: replace the value of an existing key, otherwise insert at the sorted position -/
def ins (lt : κ → κ → Bool) (k : κ) (v : V) : List (κ × V) → List (κ × V)
  | [] => [(k, v)]
  | (k', v') :: r =>
    if lt k k' then (k, v) :: (k', v') :: r
    else if k = k' then (k, v) :: r
    else (k', v') :: ins lt k v r

theorem mem_ins {k : κ} {v : V} {m : List (κ × V)} {x : κ × V} (h : x ∈ ins lt k v m) : x = (k, v) ∨ x ∈ m := by
  fun_induction ins lt k v m with
  | case1 => exact .inl (List.mem_singleton.1 h)
  | case2 => exact List.mem_cons.1 h
  | case3 => exact (List.mem_cons.1 h).imp_right (List.mem_cons_of_mem _)
  | case4 k' v' t _ _ ih =>
    rcases List.mem_cons.1 h with e | h
    · exact .inr (e ▸ List.mem_cons_self)
    · exact (ih h).imp_right (List.mem_cons_of_mem _)

theorem mem_foldl_ins {x : κ × V} (l : List (κ × V)) : ∀ {acc : List (κ × V)},
    x ∈ l.foldl (fun m kv => ins lt kv.1 kv.2 m) acc → x ∈ acc ∨ x ∈ l := by
  induction l with
  | nil => exact .inl
  | cons a t ih =>
    intro acc h
    rcases ih h with h | h
    · rcases mem_ins h with e | h
      · exact .inr (e ▸ List.mem_cons_self)
      · exact .inl h
    · exact .inr (List.mem_cons_of_mem _ h)

end

-- `List.lookup` compares keys by `==`, `ins` by a decidable `=`.  The two are separate instance arguments, so that
-- the lemmas apply with whatever instances the keys of the model's maps have (for `Bytes`, `List`'s own `BEq` and
-- `List`'s own `DecidableEq`, neither made from the other); `LawfulBEq` is what makes them agree.
variable [BEq κ] [LawfulBEq κ]

theorem mem_of_lookup {l : List (κ × V)} {q : κ} {v : V} (h : l.lookup q = some v) : (q, v) ∈ l := by
  obtain ⟨l₁, l₂, rfl, _⟩ := List.lookup_eq_some_iff.mp h
  exact List.mem_append_right _ List.mem_cons_self

theorem mem_keys_iff_lookup (m : List (κ × V)) (q : κ) : q ∈ m.map Prod.fst ↔ (m.lookup q).isSome = true := by
  rw [List.lookup_isSome_iff, List.mem_map]
  exact exists_congr fun p => and_congr_right' (eq_comm.trans beq_iff_eq.symm)

variable [DecidableEq κ]

theorem lookup_cons_ite (a : κ × V) (t : List (κ × V)) (q : κ) :
    (a :: t).lookup q = if q = a.1 then some a.2 else t.lookup q := by
  obtain ⟨k, v⟩ := a
  rw [List.lookup_cons]
  by_cases e : q = k
  · rw [if_pos e, beq_iff_eq.2 e]
  · rw [if_neg e, beq_eq_false_iff_ne.2 e]

theorem lookup_ins (lt : κ → κ → Bool) (k : κ) (v : V) (q : κ) (l : List (κ × V)) :
    (ins lt k v l).lookup q = if q = k then some v else l.lookup q := by
  fun_induction ins lt k v l with
  | case1 => exact lookup_cons_ite (k, v) [] q
  | case2 k' v' t _ => exact lookup_cons_ite (k, v) _ q
  | case3 v' t _ =>
    rw [lookup_cons_ite, lookup_cons_ite]
    split <;> rfl
  | case4 k' v' t _ e ih =>
    rw [lookup_cons_ite, lookup_cons_ite, ih]
    by_cases hk : q = k
    · simp only [if_pos hk, if_neg fun h : q = k' => e (hk.symm.trans h)]
    · simp only [if_neg hk]

/-- the pair inserted last wins -/
theorem lookup_foldl_ins (lt : κ → κ → Bool) (q : κ) (l : List (κ × V)) : ∀ acc : List (κ × V),
    (l.foldl (fun m kv => ins lt kv.1 kv.2 m) acc).lookup q = (l.reverse.lookup q).or (acc.lookup q) := by
  induction l with
  | nil => exact fun _ => rfl
  | cons a t ih =>
    intro acc
    rw [List.foldl_cons, ih, lookup_ins, List.reverse_cons, List.lookup_append, lookup_cons_ite,
      List.lookup_nil, Option.or_assoc]
    split <;> rfl

theorem lookup_eq_some_iff_mem (q : κ) (v : V) : ∀ l : List (κ × V), (l.map Prod.fst).Nodup →
    (l.lookup q = some v ↔ (q, v) ∈ l)
  | [], _ => by simp
  | a :: t, hnd => by
    rw [List.map_cons, List.nodup_cons] at hnd
    rw [lookup_cons_ite, List.mem_cons]
    by_cases e : q = a.1
    · have : (q, v) ∉ t := fun hm => hnd.1 (e ▸ List.mem_map_of_mem (f := Prod.fst) hm)
      rw [if_pos e, Option.some.injEq, or_iff_left this]
      exact ⟨fun hv => Prod.ext e hv.symm, fun hp => (congrArg Prod.snd hp).symm⟩
    · rw [if_neg e, lookup_eq_some_iff_mem q v t hnd.2, or_iff_right fun hp => e (congrArg Prod.fst hp)]

theorem lookup_perm {l l' : List (κ × V)} (hp : l.Perm l') (hnd : (l.map Prod.fst).Nodup) (q : κ) :
    l.lookup q = l'.lookup q :=
  Option.ext fun v => by
    rw [lookup_eq_some_iff_mem q v l hnd, lookup_eq_some_iff_mem q v l' ((hp.map _).nodup_iff.1 hnd), hp.mem_iff]

variable {lt : κ → κ → Bool}

theorem mem_keys_ins (k : κ) (v : V) (m : List (κ × V)) (q : κ) :
    q ∈ (ins lt k v m).map Prod.fst ↔ (q = k ∨ q ∈ m.map Prod.fst) := by
  rw [mem_keys_iff_lookup, mem_keys_iff_lookup, lookup_ins]
  by_cases e : q = k
  · simp only [e, if_true, Option.isSome_some, true_or]
  · simp only [e, if_false, false_or]

theorem nodup_keys_ins_false (k : κ) (v : V) (m : List (κ × V)) (h : (m.map Prod.fst).Nodup) :
    ((ins (fun _ _ => false) k v m).map Prod.fst).Nodup := by
  induction m with
  | nil => exact List.pairwise_singleton _ _
  | cons p r ih =>
    rw [ins, if_neg Bool.false_ne_true]
    split
    next e => exact e ▸ h
    next e =>
      rw [List.map_cons, List.nodup_cons] at h ⊢
      exact ⟨fun hm => ((mem_keys_ins k v r p.1).1 hm).elim (fun e' => e e'.symm) h.1, ih h.2⟩

theorem sorted_ins (h : StrictTotal lt) (k : κ) (v : V) (m : List (κ × V)) (hs : Sorted lt m) :
    Sorted lt (ins lt k v m) := by
  fun_induction ins lt k v m with
  | case1 => exact List.pairwise_singleton _ _
  | case2 k' v' t hlt =>
    refine List.pairwise_cons.2 ⟨fun q hq => ?_, hs⟩
    rcases List.mem_cons.1 hq with rfl | hq
    · exact hlt
    · exact h.trans hlt (List.rel_of_pairwise_cons hs hq)
  | case3 v' t _ => exact hs
  | case4 k' v' t hlt ne ih =>
    have hs' := List.pairwise_cons.1 hs
    refine List.pairwise_cons.2 ⟨fun q hq => ?_, ih hs'.2⟩
    rcases (mem_keys_ins k v t q).1 hq with e | hq
    · exact e ▸ h.of_not hlt ne
    · exact hs'.1 q hq

theorem sorted_foldl_ins (h : StrictTotal lt) (l : List (κ × V)) : ∀ acc : List (κ × V), Sorted lt acc →
    Sorted lt (l.foldl (fun m kv => ins lt kv.1 kv.2 m) acc) := by
  induction l with
  | nil => exact fun _ hs => hs
  | cons a t ih => exact fun acc hs => ih _ (sorted_ins h a.1 a.2 acc hs)

theorem ext_of_sorted (h : StrictTotal lt) {l l' : List (κ × V)} (hs : Sorted lt l) (hs' : Sorted lt l')
    (hl : ∀ q, l.lookup q = l'.lookup q) : l = l' := by
  have nodup {m : List (κ × V)} (hm : Sorted lt m) : m.Nodup :=
    List.Pairwise.of_map Prod.fst (fun _ _ hne e => hne (congrArg Prod.fst e)) (hm.nodup_keys h)
  -- the two lists have the same members, so one is a permutation of the other
  have perm : l.Perm l' := by
    refine (List.perm_ext_iff_of_nodup (nodup hs) (nodup hs')).2 fun p => ?_
    rw [← lookup_eq_some_iff_mem p.1 p.2 l (hs.nodup_keys h), ← lookup_eq_some_iff_mem p.1 p.2 l' (hs'.nodup_keys h), hl]
  -- and a permutation between lists sorted by an asymmetric relation is the identity
  exact perm.eq_of_pairwise (le := fun a b => lt a.1 b.1 = true)
    (fun a b _ _ hab hba => absurd hba (Bool.eq_false_iff.mp (h.asymm hab)))
    (List.pairwise_map.1 hs) (List.pairwise_map.1 hs')

end EV.OrdMap
