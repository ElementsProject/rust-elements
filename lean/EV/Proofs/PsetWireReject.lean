/-
  What the generic pair loop (EV.Model.PsetWire `insertAll`, `decMap`) refuses, keeps and reorders, for ANY field
  table.  Two namespaces, both opened by EV.Props.C07: PsetWireReject (`invalid_value_rejected`,
  `duplicate_key_rejected`, `untouched_slot`, `stored`) and PsetWirePerm (`insertAll_perm`: on a table whose fields
  are all of kind `opt` or `map` the loop gives the same result on any rearrangement of the pairs; the global table
  keeps the order of its scalar pairs in `Vec<Tweak>` and is not such a table).
-/
import EV.Model.PsetSer
import EV.Proofs.PsetWireMap
namespace EV.Proofs.PsetWireReject
open EV EV.Codec EV.PsetWire EV.Proofs.PsetWireRaw EV.Proofs.PsetWireMap

theorem insertAll_split_ok {T : List Field} {p : Pair} {post : List Pair} (pre : List Pair) {st st' : List Slot}
    (h : insertAll T st (pre ++ p :: post) = .ok st') :
    ∃ st1 st2, insertAll T st pre = .ok st1 ∧ insertPair T st1 p = .ok st2 ∧ insertAll T st2 post = .ok st' := by
  induction pre generalizing st with
  | nil =>
    obtain ⟨st2, h1, h2⟩ := insertAll_cons_ok h
    exact ⟨st, st2, rfl, h1, h2⟩
  | cons q pre ih =>
    obtain ⟨st0, h0, h⟩ := insertAll_cons_ok h
    obtain ⟨st1, st2, h1, h2, h3⟩ := ih h
    refine ⟨st1, st2, ?_, h2, h3⟩
    rw [insertAll_cons, h0]
    exact h1

theorem insertPair_ok_at {T : List Field} {st st' : List Slot} {p : Pair} {i : Nat} {ik : Bytes} {f : Field}
    (hc : classify T p.1 = .ok (i, ik)) (hf : T[i]? = some f) (h : insertPair T st p = .ok st') :
    ∃ s s', st[i]? = some s ∧ f.insert s ik p.2 = .ok s' ∧ st' = st.set i s' := by
  obtain ⟨j, jk, g, s, s', hc', hg, hs, hi, e⟩ := insertPair_ok h
  cases hc.symm.trans hc'
  cases hf.symm.trans hg
  exact ⟨s, s', hs, hi, e⟩

def Keeps (st : List Slot) (i : Nat) (ik c : Bytes) : Prop := ∃ s, st[i]? = some s ∧ KV.lookup ik s = some c

theorem insertPair_keeps_new {T : List Field} {st st' : List Slot} {p : Pair} {i : Nat} {ik : Bytes} {f : Field}
    (hc : classify T p.1 = .ok (i, ik)) (hf : T[i]? = some f) (hk : f.kind ≠ .optLast)
    (h : insertPair T st p = .ok st') : ∃ c, f.normVal ik p.2 = some c ∧ Keeps st' i ik c := by
  obtain ⟨s, s', hs, hi, rfl⟩ := insertPair_ok_at hc hf h
  obtain ⟨c, h1, _, h3⟩ := insert_ok_spec f hk s s' ik p.2 hi
  exact ⟨c, h1, s', getElem?_set_self' hs, (h3 ik).trans (if_pos rfl)⟩

theorem insertPair_keeps {T : List Field} {st st' : List Slot} {p : Pair} {i : Nat} {ik c : Bytes} {f : Field}
    (hf : T[i]? = some f) (hk : f.kind ≠ .optLast) (h : insertPair T st p = .ok st') (hK : Keeps st i ik c) :
    Keeps st' i ik c := by
  obtain ⟨j, jk, g, s, s', _, hg, hs, hi, rfl⟩ := insertPair_ok h
  obtain ⟨s0, hs0, hl0⟩ := hK
  by_cases e : j = i
  · subst e
    cases hf.symm.trans hg
    cases hs.symm.trans hs0
    obtain ⟨_, _, h2, h3⟩ := insert_ok_spec f hk s s' jk p.2 hi
    have hne : ik ≠ jk := by
      rintro rfl
      cases hl0.symm.trans h2
    exact ⟨s', getElem?_set_self' hs0, by rw [h3 ik, if_neg hne]; exact hl0⟩
  · exact ⟨s0, by rw [List.getElem?_set_ne e]; exact hs0, hl0⟩

theorem insertAll_keeps {T : List Field} {i : Nat} {ik c : Bytes} {f : Field} (hf : T[i]? = some f)
    (hk : f.kind ≠ .optLast) (ps : List Pair) (st st' : List Slot) (h : insertAll T st ps = .ok st')
    (hK : Keeps st i ik c) : Keeps st' i ik c :=
  (insertAll_post ps st (fun _ _ _ _ hK h1 => insertPair_keeps hf hk h1 hK) hK).of_ok h

theorem invalid_value_rejected (T : List Field) (pre post : List Pair) (rk : RawKey) (v : Bytes) (i : Nat) (ik : Bytes)
    (f : Field) (hc : classify T rk = .ok (i, ik)) (hf : T[i]? = some f) (hv : f.normVal ik v = none) :
    ∀ st st', insertAll T st (pre ++ (rk, v) :: post) ≠ .ok st' := by
  intro st st' h
  obtain ⟨st1, st2, _, h3, _⟩ := insertAll_split_ok pre h
  obtain ⟨s, s', _, hi, _⟩ := insertPair_ok_at (p := (rk, v)) hc hf h3
  obtain ⟨c, hn, _⟩ := insert_ok hi
  cases hv.symm.trans hn

theorem duplicate_key_rejected (T : List Field) (pre mid post : List Pair) (rk : RawKey) (v1 v2 : Bytes) (i : Nat)
    (ik : Bytes) (f : Field) (hc : classify T rk = .ok (i, ik)) (hf : T[i]? = some f) (hk : f.kind ≠ .optLast) :
    ∀ st st', insertAll T st (pre ++ (rk, v1) :: (mid ++ (rk, v2) :: post)) ≠ .ok st' := by
  intro st st' h
  obtain ⟨st1, st2, _, h3, h4⟩ := insertAll_split_ok pre h
  obtain ⟨st3, st4, h5, h7, _⟩ := insertAll_split_ok mid h4
  obtain ⟨c, _, hK2⟩ := insertPair_keeps_new (p := (rk, v1)) hc hf hk h3
  obtain ⟨s0, hs0, hl0⟩ := insertAll_keeps hf hk mid st2 st3 h5 hK2
  obtain ⟨s, s', hs, hi, _⟩ := insertPair_ok_at (p := (rk, v2)) hc hf h7
  cases hs.symm.trans hs0
  obtain ⟨_, _, hnone, _⟩ := insert_ok_spec f hk s0 s' ik v2 hi
  cases hl0.symm.trans hnone

theorem untouched_slot (T : List Field) (i : Nat) (ps : List Pair) (st st' : List Slot)
    (hn : ∀ p ∈ ps, ∀ ik, classify T p.1 ≠ .ok (i, ik)) (h : insertAll T st ps = .ok st') : st'[i]? = st[i]? := by
  refine (insertAll_post (P := fun t => t[i]? = st[i]?) ps st (fun p hp t t' ht h1 => ?_) rfl).of_ok h
  obtain ⟨j, jk, g, s, s', hc, _, _, _, rfl⟩ := insertPair_ok h1
  have hne : j ≠ i := fun e => hn p hp jk (e ▸ hc)
  rw [List.getElem?_set_ne hne]
  exact ht

theorem stored (T : List Field) : ∀ (ps : List Pair) (st st' : List Slot), insertAll T st ps = .ok st' →
    ∀ p ∈ ps, ∀ (i : Nat) (ik : Bytes) (f : Field), classify T p.1 = .ok (i, ik) → T[i]? = some f → f.kind ≠ .optLast →
      ∃ s, st'[i]? = some s ∧ KV.lookup ik s = f.normVal ik p.2 := by
  intro ps st st' h p hp i ik f hc hf hk
  obtain ⟨pre, post, rfl⟩ := List.append_of_mem hp
  obtain ⟨st1, st2, _, h1, h2⟩ := insertAll_split_ok pre h
  obtain ⟨c, hn, hK⟩ := insertPair_keeps_new hc hf hk h1
  obtain ⟨s, hs, hl⟩ := insertAll_keeps hf hk post st2 st' h2 hK
  exact ⟨s, hs, hl.trans hn.symm⟩

theorem decMap_pairs {T : List Field} {bs : Bytes} {st : List Slot} {r r' : Bytes} {ps : List Pair}
    (hr : decMapRaw bs = .ok (ps, r)) (h : decMap T bs = .ok (st, r')) : insertAll T (emptySlots T) ps = .ok st := by
  obtain ⟨ps', hr', hi⟩ := decMap_ok h
  rw [hr] at hr'
  cases hr'
  exact hi

/-- a map without a pair of the plain type of field `i` is not decoded into slots whose `i`-th is filled.  For a mandatory
    field and the `toSlots` of a record, where the slot is written `Slot.ofOpt (some _)`, `hfull` is `rfl`: the record
    decoders refuse such a map. -/
theorem plain_missing {T : List Field} {bs : Bytes} {st : List Slot} {r r' : Bytes} {ps : List Pair} {f : Field} {ty : UInt8}
    (i : Nat) (hf : T[i]? = some f) (ht : f.tag = .plain ty) (hr : decMapRaw bs = .ok (ps, r))
    (hn : ∀ p ∈ ps, p.1.ty ≠ ty) (h : decMap T bs = .ok (st, r')) (hfull : slotMissing st i = false) : False := by
  have hu := untouched_slot T i ps _ _ (fun p hp ik hc => by
    obtain ⟨g, hg, hraw, _⟩ := classify_sound hc
    rw [hf] at hg
    cases hg
    rw [ht] at hraw
    exact hn p hp (by rw [← hraw]; rfl)) (decMap_pairs hr h)
  unfold slotMissing at hfull
  rw [List.getD_eq_getElem?_getD, hu] at hfull
  simp only [emptySlots, List.getElem?_map, hf] at hfull
  cases hfull

theorem decMap_dup_rejected {T : List Field} (hk : T.all (fun f => f.kind != .optLast) = true) {bs r : Bytes}
    {pre mid post : List Pair} {rk : RawKey} {v1 v2 : Bytes}
    (hr : decMapRaw bs = .ok (pre ++ (rk, v1) :: (mid ++ (rk, v2) :: post), r)) (st : List Slot) (r' : Bytes) :
    decMap T bs ≠ .ok (st, r') := by
  intro h
  have hi := decMap_pairs hr h
  -- the first of the two pairs was accepted, so the key is routed to a field of the table
  obtain ⟨_, _, _, h1, _⟩ := insertAll_split_ok pre hi
  obtain ⟨i, ik, f, _, _, hc, hf, _⟩ := insertPair_ok h1
  have hne : f.kind ≠ .optLast := bne_iff_ne.mp (List.all_eq_true.mp hk f (List.mem_of_getElem? hf))
  exact duplicate_key_rejected T pre mid post rk v1 v2 i ik f hc hf hne _ _ hi

theorem decMap_stored {T : List Field} {bs : Bytes} {st : List Slot} {r r' : Bytes} {ps : List Pair}
    (hr : decMapRaw bs = .ok (ps, r)) (h : decMap T bs = .ok (st, r')) {p : Pair} (hp : p ∈ ps) {i : Nat} {ik : Bytes}
    {f : Field} (hc : classify T p.1 = .ok (i, ik)) (hf : T[i]? = some f) (hk : f.kind ≠ .optLast) {s : Slot}
    (hs : st[i]? = some s) : KV.lookup ik s = f.normVal ik p.2 := by
  obtain ⟨s', hs', hl⟩ := stored T ps _ _ (decMap_pairs hr h) p hp i ik f hc hf hk
  cases hs'.symm.trans hs
  exact hl

end EV.Proofs.PsetWireReject

namespace EV.Proofs.PsetWirePerm
open EV EV.Codec EV.PsetWire EV.Proofs.PsetWireRaw EV.Proofs.PsetWireMap EV.Proofs.PsetWireReject

/-- every field of the table is unkeyed-with-duplicate-rejection or a `BTreeMap` (a Boolean test: `rfl` for a concrete table) -/
def OrderFree (T : List Field) : Prop := T.all (fun f => f.kind == .opt || f.kind == .map) = true

/-- the `BTreeMap` arm of `insert_pair` -/
theorem insert_map_iff {f : Field} (hk : f.kind = .map) {s s' : Slot} {k v : Bytes} :
    f.insert s k v = .ok s' ↔
      k ≠ [] ∧ f.validKey k = true ∧ KV.lookup k s = none ∧ ∃ c, f.normVal k v = some c ∧ s' = KV.insert k c s := by
  refine ⟨fun h => ?_, fun ⟨h0, h1, h2, c, h3, e⟩ => ?_⟩
  · obtain ⟨c, hn, hi⟩ := insert_ok h
    obtain ⟨h0, h1, h2, e⟩ := (inserted_map hk).mp hi
    exact ⟨h0, h1, h2, c, hn, e⟩
  · simp only [Field.insert, hk, if_neg h0, h1, h2, Option.isSome_none, h3, Bool.false_eq_true, if_false,
      Bool.true_eq_false, e]

theorem field_swap {f : Field} (hk : f.kind = .opt ∨ f.kind = .map) {s s1 s2 : Slot} {ka va kb vb : Bytes}
    (hs : f.kind = .map → KV.Sorted s)
    (h1 : f.insert s ka va = .ok s1) (h2 : f.insert s1 kb vb = .ok s2) :
    ∃ s1', f.insert s kb vb = .ok s1' ∧ f.insert s1' ka va = .ok s2 := by
  rcases hk with hk | hk
  · -- an unkeyed slot takes one pair only: the first left it non-empty, the second found it empty
    obtain ⟨_, _, ha⟩ := insert_ok h1
    obtain ⟨_, _, hb⟩ := insert_ok h2
    cases ((inserted_opt hk).mp ha).2.2.symm.trans ((inserted_opt hk).mp hb).2.1
  · obtain ⟨a0, a1, a2, ca, a3, rfl⟩ := (insert_map_iff hk).mp h1
    obtain ⟨b0, b1, b2, cb, b3, rfl⟩ := (insert_map_iff hk).mp h2
    rw [KV.lookup_insert] at b2
    have hne : kb ≠ ka := by
      intro e
      rw [if_pos e] at b2
      cases b2
    rw [if_neg hne] at b2
    refine ⟨KV.insert kb cb s, (insert_map_iff hk).mpr ⟨b0, b1, b2, cb, b3, rfl⟩,
      (insert_map_iff hk).mpr ⟨a0, a1, ?_, ca, a3, ?_⟩⟩
    · rw [KV.lookup_insert, if_neg hne.symm]
      exact a2
    -- insertions at different keys commute: both sides are sorted and have the same lookups
    have hS := hs hk
    apply KV.ext_of_sorted (KV.sorted_insert _ _ _ (KV.sorted_insert _ _ _ hS))
      (KV.sorted_insert _ _ _ (KV.sorted_insert _ _ _ hS))
    intro k
    simp only [KV.lookup_insert]
    by_cases e1 : k = kb
    · have e2 : ¬ k = ka := fun e => hne (e1.symm.trans e)
      simp only [if_pos e1, if_neg e2]
    · simp only [if_neg e1]

theorem insertPair_swap {T : List Field} (hO : OrderFree T) {st s1 s2 : List Slot} {a b : Pair} (hw : WfSlots T st)
    (h1 : insertPair T st a = .ok s1) (h2 : insertPair T s1 b = .ok s2) :
    ∃ s1', insertPair T st b = .ok s1' ∧ insertPair T s1' a = .ok s2 := by
  obtain ⟨i, ka, f, sa, sa', hca, hf, hsa, hia, rfl⟩ := insertPair_ok h1
  obtain ⟨j, kb, g, sb, sb', hcb, hg, hsb, hib, rfl⟩ := insertPair_ok h2
  by_cases e : i = j
  · subst e
    cases hf.symm.trans hg
    cases (getElem?_set_self' hsa).symm.trans hsb
    have hsorted : f.kind = .map → KV.Sorted sa := fun hk => ((shapeOk_map hk).mp (hw.2 i f sa hf hsa).shape).1
    have hk := ((Bool.or_eq_true _ _).mp (List.all_eq_true.mp hO f (List.mem_of_getElem? hf))).imp eq_of_beq eq_of_beq
    obtain ⟨t, ht1, ht2⟩ := field_swap hk hsorted hia hib
    refine ⟨st.set i t, ?_, ?_⟩
    · simp only [insertPair, hcb, hf, hsa, ht1]
    · simp only [insertPair, hca, hf, getElem?_set_self' hsa, ht2, List.set_set]
  · rw [List.getElem?_set_ne e] at hsb
    refine ⟨st.set j sb', ?_, ?_⟩
    · simp only [insertPair, hcb, hg, hsb, hib]
    · have hsa' : (st.set j sb')[i]? = some sa := by
        rw [List.getElem?_set_ne (fun h => e h.symm)]
        exact hsa
      simp only [insertPair, hca, hf, hsa', hia]
      rw [List.set_comm _ _ e]

theorem insertAll_perm {T : List Field} (hL : TableLaw T) (hO : OrderFree T) (ps ps' : List Pair) (hp : ps.Perm ps') :
    ∀ (st st' : List Slot), WfSlots T st → (∀ p ∈ ps, PairOk p) →
      insertAll T st ps = .ok st' → insertAll T st ps' = .ok st' := by
  induction hp with
  | nil =>
    intro st st' _ _ h
    exact h
  | cons x _ ih =>
    intro st st' hw hok h
    obtain ⟨st1, h1, h2⟩ := insertAll_cons_ok h
    simp only [insertAll, h1]
    exact ih st1 st' (insertPair_wf hL st st1 x hw (hok x (List.mem_cons_self ..)) h1)
      (fun q hq => hok q (List.mem_cons_of_mem _ hq)) h2
  | swap x y l =>
    intro st st' hw _ h
    obtain ⟨st1, h1, h2⟩ := insertAll_cons_ok h
    obtain ⟨st2, h3, h4⟩ := insertAll_cons_ok h2
    obtain ⟨t, t1, t2⟩ := insertPair_swap hO hw h1 h3
    simp only [insertAll, t1, t2]
    exact h4
  | trans hp1 _ ih1 ih2 =>
    intro st st' hw hok h
    exact ih2 st st' hw (fun p hp => hok p (hp1.mem_iff.mpr hp)) (ih1 st st' hw hok h)

theorem decMap_perm {T : List Field} (hL : TableLaw T) (hO : OrderFree T) (ps ps' : List Pair)
    (hp : ps.Perm ps') (hok : ∀ p ∈ ps, PairOk p) (r : Bytes) (st : List Slot) (r' : Bytes)
    (h : decMap T (encPairs ps ++ r) = .ok (st, r')) : decMap T (encPairs ps' ++ r) = .ok (st, r') := by
  have hok' : ∀ p ∈ ps', PairOk p := fun p hp' => hok p (hp.mem_iff.mpr hp')
  obtain ⟨_, hr, hi⟩ := decMap_ok h
  rw [decMapRaw_lawful.complete ps r hok] at hr
  cases hr
  simp only [decMap, decMapRaw_lawful.complete ps' r hok',
    insertAll_perm hL hO ps ps' hp _ _ (wfSlots_empty T) hok hi]

end EV.Proofs.PsetWirePerm
