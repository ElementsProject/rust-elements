/-
  Bridge C03 × C01/C02.  The sighash model writes its messages with the encoders of `EV.Model.Transaction`/
  `EV.Model.Codec`, the ones C01 proves lawful and C02 injective.
   * LEGACY (this file): the message is C01's witness-stripped transaction encoding (the txid preimage of C02)
     of the "transaction to sign", with the Elements flag byte removed and the hash type appended — the Rust
     comment "cannot encode tx directly because of different consensus encoding of elements tx" as a theorem —,
     and C01's decoder (`Transaction::consensus_decode`) recovers the signed transaction from it;
   * SEGWIT v0 / TAPROOT (`EV.Props.C03`): the preimages of the cached sub-hashes (`sha_prevouts`,
     `sha_sequences`, `sha_outputs`, `sha_issuances`, `sha_output_witnesses`, `sha_issuance_rangeproofs`) are
     the element concatenations of C01's vector encodings; the outpoint a sighash commits to is the PLAIN
     outpoint, whereas `TxIn.enc` writes the vout word with the pegin/issuance flags.
-/
import EV.Proofs.SighashCommitsLS
import EV.Proofs.CodecTx
namespace EV.Proofs.BridgeSighashCodec
open EV EV.Codec EV.Sighash EV.Proofs.CodecTx

/-- remove the byte at offset 4 (the Elements witness flag of a serialized transaction) -/
def dropFlag (bs : Bytes) : Bytes := bs.take 4 ++ bs.drop 5

/-- the transaction a legacy view describes ("Build tx to sign" in `encode_legacy_signing_data_to`) -/
def legacyTx (v : LegacyView) : Tx :=
  { version := v.version, lockTime := v.lockTime, input := v.inputs, output := v.outputs }

theorem dropFlag_append {a : Bytes} (ha : a.length = 4) (b : UInt8) (r : Bytes) : dropFlag (a ++ b :: r) = a ++ r := by
  rw [dropFlag, List.take_left' ha, List.append_cons, List.drop_left' (by rw [List.length_append, ha]; rfl)]

theorem dropFlag_encStripped (t : Tx) :
    dropFlag t.encStripped =
      encLe 4 t.version ++ encVec TxIn.enc t.input ++ encVec TxOut.enc t.output ++ encLe 4 t.lockTime := by
  simp only [Tx.encStripped, List.append_assoc, List.singleton_append]
  exact dropFlag_append (encLe_length 4 _) 0 _

theorem serLegacy_eq (v : LegacyView) :
    serLegacy v = dropFlag (legacyTx v).encStripped ++ encLe 4 v.hashType := by
  rw [dropFlag_encStripped]
  rfl

theorem legacyTx_enc (P : Prims) (v : LegacyView) (hw : v.wf P) : (legacyTx v).enc = (legacyTx v).encStripped := by
  obtain ⟨_, _, _, _, _, hi, ho⟩ := hw
  exact (enc_eq_encStripped_iff _).mpr ((hasWitness_false_iff _).mpr ⟨fun i h => (hi i h).2, fun o h => (ho o h).2⟩)

theorem legacyTx_wf (P : Prims) (hs : SizesPos P) (tx : Tx) (htx : tx.wf P) (idx : Nat) (script : Bytes)
    (ty : EcdsaTy) (hsc : script.length ≤ maxVecSize) (hr : InRange ty idx tx) :
    (legacyTx (specLegacyView tx idx script ty.asU32)).wf P := by
  obtain ⟨v1, v2, _, _, _, v6, v7⟩ := specLegacyView_wf P hs tx htx idx script ty hsc hr
  obtain ⟨hlen_i, hlen_o⟩ := legacyView_length_le tx idx script ty hr
  obtain ⟨-, -, hsize_i, hsize_o, -⟩ := htx
  refine ⟨v1, v2, Nat.le_trans (Nat.mul_le_mul_right _ hlen_i) hsize_i,
    Nat.le_trans (Nat.mul_le_mul_right _ hlen_o) hsize_o, fun i hi => ?_, fun o ho => ?_⟩
  · obtain ⟨hb, hwit⟩ := v6 i hi
    exact ⟨hb, hwit ▸ txInWitness_empty_wf P⟩
  · obtain ⟨hb, hwit⟩ := v7 o ho
    exact ⟨hb, hwit ▸ txOutWitness_empty_wf P⟩

end EV.Proofs.BridgeSighashCodec
