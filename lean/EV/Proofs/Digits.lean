/-
  EV.Proofs.Digits — numbers as digit strings: `digits` and `ofDigits` of `EV.Model.Base58` are inverse
  to each other; size of a number from its leading digit and back.
-/
import EV.Model.Base58
namespace EV.Base58

theorem toDigits_of_zero (b f : Nat) (acc : List Nat) : toDigits b f 0 acc = acc := by
  cases f <;> simp [toDigits]

theorem toDigits_succ (b f m : Nat) (acc : List Nat) :
    toDigits b (f + 1) (m + 1) acc = toDigits b f ((m + 1) / b) ((m + 1) % b :: acc) := by
  rw [toDigits, if_neg (Nat.succ_ne_zero m)]

theorem toDigits_eq (b : Nat) (hb : 2 ≤ b) (f : Nat) :
    ∀ n acc, n ≤ f → toDigits b f n acc = digits b n ++ acc := by
  induction f using Nat.strongRecOn with
  | ind f ih =>
    intro n acc hn
    cases n with
    | zero =>
      rw [toDigits_of_zero]
      rfl
    | succ m =>
      obtain ⟨g, rfl⟩ : ∃ g, f = g + 1 := ⟨f - 1, by omega⟩
      have hq : (m + 1) / b ≤ m := Nat.le_of_lt_succ (Nat.div_lt_self (Nat.succ_pos m) (by omega))
      rw [toDigits_succ, digits, toDigits_succ, ih g (Nat.lt_succ_self g) _ _ (by omega),
        ih m (by omega) _ _ hq, List.append_assoc]
      rfl

theorem digits_zero (b : Nat) : digits b 0 = [] := rfl

theorem ofDigits_snoc (b : Nat) (l : List Nat) (d : Nat) : ofDigits b (l ++ [d]) = ofDigits b l * b + d := by
  simp [ofDigits, List.foldl_append]

theorem ofDigits_nil (b : Nat) : ofDigits b [] = 0 := rfl

theorem ofDigits_cons (b x : Nat) (l : List Nat) :
    ofDigits b (x :: l) = x * b ^ l.length + ofDigits b l := by
  induction l generalizing x with
  | nil => simp [ofDigits]
  | cons y l ih =>
    have e : ofDigits b (x :: y :: l) = ofDigits b ((x * b + y) :: l) := by simp [ofDigits]
    rw [e, ih, ih y, List.length_cons, Nat.pow_succ, Nat.add_mul, Nat.add_assoc, Nat.mul_assoc, Nat.mul_comm b]

theorem ofDigits_pos (b x : Nat) (xs : List Nat) (hb : 1 ≤ b) (hx : x ≠ 0) : 0 < ofDigits b (x :: xs) := by
  rw [ofDigits_cons]
  exact Nat.add_pos_left (Nat.mul_pos (Nat.pos_of_ne_zero hx) (Nat.pow_pos hb)) _

theorem digits_append (b n : Nat) (hb : 2 ≤ b) (hn : 0 < n) : digits b n = digits b (n / b) ++ [n % b] := by
  obtain ⟨m, rfl⟩ : ∃ m, n = m + 1 := ⟨n - 1, by omega⟩
  rw [digits, toDigits_succ]
  exact toDigits_eq b hb m _ _ (Nat.le_of_lt_succ (Nat.div_lt_self (Nat.succ_pos m) (by omega)))

theorem digits_spec (b n : Nat) (hb : 2 ≤ b) :
    ofDigits b (digits b n) = n ∧ (∀ d ∈ digits b n, d < b) ∧ (digits b n).head? ≠ some 0 := by
  induction n using Nat.strongRecOn with
  | ind n ih =>
    by_cases hn : n = 0
    · subst hn
      simp [digits_zero, ofDigits_nil]
    · have hn' : 0 < n := Nat.pos_of_ne_zero hn
      obtain ⟨hv, hlt, hh⟩ := ih (n / b) (Nat.div_lt_self hn' (by omega))
      rw [digits_append b n hb hn']
      refine ⟨?_, ?_, ?_⟩
      · rw [ofDigits_snoc, hv, Nat.mul_comm]
        exact Nat.div_add_mod n b
      · exact List.forall_mem_append.mpr ⟨hlt, List.forall_mem_singleton.mpr (Nat.mod_lt _ (by omega))⟩
      · -- the head is that of the digits of `n / b`; if there are none, `n / b = 0` and `n % b = n` is not `0`
        cases hd : digits b (n / b) with
        | nil =>
          rw [hd] at hv
          have hlt' : n < b := (Nat.div_eq_zero_iff.mp hv.symm).resolve_left (by omega)
          simp [Nat.mod_eq_of_lt hlt', hn]
        | cons x xs =>
          rw [hd] at hh
          simpa using hh

theorem ofDigits_digits (b n : Nat) (hb : 2 ≤ b) : ofDigits b (digits b n) = n := (digits_spec b n hb).1

theorem digits_lt (b n : Nat) (hb : 2 ≤ b) : ∀ d ∈ digits b n, d < b := (digits_spec b n hb).2.1

theorem digits_head_ne_zero (b n : Nat) (hb : 2 ≤ b) : (digits b n).head? ≠ some 0 := (digits_spec b n hb).2.2

theorem digits_foldl (b : Nat) (hb : 2 ≤ b) (ds : List Nat) (a : Nat) (hlt : ∀ d ∈ ds, d < b)
    (hh : a = 0 → ds.head? ≠ some 0) :
    digits b (ds.foldl (fun a d => a * b + d) a) = digits b a ++ ds := by
  induction ds generalizing a with
  | nil => exact (List.append_nil _).symm
  | cons d ds ih =>
    have hd : d < b := hlt d List.mem_cons_self
    have hpos : 0 < a * b + d := by
      rcases Nat.eq_zero_or_pos a with ha | ha
      · have := hh ha
        simp at this
        omega
      · exact Nat.add_pos_left (Nat.mul_pos ha (by omega)) d
    rw [List.foldl_cons, ih _ (List.forall_mem_cons.mp hlt).2 (fun h0 => absurd h0 (by omega)),
      digits_append b _ hb hpos, Nat.mul_comm, Nat.mul_add_div (by omega), Nat.div_eq_of_lt hd, Nat.mul_add_mod,
      Nat.mod_eq_of_lt hd, Nat.add_zero, List.append_assoc]
    rfl

theorem digits_ofDigits (b : Nat) (hb : 2 ≤ b) (ds : List Nat) (hlt : ∀ d ∈ ds, d < b)
    (hh : ds.head? ≠ some 0) : digits b (ofDigits b ds) = ds :=
  digits_foldl b hb ds 0 hlt fun _ => hh

theorem digits_eq_cons (b k n : Nat) (hb : 2 ≤ b) (h1 : 0 < n / b ^ k) (h2 : n / b ^ k < b) :
    ∃ rest, digits b n = n / b ^ k :: rest ∧ rest.length = k := by
  induction k generalizing n with
  | zero =>
    rw [Nat.pow_zero, Nat.div_one] at h1 h2 ⊢
    refine ⟨[], ?_, rfl⟩
    rw [digits_append b n hb h1, Nat.div_eq_of_lt h2, Nat.mod_eq_of_lt h2]
    rfl
  | succ k ih =>
    rw [Nat.pow_succ', ← Nat.div_div_eq_div_mul] at h1 h2 ⊢
    obtain ⟨rest, hd, hlen⟩ := ih (n / b) h1 h2
    have hn : 0 < n := Nat.pos_of_ne_zero (by rintro rfl; simp at h1)
    refine ⟨rest ++ [n % b], ?_, by rw [List.length_append, hlen]; rfl⟩
    rw [digits_append b n hb hn, hd]
    rfl

theorem ofDigits_lt_pow (b : Nat) : ∀ (l : List Nat), (∀ x ∈ l, x < b) →
    ofDigits b l < b ^ l.length := by
  intro l
  induction l with
  | nil => intro _; simp [ofDigits_nil]
  | cons x l ih =>
    intro h
    have hx : x < b := h x List.mem_cons_self
    have := ih (List.forall_mem_cons.mp h).2
    rw [ofDigits_cons, List.length_cons, Nat.pow_succ]
    calc x * b ^ l.length + ofDigits b l < x * b ^ l.length + b ^ l.length := by omega
      _ = (x + 1) * b ^ l.length := by rw [Nat.add_mul, Nat.one_mul]
      _ ≤ b * b ^ l.length := Nat.mul_le_mul_right _ hx
      _ = b ^ l.length * b := Nat.mul_comm _ _

theorem ofDigits_inj (b : Nat) (hb : 2 ≤ b) (a c : List Nat) (hl : a.length = c.length) (ha : ∀ d ∈ a, d < b)
    (hc : ∀ d ∈ c, d < b) (hp : ofDigits b a = ofDigits b c) : a = c := by
  -- behind a leading `1` both are the digits of one number
  have e : ofDigits b (1 :: a) = ofDigits b (1 :: c) := by rw [ofDigits_cons, ofDigits_cons, hl, hp]
  have h1 := digits_ofDigits b hb (1 :: a) (List.forall_mem_cons.mpr ⟨hb, ha⟩) (by simp)
  have h2 := digits_ofDigits b hb (1 :: c) (List.forall_mem_cons.mpr ⟨hb, hc⟩) (by simp)
  exact (List.cons.inj (h1.symm.trans (e ▸ h2))).2

theorem ofDigits_cons_range (b v : Nat) (rest : List Nat) (h : ∀ x ∈ rest, x < b) :
    v * b ^ rest.length ≤ ofDigits b (v :: rest) ∧ ofDigits b (v :: rest) < (v + 1) * b ^ rest.length := by
  have := ofDigits_lt_pow b rest h
  rw [ofDigits_cons, Nat.add_mul, Nat.one_mul]
  omega

end EV.Base58
