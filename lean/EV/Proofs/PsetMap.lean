/-
  Laws of the PSET containers (EV.Model.PsetMap): `KV.insert`/`KV.extend` behave like `BTreeMap::insert`/`extend`;
  a sorted map is determined by its lookups, hence `extend` is associative, and commutative on maps that agree on
  common keys; `merge!` and `cmp::max` on options; sort+dedup of scalars.
-/
import EV.Model.PsetMap
import EV.Proofs.OrdMap
namespace EV

theorem bytesLt_nil_right (a : Bytes) : bytesLt a [] = false := by
  cases a <;> rfl

theorem bytesLt_iff_lt : ∀ a b : Bytes, bytesLt a b = true ↔ a < b :=
  OrdMap.lt_iff_of_lex rfl (fun _ _ => rfl) (fun _ _ => rfl) fun a as b bs => by
    simp only [bytesLt, Bool.or_eq_true, Bool.and_eq_true, decide_eq_true_eq, UInt8.lt_iff_toNat_lt]

theorem bytesLt_strict : OrdMap.StrictTotal bytesLt := .of_lt bytesLt_iff_lt

theorem mergeOpt_isSome {α} (a b : Option α) : (mergeOpt a b).isSome = (a.isSome || b.isSome) := by
  cases a <;> rfl

theorem mergeOpt_isSome_of_or {α} (a b : Option α) (h : a.isSome ∨ b.isSome) : (mergeOpt a b).isSome := by
  rw [mergeOpt_isSome, Bool.or_eq_true]
  exact h

theorem mergeOpt_none_left {α} (b : Option α) : mergeOpt none b = b := rfl

theorem mergeOpt_self {α} (a : Option α) : mergeOpt a a = a := by cases a <;> rfl

theorem mergeOpt_of_eq {α} {a b c : Option α} (h1 : a = c) (h2 : b = c) : mergeOpt a b = c := by
  rw [h1, h2, mergeOpt_self]

theorem mergeOpt_same {α} {a b : Option α} (h : a = b) : mergeOpt a b = a := mergeOpt_of_eq rfl h.symm

theorem mergeOpt_either {α} (a b : Option α) : mergeOpt a b = a ∨ mergeOpt a b = b := by
  cases a with
  | some v => exact .inl rfl
  | none => exact .inr rfl

theorem apply_mergeOpt {α β} (g : Option α → β) {a b : Option α} (h : g a = g b) : g (mergeOpt a b) = g a := by
  rcases mergeOpt_either a b with e | e <;> rw [e]
  exact h.symm

/-- a reading `g` of a pair of options that a present second component decides: merging two pairs with the
    same reading does not change it -/
theorem mergeOpt_pair {α β γ} (g : Option α → Option β → γ) (hg : ∀ a a' c, g a (some c) = g a' (some c))
    {xa ya : Option α} {xc yc : Option β} (h : g xa xc = g ya yc) :
    g (mergeOpt xa ya) (mergeOpt xc yc) = g xa xc := by
  cases xc with
  | some c => exact hg _ _ c
  | none =>
    cases yc with
    | none => exact apply_mergeOpt (g · none) h
    | some c => exact (hg _ _ c).trans h.symm

theorem mergeOpt_assoc {α} (a b c : Option α) : mergeOpt (mergeOpt a b) c = mergeOpt a (mergeOpt b c) := by
  cases a <;> rfl

theorem optAgree_refl {α} (a : Option α) : OptAgree a a := by
  intro u v h1 h2
  rw [h1] at h2
  exact Option.some.inj h2

theorem optAgree_of_eq {α} {a b : Option α} (h : a = b) : OptAgree a b := h ▸ optAgree_refl a

theorem optAgree_symm {α} {a b : Option α} (h : OptAgree a b) : OptAgree b a :=
  fun u v h1 h2 => (h v u h2 h1).symm

theorem mergeOpt_comm {α} {a b : Option α} (h : OptAgree a b) : mergeOpt a b = mergeOpt b a := by
  cases a with
  | none => cases b <;> rfl
  | some x =>
    cases b with
    | none => rfl
    | some y => rw [h x y rfl rfl]

theorem optAgree_mergeOpt {α} {x y z : Option α} (h1 : OptAgree x z) (h2 : OptAgree y z) : OptAgree (mergeOpt x y) z := by
  cases x with
  | some a => exact h1
  | none => exact h2

theorem maxOpt_some (x y : Nat) : maxOpt (some x) (some y) = some (max x y) := by
  simp only [maxOpt, Nat.max_def]

theorem maxOpt_either (a b : Option Nat) : maxOpt a b = a ∨ maxOpt a b = b := by
  cases a with
  | none => exact .inr rfl
  | some x =>
    cases b with
    | none => exact .inl rfl
    | some y =>
      simp only [maxOpt]
      split
      · exact .inr rfl
      · exact .inl rfl

theorem maxOpt_isSome_of_or (a b : Option Nat) (h : a.isSome ∨ b.isSome) : (maxOpt a b).isSome := by
  cases a with
  | some x => cases b <;> rfl
  | none => exact h.resolve_left Bool.false_ne_true

theorem maxOpt_self (a : Option Nat) : maxOpt a a = a := by
  cases a with
  | none => rfl
  | some x => rw [maxOpt_some, Nat.max_self]

theorem maxOpt_of_eq {a b c : Option Nat} (h1 : a = c) (h2 : b = c) : maxOpt a b = c := by
  rw [h1, h2, maxOpt_self]

theorem maxOpt_same {a b : Option Nat} (h : a = b) : maxOpt a b = a := maxOpt_of_eq rfl h.symm

theorem maxOpt_comm (a b : Option Nat) : maxOpt a b = maxOpt b a := by
  cases a <;> cases b <;> try rfl
  rw [maxOpt_some, maxOpt_some, Nat.max_comm]

theorem maxOpt_assoc (a b c : Option Nat) : maxOpt (maxOpt a b) c = maxOpt a (maxOpt b c) := by
  cases a <;> cases b <;> cases c <;> try rfl
  simp only [maxOpt_some, Nat.max_assoc]

namespace KV
variable {V : Type}

/-! The containers are the sorted association lists of `EV.Proofs.OrdMap` at the order `bytesLt`. -/

theorem sorted_iff {m : List (Bytes × V)} : Sorted m ↔ OrdMap.Sorted bytesLt m := Iff.rfl

theorem lookup_eq (k : Bytes) : ∀ m : List (Bytes × V), lookup k m = m.lookup k
  | [] => rfl
  | p :: r => by rw [lookup, OrdMap.lookup_cons_ite, lookup_eq k r]

theorem insert_eq : @insert V = OrdMap.ins bytesLt := by
  funext k v m
  induction m with
  | nil => rfl
  | cons p r ih => rw [insert, OrdMap.ins, ih]

theorem extend_eq (a b : List (Bytes × V)) :
    extend a b = b.foldl (fun m kv => OrdMap.ins bytesLt kv.1 kv.2 m) a := by
  rw [extend, insert_eq]

theorem lookup_cons_self (k : Bytes) (v : V) (r : List (Bytes × V)) : lookup k ((k, v) :: r) = some v :=
  if_pos rfl

theorem lookup_cons_ne {k k' : Bytes} (h : k' ≠ k) (v : V) (r : List (Bytes × V)) :
    lookup k' ((k, v) :: r) = lookup k' r :=
  if_neg h

theorem lookup_insert (k : Bytes) (v : V) (m : List (Bytes × V)) (k' : Bytes) :
    lookup k' (insert k v m) = if k' = k then some v else lookup k' m := by
  rw [lookup_eq, lookup_eq, insert_eq, OrdMap.lookup_ins]

theorem sorted_nil : Sorted ([] : List (Bytes × V)) := List.Pairwise.nil

theorem keys_cons (k : Bytes) (v : V) (r : List (Bytes × V)) : keys ((k, v) :: r) = k :: keys r := rfl

theorem sorted_cons (k : Bytes) (v : V) (r : List (Bytes × V)) :
    Sorted ((k, v) :: r) ↔ ((∀ k' ∈ keys r, bytesLt k k' = true) ∧ Sorted r) := by
  simp only [Sorted, keys_cons, List.pairwise_cons]

theorem mem_keys_iff_lookup (m : List (Bytes × V)) (k : Bytes) : k ∈ keys m ↔ (lookup k m).isSome = true := by
  rw [lookup_eq]
  exact OrdMap.mem_keys_iff_lookup m k

theorem lookup_eq_none_iff (m : List (Bytes × V)) (k : Bytes) : lookup k m = none ↔ ¬ k ∈ keys m := by
  rw [mem_keys_iff_lookup, Bool.not_eq_true, Option.isSome_eq_false_iff, Option.isNone_iff_eq_none]

theorem mem_keys_insert (k : Bytes) (v : V) (m : List (Bytes × V)) (k' : Bytes) :
    k' ∈ keys (insert k v m) ↔ (k' = k ∨ k' ∈ keys m) := by
  rw [insert_eq]
  exact OrdMap.mem_keys_ins k v m k'

theorem sorted_insert (k : Bytes) (v : V) (m : List (Bytes × V)) (h : Sorted m) : Sorted (insert k v m) := by
  rw [insert_eq]
  exact sorted_iff.2 (OrdMap.sorted_ins bytesLt_strict k v m (sorted_iff.1 h))

theorem extend_nil (a : List (Bytes × V)) : extend a [] = a := rfl

theorem extend_cons (a : List (Bytes × V)) (p : Bytes × V) (r : List (Bytes × V)) :
    extend a (p :: r) = extend (insert p.1 p.2 a) r := rfl

theorem Sorted.nodup {m : List (Bytes × V)} (h : Sorted m) : (keys m).Nodup :=
  OrdMap.Sorted.nodup_keys bytesLt_strict (sorted_iff.1 h)

theorem lookup_tail_none {k : Bytes} {v : V} {r : List (Bytes × V)} (h : Sorted ((k, v) :: r)) :
    lookup k r = none :=
  (lookup_eq_none_iff r k).2 (List.nodup_cons.1 h.nodup).1

theorem lookup_perm {l l' : List (Bytes × V)} (h : l.Perm l') (hn : (keys l).Nodup) (k : Bytes) :
    lookup k l = lookup k l' := by
  rw [lookup_eq, lookup_eq, OrdMap.lookup_perm h hn]

theorem lookup_append (k : Bytes) (s t : List (Bytes × V)) :
    lookup k (s ++ t) = mergeOpt (lookup k s) (lookup k t) := by
  rw [lookup_eq, lookup_eq, lookup_eq, List.lookup_append]
  cases s.lookup k <;> rfl

theorem mem_of_lookup {k : Bytes} {v : V} {m : List (Bytes × V)} (h : lookup k m = some v) : (k, v) ∈ m :=
  OrdMap.mem_of_lookup ((lookup_eq k m).symm.trans h)

theorem mem_insert (k : Bytes) (v : V) (m : List (Bytes × V)) (x : Bytes × V) (h : x ∈ insert k v m) :
    x = (k, v) ∨ x ∈ m :=
  OrdMap.mem_ins (insert_eq ▸ h)

theorem mem_extend (a b : List (Bytes × V)) (x : Bytes × V) (h : x ∈ extend a b) : x ∈ a ∨ x ∈ b :=
  OrdMap.mem_foldl_ins b (extend_eq a b ▸ h)

/-- `BTreeMap::extend`: the other map's value wins. Duplicate-free and not sorted, as the wire codec extends with a
    rearranged list. -/
theorem lookup_extend_nodup (a b : List (Bytes × V)) (hb : (keys b).Nodup) (k : Bytes) :
    lookup k (extend a b) = mergeOpt (lookup k b) (lookup k a) := by
  rw [lookup_eq, lookup_eq, lookup_eq, extend_eq, OrdMap.lookup_foldl_ins,
    ← OrdMap.lookup_perm (List.reverse_perm b).symm hb]
  cases b.lookup k <;> rfl

theorem sorted_extend (a b : List (Bytes × V)) (ha : Sorted a) : Sorted (extend a b) := by
  rw [extend_eq]
  exact sorted_iff.2 (OrdMap.sorted_foldl_ins bytesLt_strict b a (sorted_iff.1 ha))

theorem mem_keys_extend (a b : List (Bytes × V)) (k : Bytes) :
    k ∈ keys (extend a b) ↔ (k ∈ keys a ∨ k ∈ keys b) := by
  induction b generalizing a with
  | nil => simp only [extend_nil, keys, List.map_nil, List.not_mem_nil, or_false]
  | cons p r ih => rw [extend_cons, ih, mem_keys_insert, keys_cons, List.mem_cons, or_assoc, or_left_comm]

theorem ext_of_sorted {a b : List (Bytes × V)} (ha : Sorted a) (hb : Sorted b)
    (h : ∀ k, lookup k a = lookup k b) : a = b :=
  OrdMap.ext_of_sorted bytesLt_strict (sorted_iff.1 ha) (sorted_iff.1 hb) fun k => by rw [← lookup_eq, ← lookup_eq, h]

theorem agree_iff {a b : List (Bytes × V)} : Agree a b ↔ ∀ k, OptAgree (lookup k a) (lookup k b) := Iff.rfl

theorem agree_symm {a b : List (Bytes × V)} (h : Agree a b) : Agree b a :=
  agree_iff.2 fun k => optAgree_symm (agree_iff.1 h k)

theorem extend_comm {a b : List (Bytes × V)} (ha : Sorted a) (hb : Sorted b) (h : Agree a b) :
    extend a b = extend b a := by
  apply ext_of_sorted (sorted_extend a b ha) (sorted_extend b a hb)
  intro k
  rw [lookup_extend_nodup a b hb.nodup, lookup_extend_nodup b a ha.nodup]
  exact mergeOpt_comm (optAgree_symm (agree_iff.1 h k))

theorem extend_assoc {a b c : List (Bytes × V)} (ha : Sorted a) (hb : Sorted b) (hc : Sorted c) :
    extend (extend a b) c = extend a (extend b c) := by
  apply ext_of_sorted (sorted_extend _ c (sorted_extend a b ha)) (sorted_extend a _ ha)
  intro k
  rw [lookup_extend_nodup _ c hc.nodup, lookup_extend_nodup a b hb.nodup, lookup_extend_nodup a _ (sorted_extend b c hb).nodup,
    lookup_extend_nodup b c hc.nodup, mergeOpt_assoc]

theorem agree_extend {a b c : List (Bytes × V)} (hb : Sorted b) (h1 : Agree a c) (h2 : Agree b c) :
    Agree (extend a b) c := by
  refine agree_iff.2 fun k => ?_
  rw [lookup_extend_nodup a b hb.nodup]
  exact optAgree_mergeOpt (agree_iff.1 h2 k) (agree_iff.1 h1 k)

theorem extend_self {a : List (Bytes × V)} (ha : Sorted a) : extend a a = a := by
  apply ext_of_sorted (sorted_extend a a ha) ha
  intro k
  rw [lookup_extend_nodup a a ha.nodup, mergeOpt_self]

end KV

/-! Scalars, `extend; sort; dedup`: a sorted set of byte strings is the key list of a map to `Unit`, `insertSet` is
`KV.insert` on it. -/

def unitMap (l : List Bytes) : List (Bytes × Unit) := l.map (·, ())

theorem keys_unitMap (l : List Bytes) : KV.keys (unitMap l) = l := by
  simp only [KV.keys, unitMap, List.map_map, Function.comp_def, List.map_id']

theorem insertSet_keys (x : Bytes) (m : List (Bytes × Unit)) : insertSet x (KV.keys m) = KV.keys (KV.insert x () m) := by
  fun_induction KV.insert x () m with
  | case1 => rfl
  | case2 y u r hlt => exact if_pos hlt
  | case3 u r hlt => exact (if_neg hlt).trans (if_pos rfl)
  | case4 y u r hlt ne ih => exact (if_neg hlt).trans ((if_neg ne).trans (congrArg (y :: ·) ih))

theorem mem_insertSet (x y : Bytes) (l : List Bytes) : y ∈ insertSet x l ↔ (y = x ∨ y ∈ l) := by
  rw [← keys_unitMap l, insertSet_keys, KV.mem_keys_insert]

theorem sortedSet_insertSet (x : Bytes) (l : List Bytes) (h : SortedSet l) : SortedSet (insertSet x l) := by
  rw [← keys_unitMap l] at h ⊢
  rw [insertSet_keys]
  exact KV.sorted_insert x () _ h

theorem sortDedup_eq (l : List Bytes) : sortDedup l = KV.keys (KV.ofList (unitMap l)) := by
  rw [sortDedup, KV.ofList, KV.extend, unitMap, List.foldl_map]
  exact List.foldl_hom (init := []) KV.keys fun m x => insertSet_keys x m

theorem sortedSet_sortDedup (l : List Bytes) : SortedSet (sortDedup l) := by
  rw [sortDedup_eq]
  exact KV.sorted_extend _ _ KV.sorted_nil

theorem mem_sortDedup (l : List Bytes) (x : Bytes) : x ∈ sortDedup l ↔ x ∈ l := by
  rw [sortDedup_eq, KV.ofList, KV.mem_keys_extend, keys_unitMap]
  exact or_iff_right List.not_mem_nil

theorem SortedSet.nodup {l : List Bytes} (h : SortedSet l) : l.Nodup := by
  rw [← keys_unitMap l] at h ⊢
  exact KV.Sorted.nodup h

theorem sortedSet_ext {a b : List Bytes} (ha : SortedSet a) (hb : SortedSet b) (h : ∀ x, x ∈ a ↔ x ∈ b) : a = b :=
  List.Perm.eq_of_pairwise (fun _ _ _ _ h1 h2 => absurd ((bytesLt_strict.asymm h1).symm.trans h2) Bool.false_ne_true) ha hb
    ((List.perm_ext_iff_of_nodup ha.nodup hb.nodup).mpr h)

theorem sortDedup_comm (a b : List Bytes) : sortDedup (a ++ b) = sortDedup (b ++ a) := by
  apply sortedSet_ext (sortedSet_sortDedup _) (sortedSet_sortDedup _)
  intro x
  simp only [mem_sortDedup, List.mem_append]
  exact Or.comm

theorem sortDedup_assoc (a b c : List Bytes) :
    sortDedup (sortDedup (a ++ b) ++ c) = sortDedup (a ++ sortDedup (b ++ c)) := by
  apply sortedSet_ext (sortedSet_sortDedup _) (sortedSet_sortDedup _)
  intro x
  simp only [mem_sortDedup, List.mem_append]
  exact or_assoc

end EV
