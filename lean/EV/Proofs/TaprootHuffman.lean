/-
  The Huffman construction of `TaprootSpendInfo::with_huffman_tree` (model: `huffmanLoop`, `heapPush` in
  EV.Model.Taproot) never places a heavier leaf deeper than a lighter one.  No optimality argument is needed, and ties
  may be broken arbitrarily: the heap is a weight-sorted forest of ghost trees `WT`, and the merge loop keeps (`Inv`)
  that no child of an internal node outweighs a root and that any two distinct internal nodes p, q are related by `R`:
  for children x of p, y of q, W x < W y → W p < W q, and likewise with p and q exchanged.  Merging the two lightest
  roots keeps it (`inv_merge`); on the final single tree it gives, by induction on depth,
  W x < W y → depth y ≤ depth x (`lighter_not_higher`).
-/
import EV.Proofs.TaprootBuilder
namespace EV.Proofs.TaprootHuffman
open EV EV.Taproot EV.Proofs.TaprootBuilder

/-- weighted script tree (ghost structure of the proof) -/
inductive WT where
  | leaf (w : Nat) (script : Bytes)
  | node (l r : WT)

namespace WT
def weight : WT → Nat
  | leaf w _ => w
  | node l r => l.weight + r.weight
def toTree : WT → Tree
  | leaf _ s => .leaf s tapscriptVer
  | node l r => .node l.toTree r.toTree
def leaves : WT → List (Nat × Bytes)
  | leaf w s => [(w, s)]
  | node l r => l.leaves ++ r.leaves
/-- the leaves as (weight, script, depth), the root sitting at the depth given -/
def leafDepths : WT → Nat → List (Nat × Bytes × Nat)
  | leaf w s, d => [(w, s, d)]
  | node l r, d => l.leafDepths (d + 1) ++ r.leafDepths (d + 1)
/-- the internal nodes, each as the pair of its children's weights (all the invariant needs of a node) -/
def internals : WT → List (Nat × Nat)
  | leaf _ _ => []
  | node l r => (l.weight, r.weight) :: (l.internals ++ r.internals)
end WT

/-- children (a, b) of p and (c, d) of q: a lighter child of p under a heavier child of q forces
    W p < W q -/
def Compat (p q : Nat × Nat) : Prop :=
  (p.1 < q.1 → p.1 + p.2 < q.1 + q.2) ∧ (p.1 < q.2 → p.1 + p.2 < q.1 + q.2) ∧
  (p.2 < q.1 → p.1 + p.2 < q.1 + q.2) ∧ (p.2 < q.2 → p.1 + p.2 < q.1 + q.2)
def R (p q : Nat × Nat) : Prop := Compat p q ∧ Compat q p

theorem Compat.lt {p q : Nat × Nat} (h : Compat p q) {x y : Nat} (hx : x = p.1 ∨ x = p.2) (hy : y = q.1 ∨ y = q.2)
    (hlt : x < y) : p.1 + p.2 < q.1 + q.2 := by
  rcases hx with rfl | rfl
  · rcases hy with rfl | rfl
    · exact h.1 hlt
    · exact h.2.1 hlt
  · rcases hy with rfl | rfl
    · exact h.2.2.1 hlt
    · exact h.2.2.2 hlt

theorem R_symm {p q : Nat × Nat} (h : R p q) : R q p := ⟨h.2, h.1⟩

/-- the invariant of the merge loop on a heap `F` of ghost trees, lightest root first -/
structure Inv (F : List WT) : Prop where
  sorted : F.Pairwise (fun a b => a.weight ≤ b.weight)
  childLe : ∀ p ∈ F.flatMap WT.internals, ∀ T ∈ F, p.1 ≤ T.weight ∧ p.2 ≤ T.weight
  compat : (F.flatMap WT.internals).Pairwise R

variable (H : TapHashes)

/-- the heap entry a ghost tree stands for: its weight and the node it denotes -/
def enc (T : WT) : Nat × NodeInfo := (T.weight, info H T.toTree)

theorem popsBefore_le {x y : Nat × NodeInfo} (h : popsBefore x y = true) : x.1 ≤ y.1 := le_of_lex h

theorem le_of_not_popsBefore {x y : Nat × NodeInfo} (h : ¬popsBefore x y = true) : y.1 ≤ x.1 := le_of_not_lex h

/-- `BinaryHeap::push` on a heap of ghost trees; where the new tree lands among equal weights is decided by the
    order on nodes, and nothing below depends on it -/
theorem heapPush_enc (x : WT) (F : List WT) (hs : F.Pairwise (fun a b => a.weight ≤ b.weight)) :
    ∃ F' : List WT, heapPush (enc H x) (F.map (enc H)) = F'.map (enc H) ∧ F'.Perm (x :: F) ∧
      F'.Pairwise (fun a b => a.weight ≤ b.weight) := by
  induction F with
  | nil => exact ⟨[x], rfl, .refl _, List.pairwise_singleton _ _⟩
  | cons y ys ih =>
    have ⟨hy, hys⟩ := List.pairwise_cons.1 hs
    rw [List.map_cons, heapPush]
    split
    next hp =>
      obtain ⟨F', h1, h2, h3⟩ := ih hys
      refine ⟨y :: F', congrArg _ h1, (h2.cons y).trans (.swap x y ys), List.pairwise_cons.2 ⟨fun a ha => ?_, h3⟩⟩
      rcases List.mem_cons.1 (h2.mem_iff.1 ha) with rfl | ha
      · exact popsBefore_le hp
      · exact hy a ha
    next hp =>
      have hxy : x.weight ≤ y.weight := le_of_not_popsBefore hp
      refine ⟨x :: y :: ys, rfl, .refl _, List.pairwise_cons.2 ⟨fun a ha => ?_, hs⟩⟩
      rcases List.mem_cons.1 ha with rfl | ha
      · exact hxy
      · exact Nat.le_trans hxy (hy a ha)

theorem inv_of_leaves {F : List WT} (hs : F.Pairwise (fun a b => a.weight ≤ b.weight))
    (hl : ∀ T ∈ F, T.internals = []) : Inv F := by
  have hno : F.flatMap WT.internals = [] := List.flatMap_eq_nil_iff.2 hl
  exact ⟨hs, hno ▸ nofun, hno ▸ List.Pairwise.nil⟩

/-- a node over the two lightest roots is compatible with every node whose children are no heavier
    than the lighter of them -/
private theorem R_merge {a b c d : Nat} (hab : a ≤ b) (hc : c ≤ a) (hd : d ≤ a) : R (a, b) (c, d) := by
  have hcb : c ≤ b := Nat.le_trans hc hab
  have hdb : d ≤ b := Nat.le_trans hd hab
  constructor
  · -- no child of the new node is lighter than a child of the old one
    exact ⟨fun h => absurd h (Nat.not_lt.2 hc), fun h => absurd h (Nat.not_lt.2 hd),
      fun h => absurd h (Nat.not_lt.2 hcb), fun h => absurd h (Nat.not_lt.2 hdb)⟩
  · -- and `c + d < a + b` as soon as one of `c`, `d` is strictly below one of `a`, `b`
    exact ⟨fun h => Nat.add_lt_add_of_lt_of_le h hdb,
      fun h => Nat.add_comm a b ▸ Nat.add_lt_add_of_lt_of_le h hd,
      fun h => Nat.add_lt_add_of_le_of_lt hc (Nat.lt_of_lt_of_le h hab),
      fun h => Nat.add_lt_add_of_le_of_lt hc h⟩

theorem inv_merge (A B : WT) (rest F' : List WT) (h : Inv (A :: B :: rest)) (hF : F'.Perm (.node A B :: rest))
    (hs' : F'.Pairwise (fun a b => a.weight ≤ b.weight)) : Inv F' := by
  have hperm : (F'.flatMap WT.internals).Perm ((A.weight, B.weight) :: (A :: B :: rest).flatMap WT.internals) := by
    simpa only [List.flatMap_cons, WT.internals, List.cons_append, List.append_assoc]
      using hF.flatMap_right WT.internals
  have ⟨hA, hs⟩ := List.pairwise_cons.1 h.sorted
  have hB := (List.pairwise_cons.1 hs).1
  have hold : ∀ q ∈ (A :: B :: rest).flatMap WT.internals, q.1 ≤ A.weight ∧ q.2 ≤ A.weight :=
    fun q hq => h.childLe q hq A List.mem_cons_self
  refine ⟨hs', fun p hp T hT => ?_, ?_⟩
  · have hT : T = .node A B ∨ T ∈ rest := List.mem_cons.1 (hF.mem_iff.1 hT)
    rcases List.mem_cons.1 (hperm.mem_iff.1 hp) with rfl | hp
    · rcases hT with rfl | hT
      · exact ⟨Nat.le_add_right _ _, Nat.le_add_left _ _⟩
      · exact ⟨hA T (List.mem_cons_of_mem _ hT), hB T hT⟩
    · rcases hT with rfl | hT
      · exact ⟨Nat.le_trans (hold p hp).1 (Nat.le_add_right _ _), Nat.le_trans (hold p hp).2 (Nat.le_add_right _ _)⟩
      · exact h.childLe p hp T (List.mem_cons_of_mem _ (List.mem_cons_of_mem _ hT))
  · refine (hperm.pairwise_iff (fun h => R_symm h)).2 (List.pairwise_cons.2 ⟨fun q hq => ?_, h.compat⟩)
    exact R_merge (hA B List.mem_cons_self) (hold q hq).1 (hold q hq).2

/-- `At T k x`: `x` is a subtree of `T`, rooted at depth `k` -/
inductive At : WT → Nat → WT → Prop
  | root (T : WT) : At T 0 T
  | left {l r : WT} {k : Nat} {x : WT} : At l k x → At (.node l r) (k + 1) x
  | right {l r : WT} {k : Nat} {x : WT} : At r k x → At (.node l r) (k + 1) x

theorem At.weight_le {T x : WT} {k : Nat} (h : At T k x) : x.weight ≤ T.weight := by
  induction h with
  | root => exact Nat.le_refl _
  | left _ ih => exact Nat.le_trans ih (Nat.le_add_right _ _)
  | right _ ih => exact Nat.le_trans ih (Nat.le_add_left _ _)

theorem At.internals_subset {T x : WT} {k : Nat} (h : At T k x) : ∀ p ∈ x.internals, p ∈ T.internals := by
  induction h with
  | root => exact fun _ hp => hp
  | left _ ih => exact fun p hp => List.mem_cons_of_mem _ (List.mem_append_left _ (ih p hp))
  | right _ ih => exact fun p hp => List.mem_cons_of_mem _ (List.mem_append_right _ (ih p hp))

theorem At.internal {T c d : WT} {k : Nat} (h : At T k (.node c d)) : (c.weight, d.weight) ∈ T.internals :=
  h.internals_subset _ List.mem_cons_self

theorem At.parent {T x : WT} {j : Nat} (h : At T (j + 1) x) : ∃ l r, At T j (.node l r) ∧ (x = l ∨ x = r) := by
  induction T generalizing j with
  | leaf w s => cases h
  | node l r ihl ihr =>
    cases h with
    | left h =>
      cases j with
      | zero =>
        cases h
        exact ⟨_, _, .root _, .inl rfl⟩
      | succ j =>
        obtain ⟨a, b, hab, hx⟩ := ihl h
        exact ⟨a, b, .left hab, hx⟩
    | right h =>
      cases j with
      | zero =>
        cases h
        exact ⟨_, _, .root _, .inr rfl⟩
      | succ j =>
        obtain ⟨a, b, hab, hx⟩ := ihr h
        exact ⟨a, b, .right hab, hx⟩

/-- internal nodes on different levels are distinct, hence compatible -/
theorem At.compat {T a b c d : WT} {j k : Nat} (hP : T.internals.Pairwise R) (ha : At T j (.node a b))
    (hc : At T k (.node c d)) (hjk : j ≠ k) : R (a.weight, b.weight) (c.weight, d.weight) := by
  induction T generalizing j k with
  | leaf w s => cases ha
  | node l r ihl ihr =>
    obtain ⟨hroot, hP⟩ := List.pairwise_cons.1 hP
    obtain ⟨hl, hr, hlr⟩ := List.pairwise_append.1 hP
    cases ha with
    | root =>
      cases hc with
      | root => exact absurd rfl hjk
      | left hc => exact hroot _ (List.mem_append_left _ hc.internal)
      | right hc => exact hroot _ (List.mem_append_right _ hc.internal)
    | left ha =>
      cases hc with
      | root => exact R_symm (hroot _ (List.mem_append_left _ ha.internal))
      | left hc => exact ihl hl ha hc fun e => hjk (congrArg (· + 1) e)
      | right hc => exact hlr _ ha.internal _ hc.internal
    | right ha =>
      cases hc with
      | root => exact R_symm (hroot _ (List.mem_append_right _ ha.internal))
      | left hc => exact R_symm (hlr _ hc.internal _ ha.internal)
      | right hc => exact ihr hr ha hc fun e => hjk (congrArg (· + 1) e)

theorem lighter_not_higher {T : WT} (hP : T.internals.Pairwise R) : ∀ {dy dx : Nat} {x y : WT},
    At T dx x → At T dy y → x.weight < y.weight → dy ≤ dx := by
  intro dy
  induction dy with
  | zero => exact fun _ _ _ => Nat.zero_le _
  | succ k ih =>
    intro dx x y hx hy hlt
    obtain ⟨c, d, hq, hyq⟩ := hy.parent
    cases dx with
    | zero =>
      cases hx
      exact absurd hlt (Nat.not_lt.2 hy.weight_le)
    | succ j =>
      obtain ⟨a, b, hp, hxp⟩ := hx.parent
      by_cases hjk : j = k
      · exact Nat.le_of_eq (congrArg (· + 1) hjk.symm)
      · have hR : Compat (a.weight, b.weight) (c.weight, d.weight) := (At.compat hP hp hq hjk).1
        have hlt' : (WT.node a b).weight < (WT.node c d).weight :=
          hR.lt (hxp.imp (congrArg WT.weight) (congrArg WT.weight)) (hyq.imp (congrArg WT.weight) (congrArg WT.weight))
            hlt
        exact Nat.succ_le_succ (ih hp hq hlt')

theorem leafDepths_at (T : WT) : ∀ (d0 : Nat) (e : Nat × Bytes × Nat), e ∈ T.leafDepths d0 →
    ∃ k, e.2.2 = d0 + k ∧ At T k (.leaf e.1 e.2.1) := by
  induction T with
  | leaf w s =>
    intro d0 e he
    cases List.mem_singleton.1 he
    exact ⟨0, rfl, .root _⟩
  | node l r ihl ihr =>
    intro d0 e he
    rcases List.mem_append.1 he with he | he
    · obtain ⟨k, hk, hm⟩ := ihl (d0 + 1) e he
      exact ⟨k + 1, hk.trans (Nat.add_right_comm d0 1 k), .left hm⟩
    · obtain ⟨k, hk, hm⟩ := ihr (d0 + 1) e he
      exact ⟨k + 1, hk.trans (Nat.add_right_comm d0 1 k), .right hm⟩

theorem leafDepths_leaves (T : WT) (d : Nat) : (T.leafDepths d).map (fun x => (x.1, x.2.1)) = T.leaves := by
  induction T generalizing d with
  | leaf w s => rfl
  | node l r ihl ihr => rw [WT.leafDepths, List.map_append, ihl, ihr, WT.leaves]

theorem heavier_not_deeper_of_inv (T : WT) (h : Inv [T]) :
    ∀ a ∈ T.leafDepths 0, ∀ b ∈ T.leafDepths 0, a.1 < b.1 → b.2.2 ≤ a.2.2 := by
  have hP : T.internals.Pairwise R := by
    simpa only [List.flatMap_cons, List.flatMap_nil, List.append_nil] using h.compat
  intro a ha b hb hlt
  obtain ⟨ka, hka, h1⟩ := leafDepths_at T 0 a ha
  obtain ⟨kb, hkb, h2⟩ := leafDepths_at T 0 b hb
  rw [hka, hkb, Nat.zero_add, Nat.zero_add]
  exact lighter_not_higher hP h1 h2 hlt

/-- the weight of the whole heap; no `u64` sum in the loop exceeds it -/
def total (F : List WT) : Nat := (F.map WT.weight).sum

private theorem loop_cons (fuel : Nat) (x y : Nat × NodeInfo) (rest : List (Nat × NodeInfo)) :
    huffmanLoop H (fuel + 1) (x :: y :: rest) =
      (combine H x.2 y.2).bind fun n => huffmanLoop H fuel (heapPush (satAdd x.1 y.1, n) rest) := by
  rw [huffmanLoop]
  cases combine H x.2 y.2 <;> rfl

/-- what the construction may return for the leaves `ls`: the node of a ghost tree over `ls` that
    satisfies the invariant, or the depth error of `combine` -/
abbrev Built (r : Res NodeInfo) (ls : List (Nat × Bytes)) : Prop :=
  r.Post (fun n => ∃ T : WT, n = info H T.toTree ∧ T.leaves.Perm ls ∧ Inv [T]) (· = "InvalidMerkleTreeDepth")

theorem loop_post (ls : List (Nat × Bytes)) (n : Nat) : ∀ (F : List WT), F.length = n + 1 → Inv F → total F < 2 ^ 64 →
    (F.flatMap WT.leaves).Perm ls → Built H (huffmanLoop H (n + 1) (F.map (enc H))) ls := by
  induction n with
  | zero =>
    intro F hlen hI _ hl
    obtain ⟨T, rfl⟩ := List.length_eq_one_iff.1 hlen
    rw [List.flatMap_cons, List.flatMap_nil, List.append_nil] at hl
    -- a heap of one tree is returned as it is (by evaluation)
    exact .ok ⟨T, rfl, hl, hI⟩
  | succ n ih =>
    intro F hlen hI ht hl
    match F, hlen with
    | A :: B :: rest, hlen =>
      -- `ht` bounds `A.weight + (B.weight + total rest)`: that is what `total` of the heap unfolds to
      have hAB : A.weight + B.weight < 2 ^ 64 :=
        Nat.lt_of_le_of_lt (Nat.add_le_add_left (Nat.le_add_right _ (total rest)) _) ht
      have hsat : satAdd (enc H A).1 (enc H B).1 = (WT.node A B).weight := if_neg (Nat.not_le.2 hAB)
      rw [List.map_cons, List.map_cons, loop_cons, hsat]
      refine .bind ((combine_info_post H A.toTree B.toTree).imp fun x _ hx => ?_)
      obtain ⟨F', h1, hperm, hs'⟩ :=
        heapPush_enc H (.node A B) rest (List.pairwise_cons.1 (List.pairwise_cons.1 hI.sorted).2).2
      have ht' : total F' < 2 ^ 64 := by
        rw [total, (hperm.map WT.weight).sum_nat, List.map_cons, List.sum_cons, WT.weight, Nat.add_assoc]
        exact ht
      rw [hx]
      show Built H (huffmanLoop H (n + 1) (heapPush (enc H (.node A B)) (rest.map (enc H)))) _
      rw [h1]
      refine ih F' (hperm.length_eq.trans (Nat.succ.inj hlen)) (inv_merge A B rest F' hI hperm hs') ht'
        (.trans ?_ hl)
      simpa only [List.flatMap_cons, WT.leaves, List.append_assoc] using hperm.flatMap_right WT.leaves

theorem heap_init (ws : List (Nat × Bytes)) : ∀ (F0 : List WT), F0.Pairwise (fun a b => a.weight ≤ b.weight) →
    ∃ F : List WT,
      ws.foldl (fun h (x : Nat × Bytes) => heapPush (x.1, newLeaf H x.2 tapscriptVer) h) (F0.map (enc H)) =
        F.map (enc H) ∧
      F.Perm (F0 ++ ws.map fun x => .leaf x.1 x.2) ∧ F.Pairwise (fun a b => a.weight ≤ b.weight) := by
  induction ws with
  | nil => exact fun F0 hs => ⟨F0, rfl, by rw [List.map_nil, List.append_nil], hs⟩
  | cons x ws ih =>
    intro F0 hs
    obtain ⟨F1, e1, p1, s1⟩ := heapPush_enc H (.leaf x.1 x.2) F0 hs
    obtain ⟨F, h1, h2, h3⟩ := ih F1 s1
    refine ⟨F, ?_, h2.trans ((p1.append_right _).trans List.perm_middle.symm), h3⟩
    rw [List.foldl_cons, ← h1, ← e1]
    rfl

private theorem leaves_map_leaf (ws : List (Nat × Bytes)) :
    (ws.map fun x => WT.leaf x.1 x.2).flatMap WT.leaves = ws :=
  (List.flatMap_map _ _ ws).trans (List.flatMap_singleton' ws)

theorem huffmanNode_post (ws : List (Nat × Bytes)) (hne : ws ≠ []) (hsum : (ws.map (·.1)).sum < 2 ^ 64) :
    Built H (huffmanNode H ws) ws := by
  obtain ⟨F, h1, hperm, hs⟩ := heap_init H ws [] List.Pairwise.nil
  have hI : Inv F := inv_of_leaves hs fun T hT => by
    obtain ⟨x, _, rfl⟩ := List.mem_map.1 (hperm.mem_iff.1 hT)
    rfl
  obtain ⟨n, hn⟩ := Nat.exists_eq_add_one_of_ne_zero (mt List.length_eq_zero_iff.1 hne)
  have hlen : F.length = n + 1 := (hperm.length_eq.trans (List.length_map _)).trans hn
  have ht : total F = (ws.map (·.1)).sum := by
    rw [total, (hperm.map WT.weight).sum_nat, List.nil_append, List.map_map]
    rfl
  have hheap : huffmanHeap H ws = F.map (enc H) := h1
  have hemp : ¬ws.isEmpty = true := fun h => hne (List.isEmpty_iff.1 h)
  rw [huffmanNode, if_neg hemp, hheap, hn]
  exact loop_post H ws n F hlen hI (ht ▸ hsum) (leaves_map_leaf ws ▸ hperm.flatMap_right WT.leaves)

private theorem leafItems_toTree (T : WT) (d : Nat) :
    leafItems (T.toTree.dfs d) = (T.leafDepths d).map fun x => (x.2.2, x.2.1, tapscriptVer) := by
  induction T generalizing d with
  | leaf w s => rfl
  | node l r ihl ihr => rw [WT.toTree, Tree.dfs, leafItems_append, ihl, ihr, WT.leafDepths, List.map_append]

/-- depth of a leaf in the ghost tree = length of its merkle branch in the node -/
theorem info_leaf_depths (T : WT) :
    (info H T.toTree).leaves.map (fun l => (l.script, l.branch.length)) =
      (T.leafDepths 0).map (fun x => (x.2.1, x.2.2)) := by
  have := congrArg (List.map fun p : Nat × Bytes × UInt8 => (p.2.1, p.1)) (info_leaves_dfs H T.toTree 0)
  rw [leafItems_toTree, List.map_map, List.map_map] at this
  exact this

/-- no saturation: Σ weights < 2^64, which holds for fewer than 2^32 `u32` weights -/
theorem huffman_heavier_not_deeper (ws : List (Nat × Bytes)) (n : NodeInfo)
    (hsum : (ws.map (·.1)).sum < 2 ^ 64) (h : huffmanNode H ws = .ok n) :
    ∃ T : WT, n = info H T.toTree ∧ T.leaves.Perm ws ∧
      ∀ a ∈ T.leafDepths 0, ∀ b ∈ T.leafDepths 0, a.1 < b.1 → b.2.2 ≤ a.2.2 := by
  have hne : ws ≠ [] := by
    rintro rfl
    cases h
  obtain ⟨T, hT, hl, hIT⟩ := (huffmanNode_post H ws hne hsum).of_ok h
  exact ⟨T, hT, hl, heavier_not_deeper_of_inv T hIT⟩

/-- the empty input is refused with another error, `IncompleteTree`, which is why `hne` is asked -/
theorem huffman_total (ws : List (Nat × Bytes)) (hne : ws ≠ []) (hsum : (ws.map (·.1)).sum < 2 ^ 64) :
    (∃ n, huffmanNode H ws = .ok n) ∨ huffmanNode H ws = .err "InvalidMerkleTreeDepth" :=
  (huffmanNode_post H ws hne hsum).outcome.imp (fun ⟨n, hn, _⟩ => ⟨n, hn⟩) fun ⟨_, he, h⟩ => he ▸ h

end EV.Proofs.TaprootHuffman
