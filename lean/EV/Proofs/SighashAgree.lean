/-
  The predicates `legacyAgree` / `segwitAgree` / `taprootAgree` (EV/Proofs/SighashDefs.lean) say exactly what each
  algorithm commits to.  `msg*_ignores`, `*Sighash_ignores`: two transactions that agree have the same signing message
  and digest.  Conversely equal committed-field records (what `*_commits` delivers) imply agreement
  (`legacyView_eq_iff`, `segwitAgreeC_of_view`, `taprootAgree_of_view`).
  SEGWIT v0: the record determines the per-input issuances only as their concatenation (`segwitAgreeC`, see
  `serSegwit_injective`), and the message reads no more of them.
-/
import EV.Proofs.SighashRefine
import EV.Proofs.SighashCommitsLS
namespace EV.Sighash
open EV EV.Codec VA

/-- `null` stands for "no issuance" only, so the issuance is read back from its normalised form -/
theorem inCore_normIn (i : TxIn) (s : Bytes) (q : Nat) : inCore (normIn i s q) = inCore i := by
  unfold inCore normIn issuanceOf
  cases h : i.assetIssuance.isNull with
  | true => rfl
  | false => simp only [Bool.false_eq_true, if_false, Option.getD_some, h]

theorem normIn_eq_iff {i j : TxIn} {s s' : Bytes} {q q' : Nat} :
    normIn i s q = normIn j s' q' ↔ inCore i = inCore j ∧ s = s' ∧ q = q' := by
  constructor
  · intro h
    exact ⟨by rw [← inCore_normIn i s q, h, inCore_normIn], congrArg TxIn.scriptSig h, congrArg TxIn.sequence h⟩
  · rintro ⟨h, rfl, rfl⟩
    simp only [inCore, Prod.mk.injEq] at h
    simp only [normIn, h.1, h.2.1, h.2.2]

/-- two entries of legacy records whose sequence number is kept under the condition `c` and zeroed otherwise: the script
    is compared only where there is an entry at all, the sequence numbers only under `c` -/
theorem normIn_map_eq_iff {x y : Option TxIn} {s s' : Bytes} {c : Prop} [Decidable c] :
    x.map (fun i => normIn i s (if c then i.sequence else 0)) = y.map (fun i => normIn i s' (if c then i.sequence else 0)) ↔
      x.map inCore = y.map inCore ∧ (x.isSome → s = s') ∧
        (c → x.map (fun i => i.sequence) = y.map (fun i => i.sequence)) := by
  cases x with
  | none =>
    cases y with
    | none => exact ⟨fun _ => ⟨rfl, nofun, fun _ => rfl⟩, fun _ => rfl⟩
    | some j => exact ⟨nofun, fun h => nomatch h.1⟩
  | some i =>
    cases y with
    | none => exact ⟨nofun, fun h => nomatch h.1⟩
    | some j =>
      simp only [Option.map_some, Option.some.injEq, normIn_eq_iff, Option.isSome_some, forall_const]
      by_cases hc : c
      · simp only [hc, if_true, true_imp_iff]
      · simp only [hc, if_false, false_imp_iff, and_true]

theorem legacyView_ext (v w : LegacyView) :
    v = w ↔ v.version = w.version ∧ v.lockTime = w.lockTime ∧ v.hashType = w.hashType ∧
      v.inputs = w.inputs ∧ v.outputs = w.outputs := by
  cases v
  cases w
  simp only [LegacyView.mk.injEq]
  exact ⟨fun ⟨h1, h2, h3, h4, h5⟩ => ⟨h1, h4, h5, h2, h3⟩, fun ⟨h1, h4, h5, h2, h3⟩ => ⟨h1, h2, h3, h4, h5⟩⟩

theorem legacyOutputs_eq_iff (ty : EcdsaTy) (idx : Nat) (a b : Tx) (sa sb : Bytes)
    (ra : ty.base = .single → idx < a.output.length) (rb : ty.base = .single → idx < b.output.length) :
    (specLegacyView a idx sa ty.asU32).outputs = (specLegacyView b idx sb ty.asU32).outputs ↔
      (match ty.base with
       | .all => a.output.map outBody = b.output.map outBody
       | .single => (a.output[idx]?).map outBody = (b.output[idx]?).map outBody
       | .none => True) := by
  rw [legacyView_outputs _ _ _ _ ra, legacyView_outputs _ _ _ _ rb]
  cases hb : ty.base with
  | all => exact Iff.rfl
  | none => exact iff_true_intro rfl
  | single =>
    rw [List.append_cancel_left_eq, List.getElem?_eq_getElem (ra hb), List.getElem?_eq_getElem (rb hb)]
    simp only [Option.map_some, Option.toList_some, List.cons.injEq, and_true, Option.some.injEq]

theorem legacyInputs_eq_iff (ty : EcdsaTy) (idx : Nat) (a b : Tx) (sa sb : Bytes)
    (ra : idx < a.input.length) (rb : idx < b.input.length) :
    (specLegacyView a idx sa ty.asU32).inputs = (specLegacyView b idx sb ty.asU32).inputs ↔
      ((a.input[idx]?).map (fun i => (inCore i, i.sequence)) = (b.input[idx]?).map (fun i => (inCore i, i.sequence)) ∧
       (ty.acp = false → a.input.map inCore = b.input.map inCore) ∧
       (ty.acp = false → ty.base = .all → a.input.map (fun i => i.sequence) = b.input.map (fun i => i.sequence))) ∧
      sa = sb := by
  rw [getElem?_map_eq_iff _ ra rb, Prod.mk.injEq]
  cases hacp : ty.acp with
  | true =>
    rw [legacyView_inputs_acp _ _ _ _ hacp ra, legacyView_inputs_acp _ _ _ _ hacp rb]
    simp only [List.cons.injEq, and_true, normIn_eq_iff, reduceCtorEq, false_imp_iff]
    exact ⟨fun ⟨h1, h2, h3⟩ => ⟨⟨h1, h3⟩, h2⟩, fun ⟨⟨h1, h3⟩, h2⟩ => ⟨h1, h2, h3⟩⟩
  | false =>
    refine List.ext_getElem?_iff.trans ?_
    -- a sequence number is kept in the signed position or when the type is ALL, which `or_imp` and `forall_eq` turn
    -- into the two conjuncts of the agreement
    simp only [legacyView_input? _ _ _ _ hacp, normIn_map_eq_iff, forall_and, or_imp, forall_eq, ← map_eq_iff_getElem?,
      forall_const, getElem?_map_eq_iff _ ra rb]
    constructor
    · rintro ⟨hc, hs, hq, hall⟩
      have := hs idx (by rw [List.getElem?_eq_getElem ra]; rfl)
      rw [if_pos rfl, if_pos rfl] at this
      exact ⟨⟨⟨(getElem?_map_eq_iff inCore ra rb).mp (map_eq_iff_getElem?.mp hc idx), hq⟩, hc,
        fun hb => map_eq_iff_getElem?.mpr fun k => hall k hb⟩, this⟩
    · rintro ⟨⟨hm, hc, hall⟩, rfl⟩
      exact ⟨hc, fun _ _ => rfl, hm.2, fun k hb => map_eq_iff_getElem?.mp (hall hb) k⟩

theorem legacyView_eq_iff (ty : EcdsaTy) (idx : Nat) (a b : Tx) (sa sb : Bytes)
    (ra : InRange ty idx a) (rb : InRange ty idx b) :
    specLegacyView a idx sa ty.asU32 = specLegacyView b idx sb ty.asU32 ↔ legacyAgree ty idx a b ∧ sa = sb := by
  rw [legacyView_ext, legacyInputs_eq_iff ty idx a b sa sb ra.1 rb.1, legacyOutputs_eq_iff ty idx a b sa sb ra.2 rb.2]
  unfold legacyAgree
  exact ⟨fun ⟨h1, h2, _, ⟨⟨h3, h4, h5⟩, h6⟩, h7⟩ => ⟨⟨h1, h2, h3, h4, h5, h7⟩, h6⟩,
    fun ⟨⟨h1, h2, h3, h4, h5, h7⟩, h6⟩ => ⟨h1, h2, rfl, ⟨⟨h3, h4, h5⟩, h6⟩, h7⟩⟩

/-- the same branch of the legacy algorithm: panic, the SIGHASH_SINGLE constant, or a message -/
theorem legacyAgree_range {ty : EcdsaTy} {idx : Nat} {a b : Tx} (h : legacyAgree ty idx a b) :
    (idx < a.input.length ↔ idx < b.input.length) ∧
    ((ty.base = .single ∧ idx ≥ a.output.length) ↔ (ty.base = .single ∧ idx ≥ b.output.length)) := by
  obtain ⟨-, -, hme, -, -, houts⟩ := h
  refine ⟨lt_length_iff_of_getElem?_map_eq hme, and_congr_right fun hb => ?_⟩
  rw [hb] at houts
  have := lt_length_iff_of_getElem?_map_eq houts
  omega

theorem msgLegacy_ignores (ty : EcdsaTy) (idx : Nat) (script : Bytes) (a b : Tx) (h : legacyAgree ty idx a b) :
    msgLegacy a idx script ty = msgLegacy b idx script ty := by
  obtain ⟨hin, hs⟩ := legacyAgree_range h
  by_cases ha : idx < a.input.length
  · by_cases hc : ty.base = .single ∧ idx ≥ a.output.length
    · simp only [msgLegacy, ha, hin.1 ha, not_true_eq_false, if_false, hc, hs.1 hc, and_self, if_true]
    · have ra : InRange ty idx a := inRange_iff.mpr ⟨ha, hc⟩
      have rb : InRange ty idx b := inRange_iff.mpr ⟨hin.1 ha, fun x => hc (hs.2 x)⟩
      rw [legacy_refines a idx script ty ra, legacy_refines b idx script ty rb,
        (legacyView_eq_iff ty idx a b script script ra rb).mpr ⟨h, rfl⟩]
  · have hb : ¬ idx < b.input.length := fun x => ha (hin.2 x)
    simp only [msgLegacy, ha, hb, not_false_eq_true, if_true]

theorem legacySighash_ignores (H : SigHashes) (ty : EcdsaTy) (idx : Nat) (script : Bytes) (a b : Tx)
    (h : legacyAgree ty idx a b) : legacySighash H a idx script ty = legacySighash H b idx script ty := by
  obtain ⟨hin, hs⟩ := legacyAgree_range h
  simp only [legacySighash, msgLegacy_ignores ty idx script a b h, hin, hs]

/-- `segwitAgree` with the per-input issuances replaced by what BIP143's hashIssuance determines:
    their concatenation -/
def segwitAgreeC (ty : EcdsaTy) (idx : Nat) (a b : Tx) : Prop :=
  a.version = b.version ∧ a.lockTime = b.lockTime ∧
  (a.input[idx]?).map (fun i => (i.previousOutput, i.sequence, issuanceOf i)) =
    (b.input[idx]?).map (fun i => (i.previousOutput, i.sequence, issuanceOf i)) ∧
  (ty.acp = false → a.input.map (fun i => i.previousOutput) = b.input.map (fun i => i.previousOutput) ∧
    preIssuances a = preIssuances b) ∧
  (ty.acp = false → ty.base = .all → a.input.map (fun i => i.sequence) = b.input.map (fun i => i.sequence)) ∧
  (match ty.base with
   | .all => a.output.map outBody = b.output.map outBody
   | .single => (a.output[idx]?).map outBody = (b.output[idx]?).map outBody
   | .none => True)

theorem segwitAgreeC_of_agree (ty : EcdsaTy) (idx : Nat) (a b : Tx) (h : segwitAgree ty idx a b) :
    segwitAgreeC ty idx a b := by
  obtain ⟨h1, h2, h3, h4, h5, h6⟩ := h
  refine ⟨h1, h2, h3, fun hf => ?_, h5, h6⟩
  obtain ⟨hp, hi⟩ := map_pair_iff.mp (h4 hf)
  exact ⟨hp, by rw [preIssuances_eq, preIssuances_eq, hi]⟩

theorem segwit_ignoresC (H : SigHashes) (ty : EcdsaTy) (idx : Nat) (sc : Bytes) (v : Value) (a b : Tx)
    (h : segwitAgreeC ty idx a b) : msgSegwit H a idx sc v ty = msgSegwit H b idx sc v ty := by
  obtain ⟨hv, hl, hme, hins, hseq, houts⟩ := h
  -- the cached hashes agree whenever the hash type lets them be read
  have hP : ¬ ty.acp = true → (segwitOf H (commonOf H a)).prevouts = (segwitOf H (commonOf H b)).prevouts := fun x =>
    congrArg (fun p => H.sha256 (H.sha256 p))
      (flatMap_eq_of_factor (f := fun i : TxIn => i.previousOutput.enc) (fun c => c.enc) (fun _ => rfl)
        (hins (Bool.eq_false_iff.mpr x)).1)
  have hI : ¬ ty.acp = true → (segwitOf H (commonOf H a)).issuances = (segwitOf H (commonOf H b)).issuances := fun x =>
    congrArg (fun p => H.sha256 (H.sha256 p)) (hins (Bool.eq_false_iff.mpr x)).2
  have hS : (!ty.acp && ty.base != .single && ty.base != .none) = true →
      (segwitOf H (commonOf H a)).sequences = (segwitOf H (commonOf H b)).sequences := fun x =>
    have hx : ty.acp = false ∧ ty.base = .all := by revert x; cases ty.acp <;> cases ty.base <;> decide
    congrArg (fun p => H.sha256 (H.sha256 p))
      (flatMap_eq_of_factor (f := fun i : TxIn => encLe 4 i.sequence) (fun c => encLe 4 c) (fun _ => rfl) (hseq hx.1 hx.2))
  have hO : (ty.base != .single && ty.base != .none) = true →
      (segwitOf H (commonOf H a)).outputs = (segwitOf H (commonOf H b)).outputs := fun x => by
    have hx : ty.base = .all := by revert x; cases ty.base <;> decide
    replace houts : a.output.map outBody = b.output.map outBody := by rw [hx] at houts; exact houts
    exact congrArg (fun p => H.sha256 (H.sha256 p))
      (flatMap_eq_of_factor (g := outBody) (f := TxOut.enc) TxOut.enc (fun _ => rfl) houts)
  unfold msgSegwit
  rcases option_map_eq_cases hme with ⟨ha, hb⟩ | ⟨x, y, ha, hb, hxy⟩
  · simp only [ha, hb]
  · obtain ⟨h1, h2⟩ := Prod.mk.inj hxy
    obtain ⟨h2, h3⟩ := Prod.mk.inj h2
    simp only [ha, hb, issuancePart_eq, h1, h2, h3, hv, hl]
    rw [ite_congr rfl (fun _ => rfl) hP, ite_congr rfl hS (fun _ => rfl), ite_congr rfl (fun _ => rfl) hI]
    -- what is left differs in the outputs hash only: under `.ok`, in front of the hash type and the lock time
    congr 4
    refine ite_congr rfl hO (fun _ => ?_)
    by_cases hs : ty.base = .single
    · replace houts : (a.output[idx]?).map outBody = (b.output[idx]?).map outBody := by
        rw [hs] at houts; exact houts
      have hlt := lt_length_iff_of_getElem?_map_eq houts
      rcases option_map_eq_cases houts with ⟨hao, hbo⟩ | ⟨o, o', hao, hbo, hoo⟩
      · simp only [hao, hbo, ite_self]
      · have : o.enc = o'.enc := (congrArg TxOut.enc hoo :)
        simp only [hao, hbo, hlt, this]
    · rw [if_neg (fun x => hs x.1), if_neg (fun x => hs x.1)]

theorem msgSegwit_ignores (H : SigHashes) (ty : EcdsaTy) (idx : Nat) (sc : Bytes) (v : Value) (a b : Tx)
    (h : segwitAgree ty idx a b) : msgSegwit H a idx sc v ty = msgSegwit H b idx sc v ty :=
  segwit_ignoresC H ty idx sc v a b (segwitAgreeC_of_agree ty idx a b h)

theorem segwitSighash_ignores (H : SigHashes) (ty : EcdsaTy) (idx : Nat) (sc : Bytes) (v : Value) (a b : Tx)
    (h : segwitAgree ty idx a b) : segwitSighash H a idx sc v ty = segwitSighash H b idx sc v ty :=
  congrArg (Res.map H.sha256d) (msgSegwit_ignores H ty idx sc v a b h)

theorem segwitAgreeC_of_view (ty : EcdsaTy) (idx : Nat) (a b : Tx) (sca scb : Bytes) (va vb : Value)
    (x y : SegwitView) (hx : specSegwitView a idx sca va ty.asU32 = some x)
    (hy : specSegwitView b idx scb vb ty.asU32 = some y) (h : x.sameCommitted y) :
    segwitAgreeC ty idx a b ∧ sca = scb ∧ va = vb := by
  unfold specSegwitView at hx hy
  cases hia : a.input[idx]? with
  | none => rw [hia] at hx; cases hx
  | some ia =>
  cases hib : b.input[idx]? with
  | none => rw [hib] at hy; cases hy
  | some ib =>
  rw [hia] at hx; rw [hib] at hy
  simp only [Option.some.injEq] at hx hy
  subst hx hy
  obtain ⟨h1, h2⟩ := h
  simp only [SegwitView.mk.injEq, ecdsa_acp_iff, ecdsa_single_iff, ecdsa_none_iff] at h1 h2
  obtain ⟨hv, hpv, hsqs, -, hop, hsc, hva, hsq, his, hos, hlt, -⟩ := h1
  refine ⟨⟨hv, hlt, ?_, ?_, ?_, ?_⟩, hsc, hva⟩
  · simp only [hia, hib, Option.map_some, hop, hsq, his]
  · intro hf
    simp only [hf, Bool.false_eq_true, if_false, Option.some.injEq, Option.map_some] at hpv h2
    exact ⟨hpv, by rw [preIssuances_eq, preIssuances_eq, h2]⟩
  · intro hf hb
    simp only [hf, hb, Bool.false_eq_true, reduceCtorEq, not_false_eq_true, and_self, if_true,
      Option.some.injEq] at hsqs
    exact hsqs
  · cases hb : ty.base with
    | all =>
      simp only [hb, reduceCtorEq, not_false_eq_true, and_self, if_true, OutSel.all.injEq] at hos
      exact hos
    | none => trivial
    | single =>
      simp only [hb, not_true_eq_false, false_and, if_false, true_and] at hos
      show (a.output[idx]?).map outBody = (b.output[idx]?).map outBody
      by_cases ka : idx < a.output.length <;> by_cases kb : idx < b.output.length
      · rw [if_pos ka, if_pos kb, getD_lt _ _ _ ka, getD_lt _ _ _ kb] at hos
        exact (getElem?_map_eq_iff outBody ka kb).mpr (OutSel.single.inj hos)
      · rw [if_pos ka, if_neg kb] at hos; cases hos
      · rw [if_neg ka, if_pos kb] at hos; cases hos
      · rw [List.getElem?_eq_none (by omega), List.getElem?_eq_none (by omega)]

theorem msgTaproot_ignores (H : SigHashes) (ty : SchnorrTy) (idx : Nat) (annex : Option Bytes)
    (leaf : Option (Bytes × Nat)) (g : Bytes) (a b : Tx) (pa pb : Prevouts)
    (h : taprootAgree ty idx a b pa pb) :
    msgTaproot H a idx pa annex leaf ty g = msgTaproot H b idx pb annex leaf ty g := by
  obtain ⟨hv, hl, hchk, hins, houts⟩ := h
  have e1 : tapInsPart H a pa ty = tapInsPart H b pb ty := by
    simp only [tapInsPart]
    cases hacp : ty.acp with
    | true => rfl
    | false =>
      simp only [hacp, Bool.false_eq_true, if_false] at hins ⊢
      obtain ⟨hin, hps⟩ := hins
      simp only [tapAllInputs_eq H _ _ 0]
      rw [← Res.map_bind pa.getAll (List.map spentCore) (fun ss => .ok (serTapInputsAll H (allView (a.input.map allCore) ss 0))),
        ← Res.map_bind pb.getAll (List.map spentCore) (fun ss => .ok (serTapInputsAll H (allView (b.input.map allCore) ss 0))),
        hin, hps]
  have e2 : tapOutsPart H a ty = tapOutsPart H b ty := by
    simp only [tapOutsPart]
    cases h1 : ty.isSingle with
    | true => simp only [Bool.not_true, Bool.and_false, Bool.false_eq_true, if_false]
    | false =>
      cases h2 : ty.isNone with
      | true => rfl
      | false =>
        simp only [h1, h2, Bool.false_eq_true, if_false] at houts
        rw [preOutputs, preOutputWitnesses, houts]
        rfl
  have e3 : tapThisPart H a idx pa ty = tapThisPart H b idx pb ty := by
    simp only [tapThisPart]
    cases hacp : ty.acp with
    | false => rfl
    | true =>
      simp only [hacp, if_true] at hins ⊢
      obtain ⟨hme, hget⟩ := hins
      rcases option_map_eq_cases hme with ⟨ha, hb⟩ | ⟨x, y, ha, hb, hxy⟩
      · rw [ha, hb]
      · have hg := hget (List.getElem?_eq_some_iff.mp ha).1
        simp only [ha, hb, tapThisInput_eq, hxy]
        rw [← Res.map_bind (pa.get idx) spentCore (fun s => .ok (serTapThisInput H (thisView (thisCore y) s))),
          ← Res.map_bind (pb.get idx) spentCore (fun s => .ok (serTapThisInput H (thisView (thisCore y) s))), hg]
  have e4 : tapSinglePart H a idx ty = tapSinglePart H b idx ty := by
    simp only [tapSinglePart]
    cases h1 : ty.isSingle with
    | true => simp only [h1, if_true] at houts ⊢; rw [houts]
    | false => rfl
  have e5 : tapHead a ty g = tapHead b ty g := by
    simp only [tapHead, hv, hl]
  simp only [msgTaproot, hchk, e1, e2, e3, e4, e5]

theorem taprootSighash_ignores (H : SigHashes) (ty : SchnorrTy) (idx : Nat) (annex : Option Bytes)
    (leaf : Option (Bytes × Nat)) (g : Bytes) (a b : Tx) (pa pb : Prevouts)
    (h : taprootAgree ty idx a b pa pb) :
    taprootSighash H a idx pa annex leaf ty g = taprootSighash H b idx pb annex leaf ty g :=
  congrArg (Res.map (H.tagged Gen.tapSighashTag)) (msgTaproot_ignores H ty idx annex leaf g a b pa pb h)

/-- taproot without ANYONECANPAY commits to the most of an input (`allCore`); `witness_mut` is an update that leaves
    `allCore` as it is -/
theorem agree_modify (tx : Tx) (k : Nat) (f : TxIn → TxIn) (hf : ∀ i, allCore (f i) = allCore i) :
    (∀ ty idx, legacyAgree ty idx tx { tx with input := tx.input.modify k f }) ∧
    (∀ ty idx, segwitAgree ty idx tx { tx with input := tx.input.modify k f }) ∧
    (∀ ty idx pv, taprootAgree ty idx tx { tx with input := tx.input.modify k f } pv pv) := by
  have hall : tx.input.map allCore = (tx.input.modify k f).map allCore := (map_modify_inv f allCore hf tx.input k).symm
  have hmap : ∀ {β} {g : TxIn → β} (g' : _ → β), (∀ i, g i = g' (allCore i)) →
      tx.input.map g = (tx.input.modify k f).map g := fun g' hg => map_eq_of_factor g' hg hall
  have hget : ∀ {β} {g : TxIn → β} (g' : _ → β), (∀ i, g i = g' (allCore i)) → ∀ j,
      (tx.input[j]?).map g = ((tx.input.modify k f)[j]?).map g := fun g' hg => map_eq_iff_getElem?.mp (hmap g' hg)
  have houts : ∀ (b : Base) (idx : Nat), (match b with
      | .all => tx.output.map outBody = tx.output.map outBody
      | .single => (tx.output[idx]?).map outBody = (tx.output[idx]?).map outBody
      | .none => True) := fun b _ => by cases b <;> trivial
  refine ⟨fun ty idx => ?_, fun ty idx => ?_, fun ty idx pv => ?_⟩
  · exact ⟨rfl, rfl, hget (fun c => (c.1, c.2.1)) (fun _ => rfl) idx, fun _ => hmap (fun c => c.1) (fun _ => rfl),
      fun _ _ => hmap (fun c => c.2.1) (fun _ => rfl), houts ty.base idx⟩
  · exact ⟨rfl, rfl, hget (fun c => (c.1.1, c.2.1, c.1.2.2)) (fun _ => rfl) idx,
      fun _ => hmap (fun c => (c.1.1, c.1.2.2)) (fun _ => rfl),
      fun _ _ => hmap (fun c => c.2.1) (fun _ => rfl), houts ty.base idx⟩
  · refine ⟨rfl, rfl, ?_, ?_, ?_⟩
    · cases pv with
      | one j p => rfl
      | all ps => simp only [Prevouts.checkAll, List.length_modify]
    · split
      · exact ⟨hget (fun c => (c.1.1, c.1.2.1, c.2.1, c.1.2.2.map (fun x => (x, c.2.2)))) (fun _ => rfl) idx,
          fun _ => rfl⟩
      · exact ⟨hall, rfl⟩
    · split
      · rfl
      · split
        · trivial
        · rfl

theorem taprootAgree_of_view (ty : SchnorrTy) (hty : ty ≠ .reserved) (idx : Nat) (a b : Tx) (pa pb : Prevouts)
    (anna annb : Option Bytes) (la lb : Option (Bytes × Nat)) (ga gb : Bytes) (v : TaprootView)
    (ha : specTaprootView a idx pa anna la ty.byte ga = .ok v)
    (hb : specTaprootView b idx pb annb lb ty.byte gb = .ok v) :
    taprootAgree ty idx a b pa pb ∧ anna = annb ∧ la = lb ∧ ga = gb := by
  obtain ⟨insA, outsA, hpA, hiA, hoA, hvA⟩ := taprootView_ok ty hty a idx pa anna la ga v ha
  obtain ⟨insB, outsB, hpB, hiB, hoB, hvB⟩ := taprootView_ok ty hty b idx pb annb lb gb v hb
  rw [hvA] at hvB
  simp only [TaprootView.mk.injEq] at hvB
  obtain ⟨hg, _, hver, hlt, hins, houts, hann, hleaf⟩ := hvB
  subst hins houts
  refine ⟨⟨hver, hlt, by rw [hpA, hpB], ?_, ?_⟩, hann, hleaf, hg⟩
  · cases hacp : ty.acp with
    | true =>
      obtain ⟨ia, spa, hia, hga, eA⟩ := tapInputs_acp ty hty hacp a idx pa _ hiA
      obtain ⟨ib, spb, hib, hgb, eB⟩ := tapInputs_acp ty hty hacp b idx pb _ hiB
      obtain ⟨hc, hs⟩ := thisView_inj (TapInputs.one.inj (eA.symm.trans eB))
      rw [if_pos rfl, hia, hib, hga, hgb]
      exact ⟨congrArg some hc, fun _ => congrArg Res.ok hs⟩
    | false =>
      obtain ⟨psa, rfl, eA⟩ := tapInputs_nacp ty hty hacp a idx pa _ hiA
      obtain ⟨psb, rfl, eB⟩ := tapInputs_nacp ty hty hacp b idx pb _ hiB
      obtain ⟨hc, hs⟩ := allView_inj (TapInputs.all.inj (eA.symm.trans eB))
      rw [if_neg Bool.false_ne_true]
      exact ⟨hc, congrArg Res.ok hs⟩
  · cases hs : ty.isSingle with
    | true =>
      simp only [if_true]
      obtain ⟨oa, hoa, eA⟩ := tapOutputs_single ty hty hs a idx _ hoA
      obtain ⟨ob, hob, eB⟩ := tapOutputs_single ty hty hs b idx _ hoB
      rw [eA] at eB
      rw [hoa, hob, OutSel.single.inj eB]
    | false =>
      cases hn : ty.isNone with
      | true => simp only [Bool.false_eq_true, if_false, if_true]
      | false =>
        simp only [Bool.false_eq_true, if_false]
        have eA := tapOutputs_all ty hty hs hn a idx _ hoA
        have eB := tapOutputs_all ty hty hs hn b idx _ hoB
        rw [eA] at eB
        exact OutSel.all.inj eB

end EV.Sighash
