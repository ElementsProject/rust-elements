/-
  EV.Proofs.Alphabet — character tables: `indexIn` on a duplicate-free table inverts `getD`; the
  bech32 character set (`Fe32::from_char`, `Fe32::to_char`) and the base58 digits (`BASE58_DIGITS`,
  `BASE58_CHARS`) are each other's inverses.
-/
import EV.Model.Base58
import EV.Proofs.NatBits
namespace EV.Bech32

theorem indexIn_eq (c : Nat) (l : List Nat) (i : Nat) : indexIn c l i = (l.idxOf? c).map (· + i) := by
  induction l generalizing i with
  | nil => rfl
  | cons x xs ih =>
    rw [indexIn, ih, List.idxOf?_cons]
    by_cases h : x = c
    · rw [if_pos h, if_pos (beq_iff_eq.mpr h), Option.map_some, Nat.zero_add]
    · rw [if_neg h, if_neg (mt beq_iff_eq.mp h), Option.map_map]
      exact congrArg (Option.map · _) (funext fun a => (Nat.add_assoc a i 1).symm.trans (Nat.add_right_comm a i 1))

theorem indexIn_zero (c : Nat) (l : List Nat) : indexIn c l 0 = l.idxOf? c :=
  (indexIn_eq c l 0).trans Option.map_id'

theorem indexIn_spec (c : Nat) (l : List Nat) (v : Nat) (h : indexIn c l 0 = some v) :
    v < l.length ∧ l.getD v 0 = c := by
  obtain ⟨hv, e, _⟩ := List.idxOf?_eq_some_iff.mp ((indexIn_zero c l).symm.trans h)
  exact ⟨hv, (List.getElem_eq_getD 0).symm.trans e⟩

theorem getD_mem (l : List Nat) (d : Nat) (hd : d < l.length) : l.getD d 0 ∈ l := by
  rw [← List.getElem_eq_getD (h := hd) 0]
  exact List.getElem_mem hd

theorem indexIn_getD (l : List Nat) (hl : l.Nodup) (d : Nat) (hd : d < l.length) :
    indexIn (l.getD d 0) l 0 = some d := by
  rw [indexIn_zero, ← List.getElem_eq_getD (h := hd)]
  exact List.findIdx?_eq_some_iff_findIdx_eq.mpr ⟨hd, hl.idxOf_getElem d hd⟩

theorem lowerByte_of_not_upper (b : Nat) (h : isUpper b = false) : lowerByte b = b := by
  simp [lowerByte, h]

theorem lowerByte_upperByte (b : Nat) : lowerByte (upperByte b) = lowerByte b := by
  simp only [lowerByte, upperByte, isUpper, isLower, Bool.and_eq_true, decide_eq_true_eq]
  repeat' split
  all_goals omega

theorem isLower_upperByte (b : Nat) : isLower (upperByte b) = false := by
  simp only [upperByte, isLower, Bool.and_eq_false_iff, Bool.and_eq_true, decide_eq_true_eq, decide_eq_false_iff_not]
  split <;> omega

theorem isUpper_lowerByte (b : Nat) : isUpper (lowerByte b) = false := by
  simp only [lowerByte, isUpper, Bool.and_eq_false_iff, Bool.and_eq_true, decide_eq_true_eq, decide_eq_false_iff_not]
  split <;> omega

theorem lowerByte_lowerByte (b : Nat) : lowerByte (lowerByte b) = lowerByte b :=
  lowerByte_of_not_upper _ (isUpper_lowerByte b)

theorem upperByte_range (b : Nat) (h : 33 ≤ b ∧ b ≤ 126) : 33 ≤ upperByte b ∧ upperByte b ≤ 126 := by
  simp only [upperByte, isLower, Bool.and_eq_true, decide_eq_true_eq]
  split <;> omega

theorem charset_facts :
    Ref.charset.Nodup ∧ ∀ c ∈ Ref.charset, isUpper c = false ∧ c < 128 ∧ c ≠ 49 :=
  ⟨(NatBits.nodup_of_distinct (m := 0) (by decide +kernel)).1, by decide +kernel⟩

theorem toChar_facts (x : Nat) (hx : x < 32) :
    isUpper (toChar x) = false ∧ toChar x < 128 ∧ toChar x ≠ 49 :=
  charset_facts.2 _ (getD_mem Ref.charset x hx)

theorem isUpper_toChar : ∀ x, x < 32 → isUpper (toChar x) = false := fun x hx => (toChar_facts x hx).1

theorem toChar_ne_sep : ∀ x, x < 32 → toChar x ≠ 49 := fun x hx => (toChar_facts x hx).2.2

theorem fromChar_toChar : ∀ x, x < 32 → fromChar (toChar x) = some x := by
  intro x hx
  obtain ⟨h1, h2, _⟩ := toChar_facts x hx
  rw [fromChar, if_neg (by omega), lowerByte_of_not_upper _ h1]
  exact indexIn_getD Ref.charset charset_facts.1 x hx

theorem fromChar_upperByte (c : Nat) (hc : c < 128) : fromChar (upperByte c) = fromChar c := by
  have : upperByte c ≤ c := by
    unfold upperByte
    split <;> omega
  rw [fromChar, fromChar, lowerByte_upperByte, if_neg (by omega), if_neg (by omega)]

theorem fromChar_upper_toChar : ∀ x, x < 32 → fromChar (upperByte (toChar x)) = some x := fun x hx => by
  rw [fromChar_upperByte _ (toChar_facts x hx).2.1, fromChar_toChar x hx]

theorem fromChar_spec (c x : Nat) (h : fromChar c = some x) : lowerByte c = toChar x ∧ c < 128 ∧ x < 32 := by
  unfold fromChar at h
  split at h
  · simp at h
  · obtain ⟨h2, h3⟩ := indexIn_spec _ _ _ h
    exact ⟨h3.symm, by omega, h2⟩

theorem sym_lt (c : Nat) : sym c < 32 := by
  unfold sym
  cases h : fromChar c with
  | none => simp
  | some v => exact (fromChar_spec c v h).2.2

end EV.Bech32

namespace EV.Base58
open EV.Bech32 (indexIn indexIn_spec indexIn_getD)

theorem base58Chars_nodup : Ref.base58Chars.Nodup := (NatBits.nodup_of_distinct (m := 0) (by decide +kernel)).1

theorem digitOf_charOf : ∀ d, d < 58 → digitOf (charOf d) = some d :=
  indexIn_getD Ref.base58Chars base58Chars_nodup

theorem charOf_digitOf (c d : Nat) (h : digitOf c = some d) : charOf d = c ∧ d < 58 :=
  (indexIn_spec c _ d h).symm

theorem charOf_zero : charOf 0 = 49 := by decide

theorem charOf_eq_49 : ∀ d, d < 58 → (charOf d = 49 ↔ d = 0) := fun d hd => by
  constructor
  · intro h
    have := digitOf_charOf d hd
    rw [h, ← charOf_zero, digitOf_charOf 0 (by decide)] at this
    exact (Option.some.inj this).symm
  · rintro rfl
    exact charOf_zero

end EV.Base58
