/-
  Minimal script-number encodings (`minimalNum` of EV.Model.ScriptAsm): `build_scriptint` always writes one,
  `read_scriptint` accepts every string of at most 4 bytes, and reading then re-building returns the bytes exactly
  for the minimal ones.
-/
import EV.Model.ScriptAsm
import EV.Proofs.ScriptNum
namespace EV.Proofs.ScriptNumMin
open EV EV.Script EV.Proofs.CodecPrim EV.Proofs.ScriptNum

theorem eq_nil_or_snoc (v : Bytes) : v = [] ∨ ∃ init l, v = init ++ [l] := by
  rcases List.eq_nil_or_concat v with h | ⟨init, l, h⟩
  · exact Or.inl h
  · exact Or.inr ⟨init, l, by rw [h, List.concat_eq_append]⟩

theorem and7f (b : UInt8) : ((b &&& 0x7f != 0) = true) ↔ b.toNat % 128 ≠ 0 := by
  have e : (0x7f : UInt8).toNat = 2 ^ 7 - 1 := by decide
  rw [bne_iff_ne, ne_eq, ← UInt8.toNat_inj, UInt8.toNat_and, e, Nat.and_two_pow_sub_one_eq_mod]
  rfl

theorem minimalNum_snoc_nil (l : UInt8) : minimalNum [l] = true ↔ l.toNat % 128 ≠ 0 := by
  simp only [minimalNum, List.reverse_singleton]
  exact and7f l

theorem minimalNum_snoc_snoc (init : Bytes) (p l : UInt8) :
    minimalNum (init ++ [p] ++ [l]) = true ↔ (l.toNat % 128 ≠ 0 ∨ 128 ≤ p.toNat) := by
  have : (init ++ [p] ++ [l]).reverse = l :: p :: init.reverse := by simp
  simp only [minimalNum, this, Bool.or_eq_true]
  rw [and7f, bne_iff_ne, u8_and80]

/-- minimality in terms of the magnitude: no byte to spare -/
theorem minimalNum_iff (init : Bytes) (l : UInt8) :
    minimalNum (init ++ [l]) = true ↔ 128 * 256 ^ init.length ≤ 256 * mag init l := by
  rcases eq_nil_or_snoc init with rfl | ⟨init', p, rfl⟩
  · rw [List.nil_append, minimalNum_snoc_nil]
    simp only [mag, leNat, List.length_nil]
    omega
  · rw [minimalNum_snoc_snoc]
    -- the magnitude of `init' ++ [p]`, the top bit of `p`, and the low bits of `l` one byte up
    have e : mag (init' ++ [p]) l = mag init' p + (if 128 ≤ p.toNat then 128 * 256 ^ init'.length else 0) +
        256 ^ init'.length * 256 * (l.toNat % 128) := by
      rw [mag, leNat_mag, List.length_append, List.length_singleton, Nat.pow_succ]
    have hm := mag_lt init' p
    rw [e, List.length_append, List.length_singleton, Nat.pow_succ]
    by_cases c : l.toNat % 128 = 0
    · rw [c]
      split <;> omega
    · have : 256 ^ init'.length * 256 * 1 ≤ 256 ^ init'.length * 256 * (l.toNat % 128) :=
        Nat.mul_le_mul_left _ (by omega)
      omega

/-- the magnitude fixes the length, and value and length fix the bytes -/
theorem minimal_unique {init init' : Bytes} {l l' : UInt8} (h : 128 * 256 ^ init.length ≤ 256 * mag init l)
    (h' : 128 * 256 ^ init'.length ≤ 256 * mag init' l') (hm : mag init l = mag init' l')
    (hs : 128 ≤ l.toNat ↔ 128 ≤ l'.toNat) : init ++ [l] = init' ++ [l'] := by
  have hl : init.length = init'.length := Nat.le_antisymm
    ((length_le_iff h _).mpr (hm ▸ mag_lt init' l')) ((length_le_iff h' _).mpr (hm ▸ mag_lt init l))
  have hv : leNat (init ++ [l]) = leNat (init' ++ [l']) := by
    rw [leNat_mag, leNat_mag, hm, hl]
    by_cases c : 128 ≤ l.toNat
    · rw [if_pos c, if_pos (hs.mp c)]
    · rw [if_neg c, if_neg (fun c' => c (hs.mpr c'))]
  rw [← leBytes_leNat (b := init ++ [l]) rfl, ← leBytes_leNat (b := init' ++ [l']) rfl, hv, List.length_append, List.length_append, hl]
  rfl

theorem readScriptInt_ok_of_le (v : Bytes) (h : v.length ≤ 4) : ∃ i, readScriptInt v = .ok i := by
  rcases eq_nil_or_snoc v with rfl | ⟨init, l, rfl⟩
  · exact ⟨0, rfl⟩
  · exact ⟨_, read_snoc init l (by simpa using h)⟩

theorem buildScriptInt_minimal (n : Int) (hr : n.natAbs < 2 ^ 64) : minimalNum (buildScriptInt n) = true := by
  by_cases h0 : n = 0
  · subst h0
    rfl
  · obtain ⟨init, l, e, hm, -, hb⟩ := build_snoc h0 hr
    rw [e, minimalNum_iff]
    exact hb

theorem build_read_iff_minimal (v : Bytes) (h4 : v.length ≤ 4) (i : Int) (hr : readScriptInt v = .ok i) :
    buildScriptInt i = v ↔ minimalNum v = true := by
  rcases eq_nil_or_snoc v with rfl | ⟨init, l, rfl⟩
  · obtain rfl : i = 0 := by simpa [readScriptInt] using hr.symm
    simp [buildScriptInt, minimalNum]
  · rw [read_snoc init l (by simpa using h4)] at hr
    injection hr with hi
    have hlt := mag_lt init l
    have hP : 256 ^ init.length ≤ 256 ^ 3 := pow_mono (by simp at h4; omega)
    have habs : i.natAbs = mag init l := by
      rw [← hi]
      split <;> simp
    refine ⟨fun e => e ▸ buildScriptInt_minimal i (by omega), fun hmin => ?_⟩
    have hb := (minimalNum_iff init l).mp hmin
    have h0 : i ≠ 0 := by
      have := Nat.pow_pos (n := init.length) (show 0 < 256 by decide)
      omega
    -- what is built from `i` is minimal with the magnitude and sign of `v`
    obtain ⟨init', l', e, hm, hs, hb'⟩ := build_snoc h0 (by omega)
    rw [e]
    exact minimal_unique hb' hb (hm.trans habs)
      (hs.trans ((signed_eq_iff h0).mp hi).2.symm)

end EV.Proofs.ScriptNumMin
