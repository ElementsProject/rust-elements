/-
  EV.Proofs.Base58 — the base58 / base58check round trips of `EV.Model.Base58`.
-/
import EV.Proofs.Alphabet
import EV.Proofs.Digits
namespace EV.Base58
open EV.Bech32 (Text)

theorem leading_split (z : Nat) : ∀ (bs : List Nat),
    bs = List.replicate (leading z bs) z ++ bs.drop (leading z bs) ∧
    (bs.drop (leading z bs)).head? ≠ some z := by
  intro bs
  induction bs with
  | nil => simp [leading]
  | cons x xs ih =>
    simp only [leading]
    split
    · rename_i hx
      subst hx
      simp only [List.replicate_succ, List.drop_succ_cons, List.cons_append]
      exact ⟨by rw [← ih.1], ih.2⟩
    · rename_i hx
      simp [hx]

theorem leading_replicate (z k : Nat) (l : List Nat) (h : l.head? ≠ some z) :
    leading z (List.replicate k z ++ l) = k := by
  induction k with
  | zero =>
    cases l with
    | nil => rfl
    | cons x xs =>
      have : x ≠ z := by simpa using h
      simp [leading, this]
  | succ k ih => simp [List.replicate_succ, leading, ih]

theorem ofDigits_replicate_zero (b k : Nat) (l : List Nat) :
    ofDigits b (List.replicate k 0 ++ l) = ofDigits b l := by
  induction k with
  | zero => simp
  | succ k ih =>
    rw [List.replicate_succ, List.cons_append, ofDigits_cons, ih]; simp

theorem digitsOf_map_charOf : ∀ (ds : List Nat), (∀ d ∈ ds, d < 58) →
    digitsOf (ds.map charOf) = some ds := by
  intro ds
  induction ds with
  | nil => intro _; rfl
  | cons d ds ih =>
    intro h
    simp only [List.map_cons, digitsOf]
    rw [digitOf_charOf d (h d List.mem_cons_self), ih (List.forall_mem_cons.mp h).2]

theorem digitsOf_spec : ∀ (s : Text) (ds : List Nat), digitsOf s = some ds →
    s = ds.map charOf ∧ ∀ d ∈ ds, d < 58 := by
  intro s
  induction s with
  | nil =>
    intro ds h
    cases h
    exact ⟨rfl, nofun⟩
  | cons c cs ih =>
    intro ds h
    simp only [digitsOf] at h
    split at h
    · rename_i d ds' h1 h2
      injection h with h
      subst h
      obtain ⟨e1, e2⟩ := charOf_digitOf c d h1
      obtain ⟨e3, e4⟩ := ih ds' h2
      exact ⟨by simp [e1, ← e3], List.forall_mem_cons.mpr ⟨e2, e4⟩⟩
    · cases h

theorem leading_map_charOf : ∀ (ds : List Nat), (∀ d ∈ ds, d < 58) →
    leading 49 (ds.map charOf) = leading 0 ds := by
  intro ds
  induction ds with
  | nil => intro _; rfl
  | cons d ds ih =>
    intro h
    have hd := charOf_eq_49 d (h d List.mem_cons_self)
    simp only [List.map_cons, leading, ih (List.forall_mem_cons.mp h).2]
    by_cases h0 : d = 0
    · subst h0; simp [hd]
    · have : charOf d ≠ 49 := fun hc => h0 (hd.mp hc)
      simp [h0, this]

/-- the number with digits `l` in base `b1` written in base `b2`, leading zeros kept one for one:
    `base58::encode` is `rebase 256 58`, `base58::decode` is `rebase 58 256` -/
def rebase (b1 b2 : Nat) (l : List Nat) : List Nat :=
  List.replicate (leading 0 l) 0 ++ digits b2 (ofDigits b1 l)

theorem rebase_lt (b1 b2 : Nat) (h2 : 2 ≤ b2) (l : List Nat) : ∀ d ∈ rebase b1 b2 l, d < b2 := by
  intro x hx
  rcases List.mem_append.mp hx with hx | hx
  · have := (List.mem_replicate.mp hx).2; omega
  · exact digits_lt b2 _ h2 x hx

theorem rebase_rebase (b1 b2 : Nat) (h1 : 2 ≤ b1) (h2 : 2 ≤ b2) (l : List Nat) (hl : ∀ d ∈ l, d < b1) :
    rebase b2 b1 (rebase b1 b2 l) = l := by
  obtain ⟨hs1, hs2⟩ := leading_split 0 l
  have e : ofDigits b1 l = ofDigits b1 (l.drop (leading 0 l)) := by
    conv => lhs; rw [hs1]
    exact ofDigits_replicate_zero _ _ _
  unfold rebase
  rw [leading_replicate _ _ _ (digits_head_ne_zero b2 _ h2), ofDigits_replicate_zero, ofDigits_digits b2 _ h2,
    e, digits_ofDigits b1 h1 _ (fun d hd => hl d (List.mem_of_mem_drop hd)) hs2, ← hs1]

theorem encode_eq (bs : List Nat) : encode bs = (rebase 256 58 bs).map charOf := by
  simp [encode, rebase, List.map_replicate, charOf_zero]

theorem decode_eq (s : Text) : decode s = (digitsOf s).map (rebase 58 256) := by
  unfold decode
  cases h : digitsOf s with
  | none => rfl
  | some ds =>
    obtain ⟨e, hlt⟩ := digitsOf_spec s ds h
    rw [e, leading_map_charOf ds hlt]
    rfl

theorem decode_lt (s : Text) (bs : List Nat) (h : decode s = some bs) : ∀ b ∈ bs, b < 256 := by
  rw [decode_eq] at h
  obtain ⟨ds, _, rfl⟩ := Option.map_eq_some_iff.mp h
  exact rebase_lt 58 256 (by decide) ds

theorem decode_encode (bs : List Nat) (h : ∀ b ∈ bs, b < 256) : decode (encode bs) = some bs := by
  rw [decode_eq, encode_eq, digitsOf_map_charOf _ (rebase_lt 256 58 (by decide) bs), Option.map_some,
    rebase_rebase 256 58 (by decide) (by decide) bs h]

theorem encode_decode (s : Text) (bs : List Nat) (h : decode s = some bs) : encode bs = s := by
  rw [decode_eq] at h
  obtain ⟨ds, hds, rfl⟩ := Option.map_eq_some_iff.mp h
  obtain ⟨rfl, hlt⟩ := digitsOf_spec s ds hds
  rw [encode_eq, rebase_rebase 58 256 (by decide) (by decide) ds hlt]

theorem checksum4_length (H : List Nat → List Nat) (data : List Nat) : (checksum4 H data).length = 4 := rfl

theorem checksum4_lt (H : List Nat → List Nat) (data : List Nat) : ∀ b ∈ checksum4 H data, b < 256 := by
  intro b hb
  simp only [checksum4, List.mem_cons, List.mem_nil_iff, or_false] at hb
  rcases hb with hb | hb | hb | hb <;> subst hb <;> exact Nat.mod_lt _ (by omega)

/-- `decode_check` accepts exactly the strings that decode to a payload followed by its checksum -/
theorem decodeCheck_eq_some_iff (H : List Nat → List Nat) (s : Text) (data : List Nat) :
    decodeCheck H s = some data ↔ decode s = some (data ++ checksum4 H data) := by
  unfold decodeCheck
  cases decode s with
  | none => simp
  | some ret =>
    simp only [Option.some.injEq]
    constructor
    · intro h
      split at h
      · cases h
      · split at h
        · rename_i hck
          cases h
          rw [← hck, List.take_append_drop]
        · cases h
    · rintro rfl
      have hl : (data ++ checksum4 H data).length - 4 = data.length := by
        rw [List.length_append, checksum4_length]
        omega
      rw [if_neg (by rw [List.length_append, checksum4_length]; omega), hl, List.take_left' rfl,
        List.drop_left' rfl, if_pos rfl]

theorem decodeCheck_encodeCheck (H : List Nat → List Nat) (data : List Nat) (h : ∀ b ∈ data, b < 256) :
    decodeCheck H (encodeCheck H data) = some data :=
  (decodeCheck_eq_some_iff H _ data).mpr (decode_encode _ (List.forall_mem_append.mpr ⟨h, checksum4_lt H data⟩))

theorem encodeCheck_decodeCheck (H : List Nat → List Nat) (s : Text) (data : List Nat)
    (h : decodeCheck H s = some data) : encodeCheck H data = s :=
  encode_decode s _ ((decodeCheck_eq_some_iff H s data).mp h)

theorem decodeCheck_lt (H : List Nat → List Nat) (s : Text) (data : List Nat)
    (h : decodeCheck H s = some data) : ∀ b ∈ data, b < 256 := fun b hb =>
  decode_lt s _ ((decodeCheck_eq_some_iff H s data).mp h) b (List.mem_append_left _ hb)

theorem encode_head (v : Nat) (rest : List Nat) (hv : 0 < v) (h : ∀ x ∈ rest, x < 256)
    (k lo hi : Nat) (hlo : 1 ≤ lo) (hhi : hi < 58)
    (h1 : lo * 58 ^ k ≤ v * 256 ^ rest.length) (h2 : (v + 1) * 256 ^ rest.length ≤ (hi + 1) * 58 ^ k) :
    ∃ d tl, encode (v :: rest) = charOf d :: tl ∧ lo ≤ d ∧ d ≤ hi ∧ tl.length = k := by
  obtain ⟨r1, r2⟩ := ofDigits_cons_range 256 v rest h
  -- the leading digit is the quotient by `58 ^ k`, which the bracket puts in `lo..hi`
  have hp : 0 < 58 ^ k := Nat.pow_pos (by decide)
  have hl := (Nat.le_div_iff_mul_le hp).mpr (Nat.le_trans h1 r1)
  have hh := Nat.le_of_lt_succ ((Nat.div_lt_iff_lt_mul hp).mpr (Nat.lt_of_lt_of_le r2 h2))
  obtain ⟨tl, hd, hk⟩ := digits_eq_cons 58 k (ofDigits 256 (v :: rest)) (by decide)
    (Nat.lt_of_lt_of_le hlo hl) (Nat.lt_of_le_of_lt hh hhi)
  refine ⟨_, tl.map charOf, ?_, hl, hh, by rw [List.length_map, hk]⟩
  have hv0 : v ≠ 0 := by omega
  unfold encode
  rw [hd]
  simp [leading, hv0]

end EV.Base58
