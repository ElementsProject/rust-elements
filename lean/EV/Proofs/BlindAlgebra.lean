/-
  The algebra behind C04/C05.  Scalars `R` form a commutative ring (the integers mod the group order),
  points `M` an `R`-module with a base point `G` and one tag point per asset id (`Curve`): the algebraic
  model that `EV.Props.C04`/`C05` are stated in.  The PSET blinder has its own copy of the scalar model,
  `EV.PsetBlind`, and `EV.Proofs.PsetBlind` its own lemmas of the same names about it.
-/
import Mathlib.Algebra.Module.Basic
import Mathlib.Algebra.BigOperators.Group.List.Basic
import Mathlib.Algebra.BigOperators.Group.Finset.Basic
import Mathlib.Algebra.Module.BigOperators
import Mathlib.Tactic.Ring
import Mathlib.Tactic.Abel
import Mathlib.Tactic.LinearCombination
import Mathlib.Tactic.Module
import EV.Model.Blind

namespace EV.Blind
open EV

section scalars
variable {A R : Type} [CommRing R]

@[simp] theorem sumTerms_nil : sumTerms ([] : List (Secrets A R)) = 0 := rfl

@[simp] theorem sumTerms_cons (s : Secrets A R) (l : List (Secrets A R)) :
    sumTerms (s :: l) = term s + sumTerms l := by
  simp [sumTerms]

@[simp] theorem sumTerms_append (l₁ l₂ : List (Secrets A R)) :
    sumTerms (l₁ ++ l₂) = sumTerms l₁ + sumTerms l₂ := by
  simp [sumTerms]

theorem foldl_add_eq_add_sum {α M : Type} [AddMonoid M] (g : α → M) (l : List α) (acc : M) :
    l.foldl (fun acc x => acc + g x) acc = acc + (l.map g).sum := by
  induction l generalizing acc with
  | nil => simp
  | cons x l ih => simp only [List.foldl_cons, ih, List.map_cons, List.sum_cons, add_assoc]

/-- the loop of `secp256k1_pedersen_blind_generator_blind_sum` computes the closed formula -/
theorem lastVbf_eq (value : Nat) (abf : R) (ins outs : List (Secrets A R)) :
    lastVbf value abf ins outs = sumTerms ins - sumTerms outs - (value : R) * abf := by
  have hin : ins.foldl (blindSumStep true) (0 : R) = 0 + -sumTerms ins := by
    rw [sumTerms, List.sum_neg, List.map_map]
    exact foldl_add_eq_add_sum (fun s => -term s) ins 0
  have hout : ∀ acc : R, outs.foldl (blindSumStep false) acc = acc + sumTerms outs :=
    foldl_add_eq_add_sum term outs
  rw [lastVbf, hin, hout]
  ring

theorem balance_eq (ins outs : List (Secrets A R)) :
    balance ins outs = sumTerms ins - sumTerms outs := by
  simp [balance, sub_eq_add_neg]

theorem vbfAdd_eq [DecidableEq R] (a b : R) : vbfAdd a b = a + b := by
  unfold vbfAdd
  split
  · simp [*]
  · split <;> simp [*]

theorem vbfNeg_eq [DecidableEq R] (a : R) : vbfNeg a = -a := by
  unfold vbfNeg
  split <;> simp [*]
end scalars

/-- the total amount of asset `a` among the openings `l` -/
def amt {A R : Type} [DecidableEq A] (a : A) (l : List (Secrets A R)) : Nat :=
  ((l.filter (fun s => s.asset = a)).map (fun s => s.value)).sum

@[simp] theorem amt_nil {A R : Type} [DecidableEq A] (a : A) : amt a ([] : List (Secrets A R)) = 0 := rfl

theorem amt_cons {A R : Type} [DecidableEq A] (a : A) (s : Secrets A R) (l : List (Secrets A R)) :
    amt a (s :: l) = (if s.asset = a then s.value else 0) + amt a l := by
  unfold amt
  by_cases h : s.asset = a <;> simp [h]

theorem amt_append {A R : Type} [DecidableEq A] (a : A) (l₁ l₂ : List (Secrets A R)) :
    amt a (l₁ ++ l₂) = amt a l₁ + amt a l₂ := by
  rw [amt, List.filter_append, List.map_append, List.sum_append]
  rfl

theorem amt_pos_iff {A R : Type} [DecidableEq A] (a : A) (l : List (Secrets A R)) :
    0 < amt a l ↔ ∃ s ∈ l, s.asset = a ∧ 0 < s.value := by
  rw [amt, List.sum_pos_iff_exists_pos_nat]
  simp only [List.mem_map, List.mem_filter, decide_eq_true_eq, and_assoc, ↓existsAndEq, and_true]

def assetsOf {A R : Type} [DecidableEq A] (l₁ l₂ : List (Secrets A R)) : Finset A :=
  ((l₁ ++ l₂).map (·.asset)).toFinset

theorem mem_assetsOf_left {A R : Type} [DecidableEq A] {l₁ l₂ : List (Secrets A R)} {s : Secrets A R}
    (h : s ∈ l₁) : s.asset ∈ assetsOf l₁ l₂ :=
  List.mem_toFinset.2 (List.mem_map_of_mem (List.mem_append_left _ h))

theorem mem_assetsOf_right {A R : Type} [DecidableEq A] {l₁ l₂ : List (Secrets A R)} {s : Secrets A R}
    (h : s ∈ l₂) : s.asset ∈ assetsOf l₁ l₂ :=
  List.mem_toFinset.2 (List.mem_map_of_mem (List.mem_append_right _ h))

theorem sum_splice_cancel {M : Type} [AddCommGroup M] (l₁ l₂ xs ys : List M)
    (h : (l₁ ++ xs ++ l₂).sum = (l₁ ++ ys ++ l₂).sum) : xs.sum = ys.sum := by
  simp only [List.sum_append] at h
  exact add_left_cancel (add_right_cancel h)

structure Curve (R M A : Type) where
  G : M
  tag : A → M

section points
variable {A R M : Type} [CommRing R] [AddCommGroup M] [Module R M]

/-- `Generator::new_blinded(tag a, abf)` -/
def Curve.gen (cv : Curve R M A) (a : A) (abf : R) : M := cv.tag a + abf • cv.G

/-- `PedersenCommitment::new(v, vbf, g)` -/
def Curve.pedersen (cv : Curve R M A) (v : Nat) (vbf : R) (g : M) : M := (v : R) • g + vbf • cv.G

def Curve.commit (cv : Curve R M A) (s : Secrets A R) : M :=
  cv.pedersen s.value s.vbf (cv.gen s.asset s.abf)

/-- what is left of a commitment when the multiples of `G` are taken away (`Curve.commit_eq`) -/
def Curve.tagPart (cv : Curve R M A) (s : Secrets A R) : M := (s.value : R) • cv.tag s.asset

theorem Curve.commit_eq (cv : Curve R M A) (s : Secrets A R) :
    cv.commit s = cv.tagPart s + term s • cv.G := by
  simp only [Curve.commit, Curve.pedersen, Curve.gen, Curve.tagPart, term, smul_add, smul_smul, add_smul,
    add_assoc]

theorem Curve.sum_commit (cv : Curve R M A) (l : List (Secrets A R)) :
    (l.map cv.commit).sum = (l.map cv.tagPart).sum + sumTerms l • cv.G := by
  induction l with
  | nil => simp
  | cons s l ih =>
    simp only [List.map_cons, List.sum_cons, ih, sumTerms_cons, cv.commit_eq, add_smul]
    abel

/-- the sender's `esk • (sk • G)` is the receiver's `sk • (esk • G)` -/
theorem ecdh_symm (G : M) (a b : R) : a • (b • G) = b • (a • G) := smul_comm a b G

theorem Curve.sum_tagPart_eq_finset [DecidableEq A] (cv : Curve R M A) (S : Finset A)
    (l : List (Secrets A R)) (hS : ∀ s ∈ l, s.asset ∈ S) :
    (l.map cv.tagPart).sum = ∑ a ∈ S, ((amt a l : Nat) : R) • cv.tag a := by
  induction l with
  | nil => simp only [List.map_nil, List.sum_nil, amt_nil, Nat.cast_zero, zero_smul, Finset.sum_const_zero]
  | cons s l ih =>
    have hs : ∑ a ∈ S, ((if s.asset = a then s.value else 0 : Nat) : R) • cv.tag a = cv.tagPart s := by
      rw [Finset.sum_eq_single_of_mem s.asset (hS s List.mem_cons_self)
        (fun a _ ha => by rw [if_neg ha.symm, Nat.cast_zero, zero_smul]), if_pos rfl]
      rfl
    simp only [List.map_cons, List.sum_cons, ih (fun x hx => hS x (List.mem_cons_of_mem _ hx)), amt_cons,
      Nat.cast_add, add_smul, Finset.sum_add_distrib, hs]

theorem Curve.sum_tagPart_of_balanced [DecidableEq A] (cv : Curve R M A)
    (ins outs : List (Secrets A R)) (hbal : ∀ a, amt a ins = amt a outs) :
    (ins.map cv.tagPart).sum = (outs.map cv.tagPart).sum := by
  rw [cv.sum_tagPart_eq_finset (assetsOf ins outs) ins fun _ => mem_assetsOf_left,
    cv.sum_tagPart_eq_finset (assetsOf ins outs) outs fun _ => mem_assetsOf_right]
  exact Finset.sum_congr rfl fun a _ => by rw [hbal a]

theorem Curve.commit_balance [DecidableEq A] (cv : Curve R M A) (ins outs : List (Secrets A R))
    (hterm : sumTerms ins = sumTerms outs) (hbal : ∀ a, amt a ins = amt a outs) :
    (ins.map cv.commit).sum = (outs.map cv.commit).sum := by
  rw [cv.sum_commit, cv.sum_commit, hterm, cv.sum_tagPart_of_balanced ins outs hbal]
end points

end EV.Blind
