/-
  Laws of the consensus-encoding primitives (EV.Model.Codec): `Lawful d e wf` is soundness, completeness and totality of
  a decoder `d` against an encoder `e` on the values satisfying `wf`.
  The model sequences decoders by an explicit `match` on the result of the first.  `Dec.bind` has that very shape, so
  the equations between a model decoder and its combinator form (`le_eq`, `bytesVec_eq`, …) are `rfl`, stated under
  `set_option smartUnfolding false`: with smart unfolding `rfl` does not unfold the auxiliary `match` functions.  Where
  the combinator form is written with `pair`/`map` (binds ending in `pure`, not definitionally the model's nested
  matches), `simp only [Dec.pair, Dec.map, Dec.bind_assoc, Dec.pure_bind]` first turns it into nested binds.  For the
  long decoders (`TxIn.dec`, `Tx.dec`, `Params.dec`, `BlockHeader.dec`) `rfl` alone is slow to check;
  `unfold X.dec Dec.bind` first leaves it two terms of the same shape.
  Soundness and totality are proved in one walk along the combinator form (`Sound`, `Lawful.sound_bind`);
  `Lawful.of_sound` puts the walk and completeness together.
-/
import EV.Model.Codec
import EV.Proofs.Res

namespace EV.Codec.Dec
variable {α β γ : Type}

def pure (a : α) : Dec α := fun bs => .ok (a, bs)

def bind (d : Dec α) (f : α → Dec β) : Dec β := fun bs =>
  match d bs with
  | .ok (a, rest) => f a rest
  | .err e => .err e
  | .panic s => .panic s

def map (f : α → β) (d : Dec α) : Dec β := d.bind fun a => pure (f a)

def pair (d₁ : Dec α) (d₂ : Dec β) : Dec (α × β) := d₁.bind fun a => d₂.bind fun b => pure (a, b)

theorem bind_ok_iff {d : Dec α} {f : α → Dec β} {bs : Bytes} {p : β × Bytes} :
    d.bind f bs = .ok p ↔ ∃ a r, d bs = .ok (a, r) ∧ f a r = .ok p := by
  unfold bind
  rcases d bs with ⟨a, r⟩ | e | s <;> simp [and_assoc]

theorem bind_of_ok {d : Dec α} {bs : Bytes} {a : α} {r : Bytes} (h : d bs = .ok (a, r)) (f : α → Dec β) :
    d.bind f bs = f a r := by
  simp only [bind, h]

theorem pure_bind (a : α) (f : α → Dec β) : (pure a).bind f = f a := rfl

theorem bind_assoc (d : Dec α) (f : α → Dec β) (g : β → Dec γ) :
    (d.bind f).bind g = d.bind fun a => (f a).bind g := by
  funext bs
  unfold bind
  rcases d bs with ⟨a, r⟩ | e | s <;> rfl

end EV.Codec.Dec

namespace EV.Proofs.CodecPrim
open EV EV.Codec

/-- what `d` accepts is the encoding of a canonical value followed by what `d` leaves over, `d` reads every such
    encoding back whatever follows it, and `d` never panics -/
structure Lawful {α : Type} (d : Dec α) (e : α → Bytes) (wf : α → Prop) : Prop where
  sound : ∀ bs v rest, d bs = .ok (v, rest) → bs = e v ++ rest ∧ wf v
  complete : ∀ v r, wf v → d (e v ++ r) = .ok (v, r)
  total : ∀ bs s, d bs ≠ .panic s

/-- soundness and totality of a decoder on one input: its result `x` is not a panic, and if it is a value `v` with
    `rest` left over then `Q v rest`.  `err`, `ite`, `guard`, `imp` are `Res.Post`'s, restated so that the goals they
    leave are again of the form `Sound Q x`: only in that form does unification find the two-argument `Q`. -/
abbrev Sound {α : Type} (Q : α → Bytes → Prop) (x : Res (α × Bytes)) : Prop := Res.Post (fun vr => Q vr.1 vr.2) x

namespace Sound
variable {α β : Type} {Q : α → Bytes → Prop}

theorem err {m : String} : Sound Q (.err m) := trivial

theorem ite {c : Prop} [Decidable c] {x y : Res (α × Bytes)} (hx : c → Sound Q x) (hy : ¬ c → Sound Q y) :
    Sound Q (if c then x else y) :=
  Res.Post.ite hx hy

theorem guard {c : Prop} [Decidable c] {m : String} {x : Res (α × Bytes)} (h : ¬ c → Sound Q x) :
    Sound Q (if c then .err m else x) :=
  Res.Post.guard h

theorem imp {Q' : α → Bytes → Prop} {x : Res (α × Bytes)} (hx : Sound Q x) (h : ∀ v r, Q v r → Q' v r) : Sound Q' x :=
  Res.Post.imp hx fun vr _ => h vr.1 vr.2

theorem bind {d : Dec α} {f : α → Dec β} {Q : β → Bytes → Prop} {bs : Bytes}
    (h : Sound (fun a r => Sound Q (f a r)) (d bs)) : Sound Q (d.bind f bs) := by
  unfold Dec.bind
  generalize d bs = x at h ⊢
  rcases x with ⟨a, r⟩ | e | s <;> exact h

theorem andThen {d : Dec α} {f : α → Dec β} {Q' : β → Bytes → Prop} {bs : Bytes} (hd : Sound Q (d bs))
    (hf : ∀ a r, Q a r → Sound Q' (f a r)) : Sound Q' (d.bind f bs) :=
  Sound.bind (hd.imp hf)

end Sound

namespace Lawful
variable {α β : Type} {d : Dec α} {e : α → Bytes} {wf : α → Prop}

theorem of_sound (hs : ∀ bs, Sound (fun v rest => bs = e v ++ rest ∧ wf v) (d bs))
    (hc : ∀ v r, wf v → d (e v ++ r) = .ok (v, r)) : Lawful d e wf :=
  ⟨fun bs _ _ => (hs bs).of_ok, hc, fun bs => (hs bs).ne_panic⟩

theorem sound_at (h : Lawful d e wf) (bs : Bytes) : Sound (fun v rest => bs = e v ++ rest ∧ wf v) (d bs) :=
  .intro (h.total bs) fun p hp => h.sound bs p.1 p.2 hp

theorem sound_bind (h : Lawful d e wf) {f : α → Dec β} {Q : β → Bytes → Prop} {bs : Bytes}
    (hf : ∀ a r, wf a → bs = e a ++ r → Sound Q (f a r)) : Sound Q (d.bind f bs) :=
  (h.sound_at bs).andThen fun a r ⟨hb, wa⟩ => hf a r wa hb

theorem bind_enc (h : Lawful d e wf) {a : α} (ha : wf a) (f : α → Dec β) (r : Bytes) :
    d.bind f (e a ++ r) = f a r :=
  Dec.bind_of_ok (h.complete a r ha) f

theorem complete_nil (h : Lawful d e wf) {v : α} (hv : wf v) : d (e v) = .ok (v, []) :=
  List.append_nil (e v) ▸ h.complete v [] hv

theorem enc_ne_nil (h : Lawful d e wf) {s : String} (hd : d [] = .err s) (a : α) (ha : wf a) : e a ≠ [] := by
  intro he
  have hc := h.complete_nil ha
  rw [he, hd] at hc
  cases hc

theorem whole_iff (h : Lawful d e wf) {b : Bytes} {a : α} : d b = .ok (a, []) ↔ b = e a ∧ wf a :=
  ⟨fun hd => List.append_nil (e a) ▸ h.sound b a [] hd, fun ⟨hb, ha⟩ => hb ▸ h.complete_nil ha⟩

theorem congr (h : Lawful d e wf) {d' : Dec α} {e' : α → Bytes} (hd : d' = d) (he : ∀ v, e' v = e v) :
    Lawful d' e' wf := by
  obtain rfl : e' = e := funext he
  exact hd ▸ h

theorem pair {d₁ : Dec α} {e₁ : α → Bytes} {w₁ : α → Prop} {d₂ : Dec β} {e₂ : β → Bytes} {w₂ : β → Prop}
    (h₁ : Lawful d₁ e₁ w₁) (h₂ : Lawful d₂ e₂ w₂) :
    Lawful (d₁.pair d₂) (fun p => e₁ p.1 ++ e₂ p.2) (fun p => w₁ p.1 ∧ w₂ p.2) := by
  refine .of_sound (fun bs => h₁.sound_bind fun a r wa ha => h₂.sound_bind fun b r' wb hb => ?_) fun v r hv => ?_
  · subst ha hb
    exact .ok ⟨(List.append_assoc ..).symm, wa, wb⟩
  · rw [List.append_assoc, Dec.pair, h₁.bind_enc hv.1, h₂.bind_enc hv.2]
    rfl

theorem map (h : Lawful d e wf) {f : α → β} {g : β → α} {wf' : β → Prop}
    (hf : ∀ a, wf a → g (f a) = a ∧ wf' (f a)) (hg : ∀ b, wf' b → f (g b) = b ∧ wf (g b)) :
    Lawful (d.map f) (fun b => e (g b)) wf' := by
  refine .of_sound (fun bs => h.sound_bind fun a r wa ha => ?_) fun v r hv => ?_
  · subst ha
    exact .ok ⟨by rw [(hf a wa).1], (hf a wa).2⟩
  · rw [Dec.map, h.bind_enc (hg v hv).2, Dec.pure, (hg v hv).1]

end Lawful

theorem leNat_leBytes_mod (k n : Nat) : leNat (leBytes k n) = n % 256 ^ k := by
  induction k generalizing n with
  | zero => exact (Nat.mod_one n).symm
  | succ k ih =>
    simp only [leBytes, leNat, ih, UInt8.toNat_ofNat', Nat.mod_mod]
    rw [Nat.pow_succ 256, Nat.mul_comm (256 ^ k), Nat.mod_mul]

theorem leNat_leBytes (k n : Nat) (h : n < 256 ^ k) : leNat (leBytes k n) = n := by
  rw [leNat_leBytes_mod, Nat.mod_eq_of_lt h]

theorem leBytes_leNat {b : Bytes} {k : Nat} (h : b.length = k) : leBytes k (leNat b) = b := by
  subst h
  induction b with
  | nil => rfl
  | cons x rest ih =>
    have hx := UInt8.toNat_lt x
    have h1 : (x.toNat + 256 * leNat rest) % 256 = x.toNat := by omega
    have h2 : (x.toNat + 256 * leNat rest) / 256 = leNat rest := by omega
    simp only [List.length_cons, leBytes, leNat, h1, h2, ih, UInt8.ofNat_toNat]

theorem leNat_lt {b : Bytes} {k : Nat} (h : b.length = k) : leNat b < 256 ^ k := by
  -- by the two round trips `leNat b` is its own remainder modulo `256 ^ k`
  have e := leNat_leBytes_mod k (leNat b)
  rw [leBytes_leNat h] at e
  rw [e]
  exact Nat.mod_lt _ (Nat.pow_pos (by decide))

theorem leBytes_length (k n : Nat) : (leBytes k n).length = k := by
  induction k generalizing n with
  | zero => rfl
  | succ k ih => simp [leBytes, ih]

theorem leBytes_mod (k n : Nat) : leBytes k (n % 256 ^ k) = leBytes k n := by
  have h := leBytes_leNat (leBytes_length k n)
  rwa [leNat_leBytes_mod] at h

theorem beNat_beBytes (k n : Nat) (h : n < 256 ^ k) : beNat (beBytes k n) = n := by
  simp [beNat, beBytes, leNat_leBytes k n h]

theorem beBytes_beNat {b : Bytes} {k : Nat} (h : b.length = k) : beBytes k (beNat b) = b := by
  simp [beNat, beBytes, leBytes_leNat (List.length_reverse.trans h)]

theorem beNat_lt {b : Bytes} {k : Nat} (h : b.length = k) : beNat b < 256 ^ k :=
  leNat_lt (List.length_reverse.trans h)

theorem beBytes_length (k n : Nat) : (beBytes k n).length = k := by
  simp [beBytes, leBytes_length]

theorem flatten_length {α : Type} {k : Nat} {l : List (List α)} (hl : ∀ c ∈ l, c.length = k) :
    l.flatten.length = k * l.length := by
  rw [List.length_flatten, List.map_congr_left hl, List.map_const', List.sum_replicate_nat, Nat.mul_comm]

/-- `chunks_exact(k)` loses nothing on `k * n` elements; a chunking function (the decoders' `chunks_exact`) is then
    known by what it does on a concatenation of such chunks -/
theorem exists_chunks {α : Type} (k n : Nat) (bs : List α) (h : bs.length = k * n) :
    ∃ l : List (List α), l.flatten = bs ∧ l.length = n ∧ ∀ c ∈ l, c.length = k := by
  induction n generalizing bs with
  | zero => exact ⟨[], (List.eq_nil_of_length_eq_zero h).symm, rfl, nofun⟩
  | succ n ih =>
    rw [Nat.mul_succ] at h
    obtain ⟨l, h1, h2, h3⟩ := ih (bs.drop k) (by rw [List.length_drop, h, Nat.add_sub_cancel])
    refine ⟨bs.take k :: l, ?_, congrArg Nat.succ h2, List.forall_mem_cons.2 ⟨?_, h3⟩⟩
    · rw [List.flatten_cons, h1, List.take_append_drop]
    · rw [List.length_take, h]
      exact Nat.min_eq_left (Nat.le_add_left _ _)

/-- fixed-size byte arrays `[u8; n]` -/
theorem take_lawful (n : Nat) : Lawful (take n) (fun b => b) (fun b => b.length = n) := by
  refine .of_sound (fun bs => .guard fun h => ?_) fun v r hv => ?_
  · exact .ok ⟨(List.take_append_drop n bs).symm, List.length_take_of_le (Nat.le_of_not_lt h)⟩
  · subst hv
    simp [take]

/-- `u8` -/
theorem u8_lawful : Lawful u8 (fun n => [UInt8.ofNat n]) (fun n => n < 256) := by
  refine .of_sound (fun bs => ?_) fun v r hv => ?_
  · cases bs with
    | nil => exact .err
    | cons b t => exact .ok ⟨by simp, UInt8.toNat_lt b⟩
  · simp only [u8, List.singleton_append, UInt8.toNat_ofNat']
    rw [Nat.mod_eq_of_lt hv]

set_option smartUnfolding false in
theorem le_eq (k : Nat) : le k = (take k).map leNat := rfl

/-- little-endian `u16/u32/u64` -/
theorem le_lawful (k : Nat) : Lawful (le k) (encLe k) (fun n => n < 256 ^ k) :=
  ((take_lawful k).map (f := leNat) (g := leBytes k)
    (fun _ hb => ⟨leBytes_leNat hb, leNat_lt hb⟩)
    (fun n hn => ⟨leNat_leBytes k n hn, leBytes_length k n⟩)).congr (le_eq k) (fun _ => rfl)

theorem encVarint_length (n : Nat) : (encVarint n).length = varintSize n := by
  simp only [encVarint, varintSize, apply_ite List.length, List.length_cons, List.length_nil, leBytes_length]

theorem encVarint_u8 {n : Nat} (h : n ≤ 0xFC) : encVarint n = [UInt8.ofNat n] := by
  rw [encVarint, if_pos h]

theorem encVarint_u16 {n : Nat} (h : 0xFD ≤ n) (h' : n < 0x10000) : encVarint n = 0xFD :: leBytes 2 n := by
  rw [encVarint, if_neg (Nat.not_le.mpr h), if_pos (Nat.le_of_lt_succ h')]

theorem encVarint_u32 {n : Nat} (h : 0x10000 ≤ n) (h' : n < 0x100000000) : encVarint n = 0xFE :: leBytes 4 n := by
  rw [encVarint, if_neg (Nat.not_le.mpr (Nat.lt_of_lt_of_le (by decide) h)), if_neg (Nat.not_le.mpr h),
    if_pos (Nat.le_of_lt_succ h')]

theorem encVarint_u64 {n : Nat} (h : 0x100000000 ≤ n) : encVarint n = 0xFF :: leBytes 8 n := by
  rw [encVarint, if_neg (Nat.not_le.mpr (Nat.lt_of_lt_of_le (by decide) h)),
    if_neg (Nat.not_le.mpr (Nat.lt_of_lt_of_le (by decide) h)), if_neg (Nat.not_le.mpr h)]

/-- the `k`-byte form of a compact size: values below `lo` have a shorter form and are rejected -/
private def wide (k lo : Nat) : Dec Nat :=
  (le k).bind fun x r => if x < lo then .err "non-minimal varint" else .ok (x, r)

private theorem wide_lawful (k lo : Nat) :
    Lawful (wide k lo) (leBytes k) (fun n => lo ≤ n ∧ n < 256 ^ k) := by
  refine .of_sound (fun bs => (le_lawful k).sound_bind fun x r hx hb => .guard fun hlo => ?_) fun v r hv => ?_
  · exact .ok ⟨hb, by omega, hx⟩
  · rw [wide, ← encLe, (le_lawful k).bind_enc hv.2, if_neg (by omega)]

set_option smartUnfolding false in
private theorem varint_cons (b : UInt8) (t : Bytes) : varint (b :: t) =
    if b = 0xFF then wide 8 0x100000000 t else if b = 0xFE then wide 4 0x10000 t
    else if b = 0xFD then wide 2 0xFD t else .ok (b.toNat, t) := rfl

/-- compact-size integers: only the minimal form is accepted -/
theorem varint_lawful : Lawful varint encVarint (fun n => n < 2^64) := by
  refine .of_sound (fun bs => ?_) fun v r hv => ?_
  · cases bs with
    | nil => exact .err
    | cons b t =>
      rw [varint_cons]
      -- one marker byte per width; in each wide form the value is above what the shorter forms hold, so `encVarint`
      -- writes it with the same marker
      refine .ite (fun h1 => ?_) fun h1 => ?_
      · subst h1
        refine ((wide_lawful 8 _).sound_at t).imp fun v r ⟨ht, lo, hi⟩ => ⟨?_, hi⟩
        rw [ht, encVarint_u64 lo]
        rfl
      refine .ite (fun h2 => ?_) fun h2 => ?_
      · subst h2
        refine ((wide_lawful 4 _).sound_at t).imp fun v r ⟨ht, lo, hi⟩ => ⟨?_, Nat.lt_trans hi (by decide)⟩
        rw [ht, encVarint_u32 lo hi]
        rfl
      refine .ite (fun h3 => ?_) fun h3 => ?_
      · subst h3
        refine ((wide_lawful 2 _).sound_at t).imp fun v r ⟨ht, lo, hi⟩ => ⟨?_, Nat.lt_trans hi (by decide)⟩
        rw [ht, encVarint_u16 lo hi]
        rfl
      · have hb := b.toNat_lt
        have hle : b.toNat ≤ 0xFC := by
          simp only [← UInt8.toNat_inj, UInt8.toNat_ofNat] at h1 h2 h3
          omega
        refine .ok ⟨?_, by omega⟩
        rw [encVarint_u8 hle, UInt8.ofNat_toNat]
        rfl
  · by_cases h8 : v ≤ 0xFC
    · have hm : (UInt8.ofNat v).toNat = v := by
        rw [UInt8.toNat_ofNat']
        omega
      rw [encVarint_u8 h8, List.singleton_append, varint_cons]
      simp only [← UInt8.toNat_inj, hm, UInt8.toNat_ofNat]
      rw [if_neg (by omega), if_neg (by omega), if_neg (by omega)]
    by_cases h16 : v < 0x10000
    · rw [encVarint_u16 (by omega) h16, List.cons_append, varint_cons, if_neg (by decide),
        if_neg (by decide), if_pos rfl]
      exact (wide_lawful 2 _).complete v r ⟨by omega, by omega⟩
    by_cases h32 : v < 0x100000000
    · rw [encVarint_u32 (by omega) h32, List.cons_append, varint_cons, if_neg (by decide), if_pos rfl]
      exact (wide_lawful 4 _).complete v r ⟨by omega, by omega⟩
    · rw [encVarint_u64 (by omega), List.cons_append, varint_cons, if_pos rfl]
      exact (wide_lawful 8 _).complete v r ⟨by omega, by omega⟩

set_option smartUnfolding false in
theorem bytesVec_eq : bytesVec =
    varint.bind fun n r => if n > maxVecSize then .err "oversized vector" else take n r := rfl

/-- `Vec<u8>` with the allocation guard -/
theorem bytesVec_lawful : Lawful bytesVec encBytesVec (fun b => b.length ≤ maxVecSize) := by
  refine .of_sound (fun bs => ?_) fun v r hv => ?_
  · rw [bytesVec_eq]
    refine varint_lawful.sound_bind fun n r _ hb => .guard fun hn => ?_
    refine ((take_lawful n).sound_at r).imp fun v rest ⟨hr, hl⟩ => ?_
    subst hb hr hl
    exact ⟨(List.append_assoc ..).symm, Nat.le_of_not_gt hn⟩
  · have hlt : v.length < 2 ^ 64 := by
      simp only [maxVecSize] at hv
      omega
    rw [bytesVec_eq, encBytesVec, List.append_assoc, varint_lawful.bind_enc hlt, if_neg (by omega)]
    exact (take_lawful _).complete v r rfl

theorem encBytesVec_length (b : Bytes) : (encBytesVec b).length = varintSize b.length + b.length := by
  simp [encBytesVec, encVarint_length]

set_option smartUnfolding false in
theorem repeatN_succ {α} (d : Dec α) (n : Nat) :
    repeatN d (n + 1) = d.bind fun a => (repeatN d n).map (a :: ·) := rfl

theorem repeatN_sound {α} {d : Dec α} {e : α → Bytes} {wf : α → Prop} (h : Lawful d e wf) :
    ∀ n bs, Sound (fun vs rest => bs = vs.flatMap e ++ rest ∧ vs.length = n ∧ ∀ v ∈ vs, wf v)
      (repeatN d n bs) := by
  intro n
  induction n with
  | zero =>
    intro bs
    exact .ok ⟨rfl, rfl, nofun⟩
  | succ n ih =>
    intro bs
    rw [repeatN_succ]
    refine h.sound_bind fun a r wa hb => (ih r).andThen fun as r' ⟨hr, hl, was⟩ => ?_
    subst hb hr hl
    exact .ok ⟨by simp, rfl, List.forall_mem_cons.mpr ⟨wa, was⟩⟩

theorem repeatN_complete {α} (d : Dec α) (e : α → Bytes) (wf : α → Prop)
    (hc : ∀ v r, wf v → d (e v ++ r) = .ok (v, r)) :
    ∀ vs r, (∀ v ∈ vs, wf v) → repeatN d vs.length (vs.flatMap e ++ r) = .ok (vs, r) := by
  intro vs
  induction vs with
  | nil => exact fun _ _ => rfl
  | cons a as ih =>
    intro r hw
    obtain ⟨wa, was⟩ := List.forall_mem_cons.mp hw
    rw [List.length_cons, List.flatMap_cons, List.append_assoc, repeatN_succ,
      Dec.bind_of_ok (hc a _ wa), Dec.map, Dec.bind_of_ok (ih r was)]
    rfl

/-- for an item decoder that need not accept only canonical input (so not `Lawful`) -/
theorem repeatN_post {α} {d : Dec α} {Q : α → Prop} (h : ∀ bs, Sound (fun v _ => Q v) (d bs)) (n : Nat) :
    ∀ bs, Sound (fun vs _ => vs.length = n ∧ ∀ v ∈ vs, Q v) (repeatN d n bs) := by
  induction n with
  | zero => exact fun _ => .ok ⟨rfl, nofun⟩
  | succ n ih =>
    intro bs
    rw [repeatN_succ]
    refine (h bs).andThen fun a r qa => (ih r).andThen fun as _ ⟨hl, qas⟩ => ?_
    exact .ok ⟨congrArg (· + 1) hl, List.forall_mem_cons.mpr ⟨qa, qas⟩⟩

theorem repeatN_length {α} {d : Dec α} {n : Nat} : ∀ {bs : Bytes} {vs : List α} {rest : Bytes},
    repeatN d n bs = .ok (vs, rest) → vs.length = n := by
  induction n with
  | zero =>
    intro _ _ _ hr
    cases hr
    rfl
  | succ n ih =>
    intro _ _ _ hr
    rw [repeatN_succ] at hr
    obtain ⟨a, r, _, hr⟩ := Dec.bind_ok_iff.mp hr
    obtain ⟨as, r', has, hr⟩ := Dec.bind_ok_iff.mp hr
    cases hr
    exact congrArg (· + 1) (ih has)

set_option smartUnfolding false in
theorem vecOf_eq {α} (memSize : Nat) (d : Dec α) : vecOf memSize d =
    varint.bind fun n r =>
      if n * memSize ≥ 2^64 then .err "invalid length"
      else if n * memSize > maxVecSize then .err "oversized vector"
      else repeatN d n r := rfl

theorem vecOf_sound {α} (memSize : Nat) {d : Dec α} {e : α → Bytes} {wf : α → Prop} (h : Lawful d e wf)
    (bs : Bytes) :
    Sound (fun l rest => bs = encVec e l ++ rest ∧ l.length * memSize ≤ maxVecSize ∧ ∀ v ∈ l, wf v)
      (vecOf memSize d bs) := by
  rw [vecOf_eq]
  refine varint_lawful.sound_bind fun n r _ hb => .guard fun _ => .guard fun h2 => ?_
  refine (repeatN_sound h n r).imp fun l rest ⟨hr, hl, hw⟩ => ?_
  subst hb hr hl
  exact ⟨(List.append_assoc ..).symm, Nat.le_of_not_gt h2, hw⟩

theorem vecOf_complete {α} (memSize : Nat) (hm : 0 < memSize) (d : Dec α) (e : α → Bytes) (wf : α → Prop)
    (hc : ∀ v r, wf v → d (e v ++ r) = .ok (v, r)) (l : List α) (r : Bytes)
    (hl : l.length * memSize ≤ maxVecSize) (hw : ∀ v ∈ l, wf v) :
    vecOf memSize d (encVec e l ++ r) = .ok (l, r) := by
  have hle : l.length ≤ l.length * memSize := Nat.le_mul_of_pos_right _ hm
  have hmax : maxVecSize < 2 ^ 64 := by decide
  rw [vecOf_eq, encVec, List.append_assoc, varint_lawful.bind_enc (by omega), if_neg (by omega),
    if_neg (by omega)]
  exact repeatN_complete d e wf hc l r hw

/-- `Vec<T>`: count guard `len * size_of::<T>() ≤ MAX_VEC_SIZE` (`memSize > 0`) -/
theorem vecOf_lawful {α} (memSize : Nat) (hm : 0 < memSize) (d : Dec α) (e : α → Bytes) (wf : α → Prop)
    (h : Lawful d e wf) :
    Lawful (vecOf memSize d) (encVec e) (fun l => l.length * memSize ≤ maxVecSize ∧ ∀ v ∈ l, wf v) :=
  .of_sound (vecOf_sound memSize h) fun v r hv => vecOf_complete memSize hm d e wf h.complete v r hv.1 hv.2

theorem encVec_congr {α} (e : α → Bytes) (l₁ l₂ : List α) (h : l₁.map e = l₂.map e) :
    encVec e l₁ = encVec e l₂ := by
  have hl : l₁.length = l₂.length := by simpa using congrArg List.length h
  unfold encVec
  rw [List.flatMap_def, List.flatMap_def, h, hl]

/-- `Vec<Vec<u8>>` -/
theorem bytesVecVec_lawful :
    Lawful bytesVecVec encBytesVecVec
      (fun l => l.length * 24 ≤ maxVecSize ∧ ∀ b ∈ l, b.length ≤ maxVecSize) :=
  vecOf_lawful 24 (by decide) bytesVec encBytesVec _ bytesVec_lawful

theorem enc_prefix_free {α} {d : Dec α} {e : α → Bytes} {wf : α → Prop}
    (h : Lawful d e wf) (a b : α) (r₁ r₂ : Bytes) (ha : wf a) (hb : wf b)
    (heq : e a ++ r₁ = e b ++ r₂) : a = b ∧ r₁ = r₂ := by
  have h1 := h.complete a r₁ ha
  rw [heq, h.complete b r₂ hb] at h1
  cases h1
  exact ⟨rfl, rfl⟩

/-- what every id that hashes an encoding rests on (txid, block hash, the outpoint in an issuance entropy, the sighash
    fields) -/
theorem enc_injective_of_complete {α} {d : Dec α} {e : α → Bytes} {wf : α → Prop}
    (h : Lawful d e wf) (a b : α) (ha : wf a) (hb : wf b) (heq : e a = e b) : a = b :=
  (enc_prefix_free h a b [] [] ha hb (by rw [heq])).1

/-- With an injective encoder, the step behind every "the id commits to the data" statement.  Each place that states
    one has a `Collision f` of its own, all with the body `∃ x y, x ≠ y ∧ f x = f y`; it is written out here so that
    `(eq_or_collision h).imp_left inj` proves `… ∨ Collision f` for any of them, by unfolding. -/
theorem eq_or_collision {f : Bytes → Bytes} {x y : Bytes} (h : f x = f y) : x = y ∨ ∃ x y, x ≠ y ∧ f x = f y :=
  if he : x = y then .inl he else .inr ⟨x, y, he, h⟩

end EV.Proofs.CodecPrim
