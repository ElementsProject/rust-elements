/-
  EV.Proofs.Polymod — algebra of the polymod engine for a code with variable constants: XOR-linearity
  (`polymod_linear`), range of the residue, an explicit left inverse of the zero-input step (`Tinv`, hence
  injectivity). Last, the conditions on the constants (`Good`, `LowBij`) for the two codes, and what is needed of
  the two decoders built on them (`FlavorFacts`).
-/
import EV.Model.Bech32
import EV.Proofs.NatBits
namespace EV.Bech32

theorem sel_xor (gs : List Nat) (i t u : Nat) : sel gs i (t ^^^ u) = sel gs i t ^^^ sel gs i u := by
  induction gs generalizing i with
  | nil => simp [sel]
  | cons g gs ih =>
    have hg : ∀ p q : Bool,
        (if (p ^^ q) = true then g else 0) = (if p = true then g else 0) ^^^ (if q = true then g else 0) := by
      intro p q
      cases p <;> cases q <;> simp
    simp only [sel, ih, Nat.testBit_xor, hg]
    ac_rfl

theorem sel_zero (gs : List Nat) (i : Nat) : sel gs i 0 = 0 := by
  induction gs generalizing i with
  | nil => rfl
  | cons g gs ih => simp [sel, ih]

theorem sel_lt (gs : List Nat) (i t n : Nat) (h : ∀ g ∈ gs, g < 2 ^ n) : sel gs i t < 2 ^ n := by
  induction gs generalizing i with
  | nil => exact Nat.two_pow_pos n
  | cons g gs ih =>
    obtain ⟨hg, h⟩ := List.forall_mem_cons.mp h
    simp only [sel]
    apply Nat.xor_lt_two_pow
    · split
      · exact hg
      · exact Nat.two_pow_pos n
    · exact ih _ h

theorem sel_mod (gs : List Nat) (i t k : Nat) (hk : i + gs.length ≤ k) : sel gs i (t % 2 ^ k) = sel gs i t := by
  induction gs generalizing i with
  | nil => rfl
  | cons g gs ih =>
    simp only [List.length_cons] at hk
    simp only [sel]
    rw [ih (i + 1) (by omega), Nat.testBit_mod_two_pow]
    have : i < k := by omega
    simp [this]

namespace Code

theorem xor_eq_zero (a b : Nat) : a ^^^ b = 0 ↔ a = b := by
  constructor
  · intro h
    have : a ^^^ (a ^^^ b) = b := by rw [← Nat.xor_assoc, Nat.xor_self, Nat.zero_xor]
    rw [h, Nat.xor_zero] at this
    exact this
  · rintro rfl
    exact Nat.xor_self a

theorem shl5_or (x e : Nat) (he : e < 32) : x <<< 5 ||| e = x <<< 5 ^^^ e := by
  -- `e` lies in the five bits below `x <<< 5`: both sides are `2 ^ 5 * x + e`
  have h := NatBits.split_xor 5 x 0 0 e (Nat.two_pow_pos 5) he
  rw [Nat.add_zero, Nat.mul_zero, Nat.zero_add, Nat.xor_zero, Nat.zero_xor] at h
  rw [← Nat.shiftLeft_add_eq_or_of_lt he, Nat.shiftLeft_eq, Nat.mul_comm, h]

theorem top_xor (c : Code) (a b : Nat) : c.top (a ^^^ b) = c.top a ^^^ c.top b := by
  simp only [top, Nat.shiftRight_xor_distrib]
  exact Nat.xor_mod_two_pow (n := 5)

theorem top_lt (c : Code) (r : Nat) : c.top r < 32 := Nat.mod_lt _ (by decide)

theorem step_linear (c : Code) (a b e f : Nat) (he : e < 32) (hf : f < 32) :
    c.step (a ^^^ b) (e ^^^ f) = c.step a e ^^^ c.step b f := by
  -- a symbol is `^^^`-ed in as well as `|||`-ed in; every other operation of a step distributes over `^^^`
  simp only [step, shl5_or _ _ he, shl5_or _ _ hf, shl5_or _ _ (Nat.xor_lt_two_pow (n := 5) he hf)]
  simp only [top_xor, sel_xor, Nat.xor_mod_two_pow, Nat.shiftLeft_xor_distrib]
  ac_rfl

theorem step_zero_sym (c : Code) (e : Nat) : c.step 0 e = e := by
  simp [step, top, sel_zero]

/-- the conditions on the constants of a code under which the algebra below works -/
structure Good (c : Code) : Prop where
  len_pos : 1 ≤ c.len
  gens_lt : ∀ g ∈ c.gens, g < 2 ^ (5 * c.len)

theorem Good.pow_len {c : Code} (hc : c.Good) : 2 ^ (5 * c.len) = 2 ^ (5 * (c.len - 1)) * 32 := by
  conv =>
    lhs
    rw [← Nat.sub_add_cancel hc.len_pos, Nat.mul_succ, Nat.pow_add]

theorem Good.sym_lt {c : Code} (hc : c.Good) {x : Nat} (hx : x < 32) : x < 2 ^ (5 * c.len) :=
  hc.pow_len ▸ Nat.lt_of_lt_of_le hx (Nat.le_mul_of_pos_left 32 (Nat.two_pow_pos _))

theorem step_lt (c : Code) (hc : c.Good) (r e : Nat) (he : e < 32) : c.step r e < 2 ^ (5 * c.len) := by
  simp only [step]
  apply Nat.xor_lt_two_pow
  · apply Nat.or_lt_two_pow
    · rw [Nat.shiftLeft_eq, hc.pow_len]
      exact Nat.mul_lt_mul_of_pos_right (Nat.mod_lt _ (Nat.two_pow_pos _)) (by decide)
    · exact hc.sym_lt he
  · exact sel_lt _ _ _ _ hc.gens_lt

theorem polymodFrom_lt (c : Code) (hc : c.Good) (s : Nat) (hs : s < 2 ^ (5 * c.len)) (w : List Nat)
    (hw : ∀ x ∈ w, x < 32) : c.polymodFrom s w < 2 ^ (5 * c.len) := by
  induction w generalizing s with
  | nil => simpa [polymodFrom] using hs
  | cons x w ih =>
    obtain ⟨hx, hw⟩ := List.forall_mem_cons.mp hw
    exact ih _ (step_lt c hc s x hx) hw

theorem polymodFrom_nil (c : Code) (s : Nat) : c.polymodFrom s [] = s := rfl

theorem polymodFrom_cons (c : Code) (s x : Nat) (w : List Nat) :
    c.polymodFrom s (x :: w) = c.polymodFrom (c.step s x) w := rfl

theorem polymodFrom_append (c : Code) (s : Nat) (u w : List Nat) :
    c.polymodFrom s (u ++ w) = c.polymodFrom (c.polymodFrom s u) w := by
  simp [polymodFrom, List.foldl_append]

/-- symbol-wise XOR of two strings (cut to the shorter): the error pattern between them -/
def xorList : List Nat → List Nat → List Nat
  | a :: as, b :: bs => (a ^^^ b) :: xorList as bs
  | _, _ => []

theorem xorList_length (a b : List Nat) (h : a.length = b.length) : (xorList a b).length = a.length := by
  induction a generalizing b with
  | nil => simp [xorList]
  | cons x a ih =>
    cases b with
    | nil => simp at h
    | cons y b => simp only [xorList, List.length_cons]; rw [ih b (by simpa using h)]

theorem xorList_lt (a b : List Nat) (ha : ∀ x ∈ a, x < 32) (hb : ∀ x ∈ b, x < 32) :
    ∀ x ∈ xorList a b, x < 32 := by
  induction a generalizing b with
  | nil => simp [xorList]
  | cons x a ih =>
    cases b with
    | nil => simp [xorList]
    | cons y b =>
      obtain ⟨hx, ha⟩ := List.forall_mem_cons.mp ha
      obtain ⟨hy, hb⟩ := List.forall_mem_cons.mp hb
      exact List.forall_mem_cons.mpr ⟨Nat.xor_lt_two_pow (n := 5) hx hy, ih b ha hb⟩

theorem polymod_linear (c : Code) (s s' : Nat) (w d : List Nat) (hlen : w.length = d.length)
    (hw : ∀ x ∈ w, x < 32) (hd : ∀ x ∈ d, x < 32) :
    c.polymodFrom (s ^^^ s') (xorList w d) = c.polymodFrom s w ^^^ c.polymodFrom s' d := by
  induction w generalizing s s' d with
  | nil =>
    cases d with
    | nil => rfl
    | cons y d => simp at hlen
  | cons x w ih =>
    cases d with
    | nil => simp at hlen
    | cons y d =>
      obtain ⟨hx, hw⟩ := List.forall_mem_cons.mp hw
      obtain ⟨hy, hd⟩ := List.forall_mem_cons.mp hd
      simp only [xorList, polymodFrom_cons]
      rw [step_linear c s s' x y hx hy]
      exact ih _ _ d (by simpa using hlen) hw hd

/-- multiplication by `x` modulo the generator: one step with input symbol 0 -/
def T (c : Code) (r : Nat) : Nat := c.step r 0

def Tpow (c : Code) : Nat → Nat → Nat
  | 0, s => s
  | d + 1, s => c.T (Tpow c d s)

theorem Tpow_add (c : Code) (a b s : Nat) : c.Tpow (a + b) s = c.Tpow a (c.Tpow b s) := by
  induction a with
  | zero => simp [Tpow]
  | succ a ih => rw [Nat.add_right_comm]; simp only [Tpow, ih]

theorem Tpow_succ' (c : Code) (d s : Nat) : c.Tpow (d + 1) s = c.Tpow d (c.T s) := Tpow_add c d 1 s

theorem T_xor (c : Code) (a b : Nat) : c.T (a ^^^ b) = c.T a ^^^ c.T b := by
  have := step_linear c a b 0 0 (by decide) (by decide)
  simpa [T] using this

theorem T_zero (c : Code) : c.T 0 = 0 := step_zero_sym c 0

theorem Tpow_xor (c : Code) (d a b : Nat) : c.Tpow d (a ^^^ b) = c.Tpow d a ^^^ c.Tpow d b := by
  induction d with
  | zero => rfl
  | succ d ih => simp only [Tpow, ih, T_xor]

theorem Tpow_zero (c : Code) (d : Nat) : c.Tpow d 0 = 0 := by
  induction d with
  | zero => rfl
  | succ d ih => simp only [Tpow, ih, T_zero]

theorem step_eq_T_xor (c : Code) (r e : Nat) (he : e < 32) : c.step r e = c.T r ^^^ e := by
  have := step_linear c r 0 0 e (by decide) he
  simpa [T, step_zero_sym] using this

theorem T_lt (c : Code) (hc : c.Good) (r : Nat) : c.T r < 2 ^ (5 * c.len) := step_lt c hc r 0 (by decide)

theorem Tpow_lt (c : Code) (hc : c.Good) (d r : Nat) (hr : r < 2 ^ (5 * c.len)) : c.Tpow d r < 2 ^ (5 * c.len) := by
  cases d with
  | zero => exact hr
  | succ d => exact T_lt c hc _

theorem polymodFrom_zeros (c : Code) (s n : Nat) : c.polymodFrom s (List.replicate n 0) = c.Tpow n s := by
  induction n generalizing s with
  | zero => rfl
  | succ n ih => rw [List.replicate_succ, polymodFrom_cons, ih, Tpow_succ']; rfl

/-- low five bits of what a top symbol `t` XORs in: those of `T r` for `t = top r`, the other part of `T r`
    being a multiple of 32 -/
def lowMap (c : Code) (t : Nat) : Nat := sel c.gens 0 t % 32

/-- linear search, downwards from the bound, for a `t` with `lowMap t = y` (`0` if there is none) -/
def invLowAux (c : Code) (y : Nat) : Nat → Nat
  | 0 => 0
  | t + 1 => if c.lowMap t = y then t else invLowAux c y t

def invLow (c : Code) (y : Nat) : Nat := invLowAux c y 32

/-- left inverse of `T` on residues below `2^(5·len)`: the low five bits of `s = T r` give `t = top r` back
    (`invLow`, under `LowBij`); XORing the generators `t` selects off `s` leaves `(r % 2^(5(len-1))) <<< 5`,
    which is shifted down again, and `t` is put back on top -/
def Tinv (c : Code) (s : Nat) : Nat :=
  let t := c.invLow (s % 32)
  ((s ^^^ sel c.gens 0 t) >>> 5) + t * 2 ^ (5 * (c.len - 1))

/-- the low-5-bit map of the generator table is a bijection of `0..31` -/
def LowBij (c : Code) : Prop := ∀ t, t < 32 → c.invLow (c.lowMap t) = t

instance (c : Code) : Decidable c.LowBij := by unfold LowBij; exact Nat.decidableBallLT _ _

theorem T_mod32 (c : Code) (r : Nat) : c.T r % 32 = c.lowMap (c.top r) := by
  have h32 : (32 : Nat) = 2 ^ 5 := rfl
  simp only [T, step, lowMap, Nat.or_zero]
  rw [h32, Nat.xor_mod_two_pow]
  have : (r % 2 ^ (5 * (c.len - 1))) <<< 5 % 2 ^ 5 = 0 := by
    rw [Nat.shiftLeft_eq]
    exact Nat.mul_mod_left _ _
  rw [this, Nat.zero_xor]

theorem Tinv_T (c : Code) (hc : c.Good) (hb : c.LowBij) (r : Nat) (hr : r < 2 ^ (5 * c.len)) :
    c.Tinv (c.T r) = r := by
  have htop : c.invLow (c.T r % 32) = c.top r := by
    rw [T_mod32]
    exact hb _ (top_lt c r)
  simp only [Tinv, htop]
  have hx : c.T r ^^^ sel c.gens 0 (c.top r) = (r % 2 ^ (5 * (c.len - 1))) <<< 5 := by
    simp only [T, step, Nat.or_zero]
    rw [Nat.xor_assoc, Nat.xor_self, Nat.xor_zero]
  rw [hx, Nat.shiftLeft_eq, Nat.shiftRight_eq_div_pow, Nat.mul_div_cancel _ (by decide : 0 < 2 ^ 5)]
  have hdiv : r / 2 ^ (5 * (c.len - 1)) < 32 := by
    apply Nat.div_lt_of_lt_mul
    rw [← hc.pow_len]
    exact hr
  have htopv : c.top r = r / 2 ^ (5 * (c.len - 1)) := by
    simp only [top, Nat.shiftRight_eq_div_pow]
    exact Nat.mod_eq_of_lt hdiv
  rw [htopv, Nat.mul_comm (r / _)]
  exact Nat.mod_add_div r _

theorem step_injective (c : Code) (hc : c.Good) (hb : c.LowBij) (e a b : Nat) (he : e < 32)
    (ha : a < 2 ^ (5 * c.len)) (hb' : b < 2 ^ (5 * c.len)) (h : c.step a e = c.step b e) : a = b := by
  rw [step_eq_T_xor c a e he, step_eq_T_xor c b e he] at h
  have h2 : c.T a = c.T b := by
    have := congrArg (· ^^^ e) h
    simpa [Nat.xor_assoc] using this
  rw [← Tinv_T c hc hb a ha, ← Tinv_T c hc hb b hb', h2]

theorem polymodFrom_injective (c : Code) (hc : c.Good) (hb : c.LowBij) (w : List Nat) (hw : ∀ x ∈ w, x < 32)
    (a b : Nat) (ha : a < 2 ^ (5 * c.len)) (hb' : b < 2 ^ (5 * c.len))
    (h : c.polymodFrom a w = c.polymodFrom b w) : a = b := by
  induction w generalizing a b with
  | nil => exact h
  | cons x w ih =>
    obtain ⟨hx, hw⟩ := List.forall_mem_cons.mp hw
    exact step_injective c hc hb x a b hx ha hb' (ih hw _ _ (step_lt c hc a x hx) (step_lt c hc b x hx) h)

theorem prefix_change_detected (c : Code) (hc : c.Good) (hb : c.LowBij) (pre pre' syms : List Nat)
    (hp : ∀ x ∈ pre, x < 32) (hp' : ∀ x ∈ pre', x < 32) (hs : ∀ x ∈ syms, x < 32)
    (hne : c.polymod pre ≠ c.polymod pre') :
    c.polymod (pre ++ syms) ≠ c.polymod (pre' ++ syms) := by
  have h1lt : 1 < 2 ^ (5 * c.len) := hc.sym_lt (by decide)
  simp only [polymod, polymodFrom_append]
  exact fun h => hne (polymodFrom_injective c hc hb syms hs _ _
    (polymodFrom_lt c hc 1 h1lt pre hp) (polymodFrom_lt c hc 1 h1lt pre' hp') h)

def TinvPow (c : Code) : Nat → Nat → Nat
  | 0, s => s
  | k + 1, s => c.Tinv (TinvPow c k s)

theorem eq_TinvPow_of_Tpow (c : Code) (hc : c.Good) (hb : c.LowBij) (k y z : Nat) (hy : y < 2 ^ (5 * c.len))
    (h : c.Tpow k y = z) : y = c.TinvPow k z := by
  induction k generalizing y with
  | zero => exact h
  | succ k ih =>
    rw [Tpow_succ'] at h
    rw [← Tinv_T c hc hb y hy, ih (c.T y) (T_lt c hc y) h]
    rfl

theorem Tpow_injective (c : Code) (hc : c.Good) (hb : c.LowBij) (k a b : Nat)
    (ha : a < 2 ^ (5 * c.len)) (hb' : b < 2 ^ (5 * c.len)) (h : c.Tpow k a = c.Tpow k b) : a = b :=
  (eq_TinvPow_of_Tpow c hc hb k a _ ha h).trans (eq_TinvPow_of_Tpow c hc hb k b _ hb' rfl).symm

theorem Tpow_ne_zero (c : Code) (hc : c.Good) (hb : c.LowBij) (d r : Nat) (hr : r < 2 ^ (5 * c.len)) (h0 : r ≠ 0) :
    c.Tpow d r ≠ 0 :=
  fun h => h0 (Tpow_injective c hc hb d r 0 hr (Nat.two_pow_pos _) (h.trans (Tpow_zero c d).symm))

end Code
open Code

/-! ### the two codes and the two decoders

bech32: reference constants of the `bech32` crate; blech32: constants of
/repo/src/blech32/mod.rs. -/

theorem bech32Code_good : bech32Code.Good := ⟨by decide, by decide⟩

theorem blech32Code_good : blech32.code.Good := ⟨by decide, by decide⟩

theorem bech32Code_lowBij : bech32Code.LowBij := by decide +kernel

theorem blech32Code_lowBij : blech32.code.LowBij := by decide +kernel

theorem blech32m_code_eq : blech32m.code = blech32.code := by decide

/-- the two decoders (crate: bech32/bech32m; repo: blech32/blech32m) -/
def IsFlavor (f : Flavor) : Prop := f = crateFlavor ∨ f = blechFlavor

/-- bound (in symbols, hrp expansion included) up to which a bech32 ↔ bech32m switch is excluded -/
def bech32SwitchBound : Nat := 100

def blech32SwitchBound : Nat := 140

/-- the bound that belongs to the code of `f`; the crate's decoder is told from the repo's by its checksum
    length (6 symbols against 12) -/
def Flavor.switchBound (f : Flavor) : Nat := if f.v0.code.len = 6 then bech32SwitchBound else blech32SwitchBound

theorem switchBound_crate : crateFlavor.switchBound = 100 := by decide

theorem switchBound_blech : blechFlavor.switchBound = 140 := by decide

/-- what the proofs use of a decoder apart from its being one of the two; 1023 is the same-variant bound -/
structure FlavorFacts (f : Flavor) : Prop where
  code_eq : f.vm.code = f.v0.code
  good : f.v0.code.Good
  lowBij : f.v0.code.LowBij
  target_ne : f.v0.target ≠ f.vm.target
  v0_target_lt : f.v0.target < 2 ^ (5 * f.v0.code.len)
  vm_target_lt : f.vm.target < 2 ^ (5 * f.vm.code.len)
  bound_pos : 1 ≤ f.switchBound
  bound_le : f.switchBound ≤ 1023

theorem flavorFacts (f : Flavor) (hf : IsFlavor f) : FlavorFacts f := by
  rcases hf with rfl | rfl
  · exact ⟨rfl, bech32Code_good, bech32Code_lowBij, by decide, by decide, by decide, by decide, by decide⟩
  · exact ⟨blech32m_code_eq, blech32Code_good, blech32Code_lowBij, by decide, by decide, by decide, by decide, by decide⟩

theorem variant_code (f : Flavor) (hf : IsFlavor f) (ver : Nat) : (f.variant ver).code = f.v0.code := by
  unfold Flavor.variant
  split
  · rfl
  · exact (flavorFacts f hf).code_eq

theorem variant_target_cases (f : Flavor) (ver ver' : Nat) :
    (f.variant ver).target = (f.variant ver').target ∨
      (f.variant ver).target ^^^ (f.variant ver').target = f.v0.target ^^^ f.vm.target := by
  unfold Flavor.variant
  split
  · split
    · exact .inl rfl
    · exact .inr rfl
  · split
    · exact .inr (Nat.xor_comm _ _)
    · exact .inl rfl

end EV.Bech32
