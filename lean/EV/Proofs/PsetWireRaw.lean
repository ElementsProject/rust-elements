/-
  The raw PSET key-value framing (EV.Model.PsetWire: `decKey`, `decPairs`, `decMapRaw`) is a lawful codec: it
  accepts exactly the canonical encodings (the compact sizes must be minimal), is prefix-free and never panics.
-/
import EV.Model.PsetWire
import EV.Proofs.CodecPrim
namespace EV.Proofs.PsetWireRaw
open EV EV.Codec EV.PsetWire EV.Proofs.CodecPrim

/-- the sizes the decoder enforces (`MAX_VEC_SIZE` on key data and value) -/
def PairOk (p : Pair) : Prop := p.1.key.length ≤ maxVecSize ∧ p.2.length ≤ maxVecSize

/-- a key, or the terminator of a map -/
def encKeyO : Option RawKey → Bytes
  | none => [0]
  | some k => encKey k

def KeyOk (o : Option RawKey) : Prop := ∀ k, o = some k → k.key.length ≤ maxVecSize

set_option smartUnfolding false in
theorem decKey_eq : decKey = varint.bind fun n r =>
    if n = 0 then .ok (none, r)
    else if n - 1 > maxVecSize then .err "oversized vector"
    else match r with
      | [] => .err "eof"
      | t :: r' => (take (n - 1)).map (fun k => some ⟨t, k⟩) r' := rfl

theorem decKey_lawful : Lawful decKey encKeyO KeyOk := by
  refine .of_sound (fun bs => ?_) fun o r ho => ?_
  · rw [decKey_eq]
    refine varint_lawful.sound_bind fun n r _ hb => .ite (fun h0 => ?_) fun h0 => .guard fun hm => ?_
    · subst h0
      exact .ok ⟨hb, nofun⟩
    cases r with
    | nil => exact .err
    | cons t r' =>
      refine Sound.bind (((take_lawful _).sound_at r').imp fun k r'' ⟨hr, hl⟩ => .ok ⟨?_, fun _ e => ?_⟩)
      · rw [hb, hr, encKeyO, encKey, hl, Nat.sub_add_cancel (Nat.pos_of_ne_zero h0)]
        simp only [List.append_assoc, List.cons_append]
      · cases e
        exact hl ▸ Nat.le_of_not_gt hm
  · cases o with
    | none =>
      rw [decKey_eq]
      exact varint_lawful.bind_enc (a := 0) (by decide) _ r
    | some k =>
      have hk := ho k rfl
      have hlt : k.key.length + 1 < 2 ^ 64 := Nat.lt_of_le_of_lt (Nat.succ_le_succ hk) (by decide)
      rw [decKey_eq, encKeyO, encKey, List.append_assoc, varint_lawful.bind_enc hlt, if_neg (Nat.succ_ne_zero _),
        Nat.add_sub_cancel, if_neg (Nat.not_lt.mpr hk), List.cons_append]
      exact Dec.bind_of_ok ((take_lawful _).complete k.key r rfl) _

theorem decKey_encKey (k : RawKey) (r : Bytes) (h : k.key.length ≤ maxVecSize) : decKey (encKey k ++ r) = .ok (some k, r) :=
  decKey_lawful.complete (some k) r fun _ e => Option.some.inj e ▸ h

theorem decKey_zero (r : Bytes) : decKey (0 :: r) = .ok (none, r) := decKey_lawful.complete none r nofun

theorem encPairs_cons (p : Pair) (ps : List Pair) : encPairs (p :: ps) = encKey p.1 ++ (encBytesVec p.2 ++ encPairs ps) := by
  simp only [encPairs, List.flatMap_cons, encPair, List.append_assoc]

theorem encPairs_nil : encPairs [] = [0] := rfl

set_option smartUnfolding false in
theorem decPairs_succ (fuel : Nat) : decPairs (fuel + 1) = decKey.bind fun o =>
    match o with
    | none => Dec.pure []
    | some k => bytesVec.bind fun v => (decPairs fuel).map ((k, v) :: ·) := by
  funext bs
  rw [decPairs, Dec.bind]
  rcases decKey bs with ⟨_ | k, r⟩ | e | s <;> rfl

theorem decPairs_sound : ∀ (fuel : Nat) (bs : Bytes),
    Sound (fun ps r => bs = encPairs ps ++ r ∧ ∀ p ∈ ps, PairOk p) (decPairs fuel bs)
  | 0, _ => .err
  | f + 1, bs => by
    rw [decPairs_succ]
    refine decKey_lawful.sound_bind fun o r1 ho hb => ?_
    cases o with
    | none => exact .ok ⟨hb, nofun⟩
    | some k =>
      refine bytesVec_lawful.sound_bind fun v r2 hv hb2 => Sound.bind ((decPairs_sound f r2).imp fun ps r3 ⟨hb3, hps⟩ => ?_)
      have e : bs = encPairs ((k, v) :: ps) ++ r3 := by
        rw [hb, hb2, hb3, encPairs_cons, encKeyO]
        simp only [List.append_assoc]
      exact .ok ⟨e, List.forall_mem_cons.mpr ⟨⟨ho k rfl, hv⟩, hps⟩⟩

theorem decPairs_complete (r : Bytes) : ∀ (ps : List Pair), (∀ p ∈ ps, PairOk p) →
    ∀ fuel, ps.length < fuel → decPairs fuel (encPairs ps ++ r) = .ok (ps, r)
  | _, _, 0, hf => nomatch hf
  | [], _, f + 1, _ => by
    rw [decPairs_succ]
    exact decKey_lawful.bind_enc (a := none) nofun _ r
  | p :: ps, hok, f + 1, hf => by
    obtain ⟨hp, hps⟩ := List.forall_mem_cons.mp hok
    rw [decPairs_succ, encPairs_cons, List.append_assoc, List.append_assoc]
    refine (decKey_lawful.bind_enc (a := some p.1) (fun _ e => Option.some.inj e ▸ hp.1) _ _).trans ?_
    refine (bytesVec_lawful.bind_enc hp.2 _ _).trans ?_
    exact Dec.bind_of_ok (decPairs_complete r ps hps f (Nat.lt_of_succ_lt_succ hf)) _

/-- a pair takes at least one byte, so the fuel `decMapRaw` passes is enough -/
theorem encPairs_length (ps : List Pair) (r : Bytes) : ps.length < (encPairs ps ++ r).length + 1 := by
  induction ps with
  | nil => exact Nat.succ_pos _
  | cons p ps ih =>
    rw [encPairs_cons, encKey]
    simp only [List.length_append, List.length_cons] at ih ⊢
    omega

theorem decMapRaw_lawful : Lawful decMapRaw encPairs (fun ps => ∀ p ∈ ps, PairOk p) :=
  .of_sound (fun bs => decPairs_sound _ bs) fun ps r hok => decPairs_complete r ps hok _ (encPairs_length ps r)

theorem decPropKey_enc (pfx : Bytes) (sub : UInt8) (k : Bytes) (h : pfx.length ≤ maxVecSize) :
    decPropKey (encPropKey pfx sub k) = some (pfx, sub, k) := by
  simp only [decPropKey, encPropKey, bytesVec_lawful.complete pfx (sub :: k) h]

theorem decPropKey_sound (b pfx : Bytes) (sub : UInt8) (k : Bytes) (h : decPropKey b = some (pfx, sub, k)) :
    b = encPropKey pfx sub k ∧ pfx.length ≤ maxVecSize := by
  unfold decPropKey at h
  split at h
  next p s k' hv =>
    cases h
    exact bytesVec_lawful.sound _ _ _ hv
  next => cases h

end EV.Proofs.PsetWireRaw
