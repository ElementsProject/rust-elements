/-
  `fromScript` (Address::from_script, payload level) against the template patterns, and
  `scriptPubkey` (Address::script_pubkey) of standard payloads.
-/
import EV.Proofs.ScriptTemplates
import EV.Proofs.ScriptBuilder
namespace EV.Proofs.ScriptAddress
open EV EV.Script EV.Gen EV.Proofs.ScriptTemplates EV.Proofs.ScriptIter EV.Proofs.ScriptBuilder

theorem pushnum_toNat : opPushnum1.toNat = 0x51 ∧ opPushnum16.toNat = 0x60 := by decide

theorem versionOpcode_toNat {v : Nat} (h : v < 32) : (versionOpcode v).toNat = if v = 0 then 0 else 0x50 + v := by
  unfold versionOpcode
  split
  · rfl
  · rw [pushnum_toNat.1, UInt8.toNat_ofNat']
    omega

theorem versionOpcode_of_byte (v : UInt8) (h1 : opPushnum1 ≤ v) (h16 : v ≤ opPushnum16) :
    1 ≤ v.toNat - 0x50 ∧ v.toNat - 0x50 ≤ 16 ∧ versionOpcode (v.toNat - 0x50) = v := by
  have a := UInt8.le_iff_toNat_le.mp h1
  have b := UInt8.le_iff_toNat_le.mp h16
  rw [pushnum_toNat.1] at a
  rw [pushnum_toNat.2] at b
  refine ⟨by omega, by omega, UInt8.toNat_inj.mp ?_⟩
  rw [versionOpcode_toNat (by omega), if_neg (by omega)]
  omega

theorem versionOpcode_byte {v : Nat} (h1 : 1 ≤ v) (h16 : v ≤ 16) :
    opPushnum1 ≤ versionOpcode v ∧ versionOpcode v ≤ opPushnum16 := by
  have hv : (versionOpcode v).toNat = 0x50 + v := by rw [versionOpcode_toNat (by omega), if_neg (by omega)]
  simp only [UInt8.le_iff_toNat_le, pushnum_toNat, hv]
  omega

theorem standard_typed {p : Payload} (h : p.standard) : p.typed := by
  cases p with
  | pubkeyHash _ => exact h
  | scriptHash _ => exact h
  | witnessProgram v _ =>
    have : v ≤ 16 := by rcases h with ⟨rfl, _⟩ | ⟨_, h, _⟩ <;> omega
    exact Nat.lt_of_le_of_lt this (by decide)

theorem witnessScript_inj {v v' : UInt8} {p p' : Bytes} (h : witnessScript v p = witnessScript v' p') :
    v = v' ∧ p = p' := by
  simp only [witnessScript, List.cons_append, List.nil_append, List.cons.injEq] at h
  exact ⟨h.1, h.2.2⟩

/-- the first byte separates the kinds and the versions, the rest is the hash or the program -/
theorem pattern_injective {p q : Payload} (hp : p.typed) (hq : q.typed) (e : p.pattern = q.pattern) : p = q := by
  have ver : ∀ v, v < 32 → ∀ c : UInt8, 0x70 ≤ c.toNat → versionOpcode v ≠ c := fun v hv c hc ec => by
    rw [← ec, versionOpcode_toNat hv] at hc
    split at hc <;> omega
  have e0 : at' p.pattern 0 = at' q.pattern 0 := congrArg (at' · 0) e
  cases p with
  | pubkeyHash h =>
    cases q with
    | pubkeyHash h' =>
      simp [Payload.pattern, p2pkhScript] at e
      rw [e]
    | scriptHash _ => exact absurd (show opDup = opHash160 from e0) (by decide)
    | witnessProgram v _ => exact absurd e0.symm (ver v hq opDup (by decide))
  | scriptHash h =>
    cases q with
    | pubkeyHash _ => exact absurd (show opHash160 = opDup from e0) (by decide)
    | scriptHash h' =>
      simp [Payload.pattern, p2shScript] at e
      rw [e]
    | witnessProgram v _ => exact absurd e0.symm (ver v hq opHash160 (by decide))
  | witnessProgram v prog =>
    cases q with
    | pubkeyHash _ => exact absurd e0 (ver v hp opDup (by decide))
    | scriptHash _ => exact absurd e0 (ver v hp opHash160 (by decide))
    | witnessProgram v' prog' =>
      obtain ⟨h0, ep⟩ := witnessScript_inj e
      have hv := congrArg UInt8.toNat h0
      rw [versionOpcode_toNat hp, versionOpcode_toNat hq] at hv
      have : v = v' := by split at hv <;> split at hv <;> omega
      rw [this, ep]

theorem p2pkhScript_hash {h : Bytes} (hl : h.length = 20) : ((p2pkhScript h).drop 3).take 20 = h :=
  List.take_left' (l₂ := [opEqualverify, opChecksig]) hl

theorem p2shScript_hash {h : Bytes} (hl : h.length = 20) : ((p2shScript h).drop 2).take 20 = h :=
  List.take_left' (l₂ := [opEqual]) hl

theorem witnessScript_prog (v : UInt8) {prog : Bytes} {n : Nat} (hl : prog.length = n) :
    ((witnessScript v prog).drop 2).take n = prog :=
  hl ▸ List.take_length

theorem fromScript_some {s : Bytes} {p : Payload} (h : fromScript s = some p) :
    p.standard ∧ s = p.pattern := by
  simp only [fromScript, ite_some_eq_some, reduceCtorEq, and_false, or_false] at h
  rcases h with ⟨c, rfl⟩ | ⟨-, ⟨c, rfl⟩ | ⟨-, ⟨c, rfl⟩ | ⟨-, ⟨c, rfl⟩ | ⟨-, c, rfl⟩⟩⟩⟩
  · obtain ⟨hh, hl, rfl⟩ := (isP2pkh_iff s).mp c
    rw [p2pkhScript_hash hl]
    exact ⟨hl, rfl⟩
  · obtain ⟨hh, hl, rfl⟩ := (isP2sh_iff s).mp c
    rw [p2shScript_hash hl]
    exact ⟨hl, rfl⟩
  · obtain ⟨prog, hl, rfl⟩ := (isV0P2wpkh_iff s).mp c
    rw [witnessScript_prog _ hl]
    exact ⟨Or.inl ⟨rfl, Or.inl hl⟩, rfl⟩
  · obtain ⟨prog, hl, rfl⟩ := (isV0P2wsh_iff s).mp c
    rw [witnessScript_prog _ hl]
    exact ⟨Or.inl ⟨rfl, Or.inr hl⟩, rfl⟩
  · obtain ⟨v, prog, ⟨hv1, hv16⟩, hl2, hl40, rfl⟩ := (isV1plusP2witprog_iff s).mp c
    obtain ⟨_, f2, _, f4⟩ := witnessScript_facts v prog (by omega)
    obtain ⟨g1, g2, g3⟩ := versionOpcode_of_byte v hv1 hv16
    rw [f2, f4]
    exact ⟨Or.inr ⟨g1, g2, hl2, hl40⟩, by rw [Payload.pattern, g3]⟩

theorem ite_some_eq_none {α} {c : Prop} [Decidable c] {x : α} {e : Option α} :
    (if c then some x else e) = none ↔ ¬ c ∧ e = none := by
  by_cases h : c
  · simp [h]
  · simp [h]

theorem fromScript_eq_none_iff (s : Bytes) : fromScript s = none ↔ isP2pkh s = false ∧ isP2sh s = false ∧
    isV0P2wpkh s = false ∧ isV0P2wsh s = false ∧ isV1plusP2witprog s = false := by
  simp only [fromScript, ite_some_eq_none, Bool.not_eq_true, and_true]

/-- `from_script` returns some payload; that one has the same script, hence is the same. -/
theorem fromScript_pattern {p : Payload} (h : p.standard) : fromScript p.pattern = some p := by
  have hne : fromScript p.pattern ≠ none := by
    rw [Ne, fromScript_eq_none_iff]
    rintro ⟨c0, c1, c2, c3, c4⟩
    cases p with
    | pubkeyHash hh => exact Bool.false_ne_true (c0.symm.trans ((isP2pkh_iff _).mpr ⟨hh, h, rfl⟩))
    | scriptHash hh => exact Bool.false_ne_true (c1.symm.trans ((isP2sh_iff _).mpr ⟨hh, h, rfl⟩))
    | witnessProgram v prog =>
      rcases h with ⟨rfl, hl | hl⟩ | ⟨h1, h16, hl2, hl40⟩
      · exact Bool.false_ne_true (c2.symm.trans ((isV0P2wpkh_iff _).mpr ⟨prog, hl, rfl⟩))
      · exact Bool.false_ne_true (c3.symm.trans ((isV0P2wsh_iff _).mpr ⟨prog, hl, rfl⟩))
      · exact Bool.false_ne_true
          (c4.symm.trans ((isV1plusP2witprog_iff _).mpr ⟨_, prog, versionOpcode_byte h1 h16, hl2, hl40, rfl⟩))
  obtain ⟨q, hq⟩ := Option.ne_none_iff_exists'.mp hne
  obtain ⟨hqs, e⟩ := fromScript_some hq
  rw [hq, pattern_injective (standard_typed h) (standard_typed hqs) e]

/-- `push_int` of a witness version writes its version opcode: `OP_0`, or `(v - 1 + OP_TRUE) as u8` -/
theorem pushInt_version (b : Builder) {v : Nat} (hv : v ≤ 16) :
    b.pushInt (v : Int) = some (b.pushOpcode (versionOpcode v)) := by
  by_cases h0 : v = 0
  · subst h0
    rfl
  · have hc : 1 ≤ (v : Int) ∧ (v : Int) ≤ 16 := ⟨by omega, by omega⟩
    have eo : Builder.smallIntOpcode (v : Int) = versionOpcode v := by
      unfold Builder.smallIntOpcode versionOpcode
      rw [if_neg h0, pushnum_toNat.1]
      congr 1
      simp only [Int.ofNat_eq_natCast]
      omega
    simp [Builder.pushInt, hc, eo]

theorem scriptPubkey_standard {p : Payload} (h : p.standard) : scriptPubkey p = some p.pattern := by
  have e20 : opPushbytes20 = UInt8.ofNat 20 := by decide
  cases p with
  | pubkeyHash hh | scriptHash hh =>
    have hl : hh.length = 20 := h
    have hp := pushHeader_small (n := hh.length) (by omega)
    rw [hl] at hp
    simp [scriptPubkey, Payload.ops, build, Builder.run, Builder.step, Builder.pushOpcode, Builder.pushSlice,
      Builder.new, hp, Payload.pattern, p2pkhScript, p2shScript, hl, e20]
  | witnessProgram v prog =>
    have hb : v ≤ 16 ∧ prog.length < 76 := by
      rcases h with ⟨rfl, hl | hl⟩ | ⟨_, _, _, _⟩ <;> omega
    simp [scriptPubkey, Payload.ops, build, Builder.run, Builder.step, pushInt_version _ hb.1, Builder.pushOpcode,
      Builder.pushSlice, Builder.new, pushHeader_small hb.2, Payload.pattern, witnessScript]

/-- for version 0 with a program that is neither 20 nor 32 bytes `is_witness_program` says yes and `from_script` has
    no branch -/
theorem fromScript_witness_none_iff {v : Nat} (hv : v < 32) (prog : Bytes) :
    fromScript (witnessScript (versionOpcode v) prog) = none ↔ ¬ (Payload.witnessProgram v prog).standard := by
  constructor
  · intro hn hs
    rw [show witnessScript (versionOpcode v) prog = (Payload.witnessProgram v prog).pattern from rfl,
      fromScript_pattern hs] at hn
    cases hn
  · intro hns
    cases hf : fromScript (witnessScript (versionOpcode v) prog) with
    | none => rfl
    | some q =>
      obtain ⟨hq, e⟩ := fromScript_some hf
      have : Payload.witnessProgram v prog = q := pattern_injective (p := .witnessProgram v prog) hv (standard_typed hq) e
      exact absurd (this ▸ hq) hns

/-- `Script::new_witness_program(ver, prog)` -/
theorem newWitnessProgram_eq (v : Nat) (prog : Bytes) (hv : v ≤ 16) :
    newWitnessProgram v prog = scriptPubkey (.witnessProgram v prog) := by
  have eo : UInt8.ofNat (if v > 0 then v + 0x50 else v) = versionOpcode v := by
    unfold versionOpcode
    by_cases h0 : v = 0
    · subst h0
      decide
    · rw [if_pos (by omega), if_neg h0, pushnum_toNat.1]
      congr 1
      omega
  simp only [newWitnessProgram, if_neg (by omega : ¬ v > 16), scriptPubkey, Payload.ops, build, Builder.run, Builder.step,
    Int.ofNat_eq_natCast, pushInt_version _ hv, eo]

end EV.Proofs.ScriptAddress
