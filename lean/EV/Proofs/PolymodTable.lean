/-
  EV.Proofs.PolymodTable — the two finite facts about a BCH code that the error-detection theorems rest on
  (`Table1`; `Table2`, used with `C = target ⊕ target'`), each in a form that one `decide +kernel` evaluation
  per code establishes.

  `T^k (T^d e ⊕ x)` is the residue of an error pattern with one or two non-zero symbols, read from state `0`:
  leading zeros leave the state `0`, the first non-zero symbol `e` makes it `e`, `d` zeros later it is `T^d e`,
  the second error `x` is XORed in (`x = 0`: there is none, and at `d = 0` there cannot be), `k` zeros follow.

  By XOR-linearity `T^d e` is the XOR of the orbits of the basis symbols 1, 2, 4, 8, 16 selected by the bits
  of `e`: five orbits are advanced in lock step and a test is run on their 31 non-empty XOR combinations
  (`tab`). For `Table1` the test is `>>> 5`. For `Table2`, `T^d e ⊕ x` would be the preimage `T^-k C`, and
  `x < 32` touches only the low five bits: it is enough that `T^d e >>> 5` differs from `T^-k C >>> 5`, which
  disposes of all 32 values of `x` by one comparison (a sufficient test: the table could hold where it fails).
-/
import EV.Proofs.Polymod
namespace EV.Bech32
namespace Code

def Table1 (c : Code) : Prop :=
  ∀ e d, 0 < e → e < 32 → 1 ≤ d → d ≤ 1022 → 32 ≤ c.Tpow d e

def Table2 (c : Code) (C N : Nat) : Prop :=
  ∀ e x d k, 0 < e → e < 32 → x < 32 → (d = 0 → x = 0) → d + k ≤ N → c.Tpow k (c.Tpow d e ^^^ x) ≠ C

/-- `T` for the generator table `[g0,…,g4]`, `m = 2^(5(len-1))`, `k = 5(len-1)`; raw kernel-accelerated
    operations only -/
def fT (g0 g1 g2 g3 g4 m k r : Nat) : Nat :=
  Nat.xor (Nat.shiftLeft (Nat.mod r m) 5)
    (Nat.xor (Nat.mul (Nat.land (Nat.shiftRight r k) 1) g0)
    (Nat.xor (Nat.mul (Nat.land (Nat.shiftRight r (Nat.add k 1)) 1) g1)
    (Nat.xor (Nat.mul (Nat.land (Nat.shiftRight r (Nat.add k 2)) 1) g2)
    (Nat.xor (Nat.mul (Nat.land (Nat.shiftRight r (Nat.add k 3)) 1) g3)
             (Nat.mul (Nat.land (Nat.shiftRight r (Nat.add k 4)) 1) g4)))))

theorem bitmul (x i g : Nat) : (x >>> i &&& 1) * g = if x.testBit i then g else 0 := by
  rw [Nat.and_one_is_mod, Nat.testBit, Nat.and_comm, Nat.and_one_is_mod]
  rcases Nat.mod_two_eq_zero_or_one (x >>> i) with h | h <;> simp [h]

theorem fT_eq (c : Code) (g0 g1 g2 g3 g4 : Nat) (hg : c.gens = [g0, g1, g2, g3, g4]) (r : Nat) :
    fT g0 g1 g2 g3 g4 (2 ^ (5 * (c.len - 1))) (5 * (c.len - 1)) r = c.T r := by
  -- five generators read five bits: the `% 32` of `top` can go, and bit `i` of `r >>> k` is bit `k + i` of `r`
  rw [T, step, top, show (32 : Nat) = 2 ^ 5 from rfl, sel_mod _ _ _ _ (by rw [hg]; exact Nat.le_refl 5), hg]
  simp only [sel, Nat.testBit_shiftRight, ← bitmul, Nat.or_zero, Nat.xor_zero, Nat.zero_add, Nat.add_zero]
  rfl

def kstep (c : Code) : Option (Nat → Nat) :=
  match c.gens with
  | [g0, g1, g2, g3, g4] => some (fT g0 g1 g2 g3 g4 (2 ^ (5 * (c.len - 1))) (5 * (c.len - 1)))
  | _ => none

theorem kstep_any (c : Code) (g : (Nat → Nat) → Bool) (h : (kstep c).any g = true) : g c.T = true := by
  unfold kstep at h
  split at h
  · rename_i g0 g1 g2 g3 g4 hg
    rwa [← funext (fT_eq c g0 g1 g2 g3 g4 hg)]
  · cases h

/-- product over all sublists `S` of the list of `t (x ⊕ ⨁S)`; `pNZ`: over the non-empty ones -/
def pAll (t : Nat → Nat) : List Nat → Nat → Nat
  | [], x => t x
  | a :: as, x => Nat.mul (pAll t as x) (pAll t as (Nat.xor x a))

def pNZ (t : Nat → Nat) : List Nat → Nat → Nat
  | [], _ => 1
  | a :: as, x => Nat.mul (pNZ t as x) (pAll t as (Nat.xor x a))

theorem pAll_spec (t : Nat → Nat) (l : List Nat) (x i u : Nat) (h : pAll t l x ≠ 0) :
    t (x ^^^ sel l i u) ≠ 0 := by
  induction l generalizing x i with
  | nil => simpa [sel, pAll] using h
  | cons a as ih =>
    obtain ⟨h1, h2⟩ := Nat.mul_ne_zero_iff.mp h
    simp only [sel]
    split
    · rw [← Nat.xor_assoc]
      exact ih _ _ h2
    · rw [Nat.zero_xor]
      exact ih _ _ h1

/-- `sel l i u ≠ 0` excludes the empty combination; `l` is a basis, `l.map L` its images -/
theorem pNZ_spec (t L : Nat → Nat) (l : List Nat) (x i u : Nat) (h : pNZ t (l.map L) x ≠ 0) :
    sel l i u ≠ 0 → t (x ^^^ sel (l.map L) i u) ≠ 0 := by
  induction l generalizing x i with
  | nil => exact fun h0 => absurd rfl h0
  | cons a as ih =>
    obtain ⟨h1, h2⟩ := Nat.mul_ne_zero_iff.mp h
    simp only [sel, List.map_cons]
    split
    · rw [← Nat.xor_assoc]
      exact fun _ => pAll_spec _ _ _ _ _ h2
    · rw [Nat.zero_xor, Nat.zero_xor]
      exact ih _ _ h1

/-! `pAll` for 1–4 vectors and `pNZ` for 5 written out without a list: recursion over a list is slow for the
    kernel to evaluate. -/
def p1 (t : Nat → Nat) (a x : Nat) : Nat := Nat.mul (t x) (t (Nat.xor x a))
def p2 (t : Nat → Nat) (a b x : Nat) : Nat := Nat.mul (p1 t b x) (p1 t b (Nat.xor x a))
def p3 (t : Nat → Nat) (a b c x : Nat) : Nat := Nat.mul (p2 t b c x) (p2 t b c (Nat.xor x a))
def p4 (t : Nat → Nat) (a b c d x : Nat) : Nat := Nat.mul (p3 t b c d x) (p3 t b c d (Nat.xor x a))
def nz5 (t : Nat → Nat) (a b c d e x : Nat) : Nat :=
  Nat.mul (Nat.mul (Nat.mul (Nat.mul (t (Nat.xor x e)) (p1 t e (Nat.xor x d)))
    (p2 t d e (Nat.xor x c))) (p3 t c d e (Nat.xor x b))) (p4 t b c d e (Nat.xor x a))

/-- unfolding `pNZ` and `pAll` on the five vectors gives `nz5`, but for the factor `1` of the empty list -/
theorem pNZ_five (t : Nat → Nat) (a b c d e x : Nat) : pNZ t [a, b, c, d, e] x = nz5 t a b c d e x :=
  congrArg (fun z => Nat.mul (Nat.mul (Nat.mul (Nat.mul z _) _) _) _) (Nat.one_mul _)

theorem sel_basis : ∀ e, e < 32 → sel [1, 2, 4, 8, 16] 0 e = e := by decide

theorem Tpow_sel (c : Code) (d : Nat) (l : List Nat) (i t : Nat) :
    c.Tpow d (sel l i t) = sel (l.map (c.Tpow d)) i t := by
  induction l generalizing i with
  | nil => simp [sel, Tpow_zero]
  | cons g gs ih =>
    simp only [sel, List.map_cons, Tpow_xor, ih]
    split <;> simp [Tpow_zero]

theorem nz5_spec (c : Code) (t : Nat → Nat) (d e : Nat)
    (h : nz5 t (c.Tpow d 1) (c.Tpow d 2) (c.Tpow d 4) (c.Tpow d 8) (c.Tpow d 16) 0 ≠ 0) (he0 : 0 < e)
    (he : e < 32) : t (c.Tpow d e) ≠ 0 := by
  have := pNZ_spec t (c.Tpow d) [1, 2, 4, 8, 16] 0 0 e fun hz => h ((pNZ_five ..).symm.trans hz)
  rwa [← Tpow_sel, sel_basis e he, Nat.zero_xor, imp_iff_right (Nat.ne_of_gt he0)] at this

/-- evaluate `x` to a numeral before continuing (call-by-value inside the kernel); `casesOn` itself,
    since a `match` is one definition more for the kernel to unfold at every call -/
def force {α : Type} (x : Nat) (f : Nat → α) : α :=
  Nat.casesOn (motive := fun _ => α) x (f 0) fun s => f (Nat.succ s)

theorem force_eq {α : Type} (x : Nat) (f : Nat → α) : force x f = f x := by
  cases x <;> rfl

/-- `n` rounds on the five basis orbits `a0, …, a4` (`f` is the zero-input step): the test `t R P` on
    their 31 combinations, then one step of each; `R` and `P` lose their `w` lowest bits every round -/
def tab (f : Nat → Nat) (t : Nat → Nat → Nat → Nat) (w : Nat) :
    Nat → Nat → Nat → Nat → Nat → Nat → Nat → Nat → Bool
  | 0, _, _, _, _, _, _, _ => true
  | n + 1, R, P, a0, a1, a2, a3, a4 =>
    (nz5 (t R P) a0 a1 a2 a3 a4 0 != 0) &&
    force (f a0) fun b0 =>
    force (f a1) fun b1 =>
    force (f a2) fun b2 =>
    force (f a3) fun b3 =>
    force (f a4) fun b4 =>
    force (R >>> w) fun R' =>
    force (P >>> w) fun P' =>
      tab f t w n R' P' b0 b1 b2 b3 b4

theorem tab_sound (c : Code) (t : Nat → Nat → Nat → Nat) (w n d0 R P : Nat)
    (h : tab c.T t w n R P (c.Tpow d0 1) (c.Tpow d0 2) (c.Tpow d0 4) (c.Tpow d0 8) (c.Tpow d0 16) = true) :
    ∀ d, d < n → ∀ e, 0 < e → e < 32 → t (R >>> (w * d)) (P >>> (w * d)) (c.Tpow (d0 + d) e) ≠ 0 := by
  induction n generalizing d0 R P with
  | zero => intro d hd; cases hd
  | succ n ih =>
    simp only [tab, force_eq, Bool.and_eq_true, bne_iff_ne] at h
    intro d hd e he0 he
    cases d with
    | zero => exact nz5_spec c _ d0 e h.1 he0 he
    | succ d =>
      have := ih (d0 + 1) _ _ h.2 d (Nat.lt_of_succ_lt_succ hd) e he0 he
      rwa [← Nat.shiftRight_add, ← Nat.shiftRight_add, Nat.add_comm w, ← Nat.mul_succ, Nat.add_assoc,
        Nat.add_comm 1] at this

def table1Ok (c : Code) : Bool :=
  (kstep c).any fun f =>
    force (f 1) fun a0 => force (f 2) fun a1 => force (f 4) fun a2 => force (f 8) fun a3 => force (f 16) fun a4 =>
      tab f (fun _ _ x => Nat.shiftRight x 5) 0 1022 0 0 a0 a1 a2 a3 a4

theorem table1_of_ok (c : Code) (h : table1Ok c = true) : c.Table1 := by
  have h := kstep_any c _ h
  simp only [force_eq] at h
  intro e d he0 he hd1 hd2
  have := tab_sound c _ 0 1022 1 0 0 h (d - 1) (by omega) e he0 he
  rw [Nat.add_sub_cancel' hd1] at this
  exact Nat.le_of_not_lt fun hlt => this (Nat.shiftRight_eq_zero _ 5 hlt)

theorem shift_field (w X v : Nat) (hv : v < 2 ^ w) (d : Nat) :
    (2 ^ w * X + v) >>> (w * (d + 1)) = X >>> (w * d) := by
  rw [Nat.mul_succ, Nat.add_comm (w * d), Nat.shiftRight_add, Nat.shiftRight_eq_div_pow _ w,
    Nat.mul_add_div (Nat.two_pow_pos w), Nat.div_eq_of_lt hv, Nat.add_zero]

/-- `1` if `x >>> 5` differs from every digit of `P`, else `0`, by one comparison of big numbers (`x` is a
    `T^d e`, the digits are the `T^-k C >>> 5`). Digits are below `2^m` in fields of `m+1` bits; `R` has the
    digit `1` throughout. The digits of `a * R ^^^ P` are the `a ^^^ v`; adding `2^m - 1` to one of them sets
    bit `m` of its field iff it is non-zero, and never carries into the next field. -/
def differs (m R P x : Nat) : Nat :=
  Nat.sub 1 (Nat.xor (Nat.land (Nat.add (Nat.xor (Nat.mul (Nat.shiftRight x 5) R) P) (Nat.mul R (2 ^ m - 1)))
    (Nat.mul R (2 ^ m))) (Nat.mul R (2 ^ m)))

theorem differs_ne_zero (m R P x : Nat) : differs m R P x ≠ 0 ↔
    ((x >>> 5 * R ^^^ P) + R * (2 ^ m - 1)) &&& (R * 2 ^ m) ^^^ R * 2 ^ m = 0 :=
  Nat.sub_ne_zero_iff_lt.trans Nat.lt_one_iff

/-- one field more below those of `R` and `P`: its digit `v` is compared as well -/
theorem differs_field (m R P v x : Nat) (hx : x >>> 5 < 2 ^ m) (hv : v < 2 ^ m)
    (h : differs m (2 ^ (m + 1) * R + 1) (2 ^ (m + 1) * P + v) x ≠ 0) :
    x >>> 5 ≠ v ∧ differs m R P x ≠ 0 := by
  have b : 2 ^ m < 2 ^ (m + 1) := Nat.pow_lt_pow_succ (by decide)
  have b3 : (x >>> 5 ^^^ v) + (2 ^ m - 1) < 2 ^ (m + 1) := by
    have := Nat.xor_lt_two_pow hx hv
    rw [Nat.pow_succ]
    omega
  rw [differs_ne_zero] at h ⊢
  -- every term as `2^(m+1) * high + low`, the operations act on the two parts separately
  rw [Nat.mul_add, Nat.mul_one, Nat.mul_left_comm, Nat.add_mul, Nat.add_mul, Nat.one_mul, Nat.one_mul,
    Nat.mul_assoc, Nat.mul_assoc, NatBits.split_xor _ _ _ _ _ (Nat.lt_trans hx b) (Nat.lt_trans hv b),
    Nat.add_add_add_comm, ← Nat.mul_add, NatBits.split_and _ _ _ _ _ b3 b,
    NatBits.split_xor _ _ _ _ _ (Nat.and_lt_two_pow _ b) b] at h
  obtain ⟨hhi, hlo⟩ := Nat.add_eq_zero_iff.mp h
  refine ⟨?_, (Nat.mul_eq_zero.mp hhi).resolve_left (Nat.ne_of_gt (Nat.two_pow_pos _))⟩
  rintro rfl
  -- `(2^m - 1) &&& 2^m` is `0`, so bit `m` of the left side is set
  have := congrArg (·.testBit m) hlo
  simp [Nat.testBit_lt_two_pow (Nat.sub_lt (Nat.two_pow_pos m) Nat.one_pos)] at this

def iter (f : Nat → Nat) : Nat → Nat → Nat
  | 0, s => s
  | n + 1, s => force (f s) (iter f n)

theorem iter_eq (c : Code) (n s : Nat) : iter c.T n s = c.Tpow n s := by
  induction n generalizing s with
  | zero => rfl
  | succ n ih => rw [iter, force_eq, ih, Tpow_succ']

/-- `n` fields of `w` bits with the digit `1` -/
def ones (w : Nat) : Nat → Nat
  | 0 => 0
  | n + 1 => 2 ^ w * ones w n + 1

/-- `n` fields of `w` bits with the digits `f^j s >>> 5`, `j = 0` lowest -/
def pack (f : Nat → Nat) (w : Nat) : Nat → Nat → Nat
  | 0, _ => 0
  | n + 1, s => 2 ^ w * force (f s) (pack f w n) + s >>> 5

/-- the test of round `d` of `tab`, when `R` and `P` were `ones` and `pack` at the start -/
theorem differs_sound (c : Code) (m x : Nat) (hx : x >>> 5 < 2 ^ m) (n s d : Nat)
    (hv : ∀ j, c.Tpow j s >>> 5 < 2 ^ m)
    (h : differs m (ones (m + 1) n >>> ((m + 1) * d)) (pack c.T (m + 1) n s >>> ((m + 1) * d)) x ≠ 0) :
    ∀ j, d ≤ j → j < n → x >>> 5 ≠ c.Tpow j s >>> 5 := by
  induction n generalizing s d with
  | zero => intro j _ hj; cases hj
  | succ n ih =>
    have hs : s >>> 5 < 2 ^ m := hv 0
    have hv' : ∀ j, c.Tpow j (c.T s) >>> 5 < 2 ^ m := fun j => Tpow_succ' c j s ▸ hv (j + 1)
    rw [ones, pack, force_eq] at h
    intro j hdj hj
    cases d with
    | succ d =>
      rw [shift_field _ _ _ (Nat.lt_trans hs (Nat.pow_lt_pow_succ (by decide))),
        shift_field _ _ _ (Nat.one_lt_two_pow (Nat.succ_ne_zero m))] at h
      cases j with
      | zero => cases hdj
      | succ j =>
        exact Tpow_succ' c j s ▸ ih _ d hv' h j (Nat.le_of_succ_le_succ hdj) (Nat.lt_of_succ_lt_succ hj)
    | zero =>
      obtain ⟨hne, h⟩ := differs_field m _ _ _ x hx hs h
      cases j with
      | zero => exact hne
      | succ j => exact Tpow_succ' c j s ▸ ih _ 0 hv' h j (Nat.zero_le j) (Nat.lt_of_succ_lt_succ hj)

/-- `ord` = order of `T` (1023 for both codes): the preimages `T^-k C`, `k = N, …, 0`, are obtained as
    `T^(ord-N) C, …, T^ord C`; that the last of them is `C` is checked -/
def table2Ok (c : Code) (C N ord : Nat) : Bool :=
  (kstep c).any fun f =>
    let m := 5 * (c.len - 1)
    force (iter f (ord - N) C) fun s =>
    Nat.blt s (2 ^ (5 * c.len)) && Nat.beq (iter f N s) C &&
      tab f (differs m) (m + 1) (N + 1) (ones (m + 1) (N + 1)) (pack f (m + 1) (N + 1) s) 1 2 4 8 16

theorem table2_of_ok (c : Code) (hc : c.Good) (hb : c.LowBij) (C N ord : Nat)
    (h : table2Ok c C N ord = true) : c.Table2 C N := by
  have hhi : ∀ b, b < 2 ^ (5 * c.len) → b >>> 5 < 2 ^ (5 * (c.len - 1)) := fun b hb => by
    rwa [Nat.shiftRight_eq_div_pow, Nat.div_lt_iff_lt_mul (by decide), ← hc.pow_len]
  have h := kstep_any c _ h
  dsimp only at h
  rw [force_eq] at h
  generalize iter c.T (ord - N) C = s at h
  simp only [iter_eq, Bool.and_eq_true, Nat.blt_eq] at h
  obtain ⟨⟨hs, hC⟩, htab⟩ := h
  have hC := Nat.eq_of_beq_eq_true hC
  intro e x d k he0 he hx _ hdk heq
  have hpre : c.Tpow k (c.Tpow (N - k) s) = C := by
    rw [← Tpow_add, Nat.add_sub_cancel' (Nat.le_trans (Nat.le_add_left k d) hdk), hC]
  have ht := tab_sound c _ _ (N + 1) 0 _ _ htab d
    (Nat.lt_succ_of_le (Nat.le_trans (Nat.le_add_right d k) hdk)) e he0 he
  rw [Nat.zero_add] at ht
  have hde := Tpow_lt c hc d e (hc.sym_lt he)
  have hne := differs_sound c _ _ (hhi _ hde) _ s d (fun j => hhi _ (Tpow_lt c hc j s hs)) ht (N - k)
    (Nat.le_sub_of_add_le hdk) (Nat.lt_succ_of_le (Nat.sub_le N k))
  have := Tpow_injective c hc hb k _ _ (Nat.xor_lt_two_pow hde (hc.sym_lt hx)) (Tpow_lt c hc _ s hs)
    (heq.trans hpre.symm)
  apply hne
  rw [← this, Nat.shiftRight_xor_distrib, Nat.shiftRight_eq_zero x 5 hx, Nat.xor_zero]

end Code
end EV.Bech32
