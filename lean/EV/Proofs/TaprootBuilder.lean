/-
  The taproot builder model (EV.Model.Taproot).  Once the builder has the empty levels down to depth `d` (`pad`),
  `TaprootBuilder::insert` is the carry of a binary counter on its stack of levels (`place`); `insert_eq` says so, and
  nothing after it looks at the loop again.  Completeness (`builder_dfs`) is `insert_tree`, an induction on the tree:
  feeding the listing of a subtree is inserting its finished node, because a right subtree is carried up as the parent
  (`place_node`).  Soundness (`builder_sound`) is `place_ghost`, an induction along `place`: the carry on a ghost stack
  of trees appends the new tree's listing.  Before the builder, what the other taproot files share.
-/
import EV.Model.Taproot
import EV.Proofs.Res
import EV.Proofs.OrdMap

namespace EV.Proofs.TaprootBuilder
open EV EV.Taproot

variable (H : TapHashes)

def leafItems : List (Nat × Item) → List (Nat × Bytes × UInt8)
  | [] => []
  | (d, .leaf s v) :: rest => (d, s, v) :: leafItems rest
  | (_, .hidden _) :: rest => leafItems rest

theorem leafItems_append (a b : List (Nat × Item)) : leafItems (a ++ b) = leafItems a ++ leafItems b := by
  induction a with
  | nil => rfl
  | cons p rest ih =>
    obtain ⟨d, it⟩ := p
    cases it <;> simp only [List.cons_append, leafItems, ih]

theorem info_hash (t : Tree) : (info H t).hash = t.merkleRoot H := by
  induction t with
  | leaf s v => rfl
  | hidden h => rfl
  | node l r ihl ihr => simp only [info, Tree.merkleRoot, ihl, ihr]

theorem map_push_depth (h : Bytes) (d : Nat) (ls : List LeafInfo) :
    (ls.map fun x => { x with branch := x.branch ++ [h] }).map (fun l => (l.branch.length + d, l.script, l.ver)) =
      ls.map fun l => (l.branch.length + (d + 1), l.script, l.ver) := by
  rw [List.map_map]
  refine List.map_congr_left fun x _ => ?_
  simp only [Function.comp, List.length_append, List.length_singleton, Nat.add_assoc, Nat.add_comm 1 d]

theorem info_leaves_dfs (t : Tree) (d : Nat) :
    (info H t).leaves.map (fun l => (l.branch.length + d, l.script, l.ver)) = leafItems (t.dfs d) := by
  induction t generalizing d with
  | leaf s v => simp [info, newLeaf, Tree.dfs, leafItems]
  | hidden h => simp [info, newHidden, Tree.dfs, leafItems]
  | node l r ihl ihr =>
    rw [info, Tree.dfs, leafItems_append, List.map_append, map_push_depth, map_push_depth, ihl, ihr]

theorem computeRoot_append (s : Bytes) (v : UInt8) (b : List Bytes) (e : Bytes) :
    ControlBlock.computeRoot H s v (b ++ [e]) = branchHash H (ControlBlock.computeRoot H s v b) e := by
  simp only [ControlBlock.computeRoot, List.foldl_append, List.foldl_cons, List.foldl_nil]

theorem bytesLt_iff : ∀ a b : Bytes, bytesLt a b = true ↔ a < b :=
  OrdMap.lt_iff_of_lex rfl (fun _ _ => rfl) (fun _ _ => rfl) fun x xs y ys => by
    rw [bytesLt]
    by_cases h1 : x < y
    · simp [h1]
    · by_cases h2 : y < x
      · have hne : x ≠ y := fun e => h1 (e ▸ h2)
        simp [h1, h2, hne]
      · simp [UInt8.le_antisymm (UInt8.not_lt.mp h2) (UInt8.not_lt.mp h1)]

theorem bytesLt_strict : OrdMap.StrictTotal bytesLt := .of_lt bytesLt_iff

theorem bytesLt_irrefl (a : Bytes) : bytesLt a a = false := bytesLt_strict.irrefl a

theorem sortedPair_comm (a b : Bytes) : sortedPair a b = sortedPair b a := by
  unfold sortedPair
  cases hab : bytesLt a b with
  | true => simp [bytesLt_strict.asymm hab]
  | false =>
    cases hba : bytesLt b a with
    | true => simp
    | false => simp [bytesLt_strict.total hab hba]

theorem branchHash_comm (a b : Bytes) : branchHash H a b = branchHash H b a := by
  simp only [branchHash, sortedPair_comm a b]

/-- the shape to which `popsBefore` of the Huffman heap and `branchBetter` of `control_block` both unfold -/
theorem le_of_lex {a b : Nat} {c : Bool} (h : (decide (a < b) || (a == b && c)) = true) : a ≤ b := by
  simp only [Bool.or_eq_true, Bool.and_eq_true, decide_eq_true_eq, beq_iff_eq] at h
  rcases h with h | ⟨h, _⟩
  · exact Nat.le_of_lt h
  · exact Nat.le_of_eq h

theorem le_of_not_lex {a b : Nat} {c : Bool} (h : ¬(decide (a < b) || (a == b && c)) = true) : b ≤ a :=
  Nat.le_of_not_lt fun hlt => h (by rw [decide_eq_true hlt, Bool.true_or])

theorem info_branch_le_height (t : Tree) : ∀ l ∈ (info H t).leaves, l.branch.length ≤ t.height := by
  induction t with
  | leaf s v => simp [info, newLeaf]
  | hidden h => simp [info, newHidden]
  | node a b iha ihb =>
    intro l hl
    simp only [info, List.mem_append, List.mem_map] at hl
    rcases hl with ⟨x, hx, rfl⟩ | ⟨x, hx, rfl⟩
    · simp only [List.length_append, List.length_singleton, Tree.height]
      exact Nat.succ_le_succ (Nat.le_trans (iha x hx) (Nat.le_max_left ..))
    · simp only [List.length_append, List.length_singleton, Tree.height]
      exact Nat.succ_le_succ (Nat.le_trans (ihb x hx) (Nat.le_max_right ..))

theorem add_height_node (d : Nat) (l r : Tree) :
    d + (Tree.node l r).height = d + 1 + max l.height r.height := by
  rw [Tree.height, ← Nat.add_assoc, Nat.add_right_comm]

theorem dfs_depth_le (t : Tree) (d : Nat) : ∀ p ∈ t.dfs d, p.1 ≤ d + t.height := by
  induction t generalizing d with
  | leaf s v => simp [Tree.dfs]
  | hidden h => simp [Tree.dfs]
  | node a b iha ihb =>
    intro p hp
    rw [add_height_node]
    rcases List.mem_append.1 hp with hp | hp
    · exact Nat.le_trans (iha (d + 1) p hp) (Nat.add_le_add_left (Nat.le_max_left ..) _)
    · exact Nat.le_trans (ihb (d + 1) p hp) (Nat.add_le_add_left (Nat.le_max_right ..) _)

theorem dfs_depth_max (t : Tree) (d : Nat) : ∃ p ∈ t.dfs d, p.1 = d + t.height := by
  induction t generalizing d with
  | leaf s v => exact ⟨_, List.mem_singleton_self _, rfl⟩
  | hidden h => exact ⟨_, List.mem_singleton_self _, rfl⟩
  | node a b iha ihb =>
    obtain ⟨pa, hpa, ha⟩ := iha (d + 1)
    obtain ⟨pb, hpb, hb⟩ := ihb (d + 1)
    rw [add_height_node]
    rcases Nat.le_total a.height b.height with hab | hab
    · exact ⟨pb, List.mem_append_right _ hpb, by rw [hb, Nat.max_eq_right hab]⟩
    · exact ⟨pa, List.mem_append_left _ hpa, by rw [ha, Nat.max_eq_left hab]⟩

theorem dfs_ne_nil (t : Tree) (d : Nat) : t.dfs d ≠ [] := by
  obtain ⟨p, hp, _⟩ := dfs_depth_max t d
  exact List.ne_nil_of_mem hp

/-- `TaprootMerkleBranch::push` on every leaf: all or nothing -/
theorem pushAll_eq (h : Bytes) (ls : List LeafInfo) :
    pushAll h ls =
      if ∀ l ∈ ls, l.branch.length < maxDepth
      then .ok (ls.map (fun x => { x with branch := x.branch ++ [h] }))
      else .err "InvalidMerkleTreeDepth" := by
  induction ls with
  | nil => rfl
  | cons l ls ih =>
    simp only [pushAll, pushBranch, ih, List.forall_mem_cons, ge_iff_le]
    by_cases h1 : l.branch.length < maxDepth
    · rw [if_neg (Nat.not_le.2 h1)]
      by_cases h2 : ∀ l ∈ ls, l.branch.length < maxDepth
      · rw [if_pos h2, if_pos ⟨h1, h2⟩]
        rfl
      · rw [if_neg h2, if_neg (fun h : _ ∧ _ => h2 h.2)]
    · rw [if_pos (Nat.not_lt.1 h1), if_neg (fun h : _ ∧ _ => h1 h.1)]

/-- `NodeInfo::combine` -/
theorem combine_eq (a b : NodeInfo) :
    combine H a b =
      if (∀ l ∈ a.leaves, l.branch.length < maxDepth) ∧ (∀ l ∈ b.leaves, l.branch.length < maxDepth)
      then .ok ⟨branchHash H a.hash b.hash,
        a.leaves.map (fun x => { x with branch := x.branch ++ [b.hash] }) ++
        b.leaves.map (fun x => { x with branch := x.branch ++ [a.hash] })⟩
      else .err "InvalidMerkleTreeDepth" := by
  simp only [combine, pushAll_eq]
  by_cases ha : ∀ l ∈ a.leaves, l.branch.length < maxDepth
  · by_cases hb : ∀ l ∈ b.leaves, l.branch.length < maxDepth
    · rw [if_pos ha, if_pos hb, if_pos ⟨ha, hb⟩]
    · rw [if_pos ha, if_neg hb, if_neg (fun h : _ ∧ _ => hb h.2)]
  · rw [if_neg ha, if_neg (fun h : _ ∧ _ => ha h.1)]

theorem combine_info (a b : Tree) (h : (Tree.node a b).height ≤ maxDepth) :
    combine H (info H a) (info H b) = .ok (info H (.node a b)) := by
  rw [combine_eq, if_pos]
  · rfl
  · exact ⟨fun l hl => Nat.lt_of_le_of_lt (info_branch_le_height H a l hl)
        (Nat.lt_of_le_of_lt (Nat.le_max_left ..) h),
      fun l hl => Nat.lt_of_le_of_lt (info_branch_le_height H b l hl)
        (Nat.lt_of_le_of_lt (Nat.le_max_right ..) h)⟩

theorem combine_info_post (a b : Tree) :
    (combine H (info H a) (info H b)).Post (· = info H (.node a b)) (· = "InvalidMerkleTreeDepth") := by
  rw [combine_eq]
  split
  · exact .ok rfl
  · exact .err rfl

def Item.toTree : Item → Tree
  | .leaf s v => .leaf s v
  | .hidden h => .hidden h

theorem addItem_eq (b : Builder) (d : Nat) (it : Item) :
    addItem H b d it = insert H b (info H (Item.toTree it)) d := by
  cases it <;> rfl

theorem addAll_cons (b : Builder) (d : Nat) (it : Item) (rest : List (Nat × Item)) :
    addAll H b ((d, it) :: rest) = (insert H b (info H (Item.toTree it)) d).bind (fun b' => addAll H b' rest) := by
  rw [addAll, addItem_eq]
  cases insert H b (info H (Item.toTree it)) d <;> rfl

theorem addAll_singleton (b : Builder) (d : Nat) (it : Item) :
    addAll H b [(d, it)] = insert H b (info H (Item.toTree it)) d := by
  rw [addAll_cons]
  exact Res.bind_ok _

theorem addAll_append (b : Builder) (xs ys : List (Nat × Item)) :
    addAll H b (xs ++ ys) = (addAll H b xs).bind (fun b' => addAll H b' ys) := by
  induction xs generalizing b with
  | nil => rfl
  | cons p xs ih =>
    rw [List.cons_append, addAll_cons, addAll_cons, Res.bind_assoc]
    exact Res.bind_congr fun b' _ => ih b'

/-- a stack of levels with the empty levels added that make level `d` its deepest (`insert` adds them
    after its loop; adding them first changes nothing) -/
def pad {α : Type} (d : Nat) (b : List (Option α)) : List (Option α) := List.replicate (d + 1 - b.length) none ++ b

theorem pad_of_lt {α : Type} {d : Nat} {b : List (Option α)} (h : b.length < d + 1) :
    pad d b = none :: (List.replicate (d - b.length) none ++ b) := by
  rw [pad, Nat.succ_sub (Nat.le_of_lt_succ h), List.replicate_succ, List.cons_append]

theorem pad_succ {α : Type} {d : Nat} {b : List (Option α)} (h : b.length ≤ d + 1) : pad (d + 1) b = none :: pad d b :=
  pad_of_lt (Nat.lt_succ_of_le h)

theorem pad_of_ge {α : Type} {d : Nat} {b : List (Option α)} (h : d + 1 ≤ b.length) : pad d b = b := by
  rw [pad, Nat.sub_eq_zero_of_le h]
  rfl

theorem pad_length {α : Type} {d : Nat} {b : List (Option α)} (h : b.length ≤ d + 1) : (pad d b).length = d + 1 := by
  rw [pad, List.length_append, List.length_replicate, Nat.sub_add_cancel h]

/-- the carry of a binary counter on the deepest level of the builder: a free level takes the node; an
    occupied one is combined with it (`NodeInfo::combine(child, node)`) and the result goes one level up;
    nothing is carried out of the root level -/
def place : Builder → NodeInfo → Res Builder
  | [], n => .ok [some n]
  | none :: rest, n => .ok (some n :: rest)
  | [some _], _ => .err "OverCompleteTree"
  | some c :: o :: rest, n => (combine H c n).bind (place (o :: rest))

/-- what `insert` does with the result of its loop -/
def finish (r : Res (Builder × NodeInfo × Nat)) : Res Builder :=
  match r with
  | .ok (b', node', depth') =>
    let b'' := if b'.length < depth' + 1 then List.replicate (depth' + 1 - b'.length) none ++ b' else b'
    if depth' < b''.length then .ok (b''.set (b''.length - 1 - depth') (some node'))
    else .panic "branch[depth] out of bounds"
  | .err e => .err e
  | .panic s => .panic s

theorem combineLoop_skip (b : Builder) (n : NodeInfo) (d : Nat) (h : b.length ≠ d + 1) :
    combineLoop H b n d = .ok (b, n, d) := by
  match b with
  | [] => rfl
  | none :: _ => rfl
  | some c :: rest =>
    rw [combineLoop]
    exact if_neg h

private theorem finish_free (b tl : Builder) (n : NodeInfo) (d : Nat) (hlen : b.length ≤ d + 1)
    (hp : pad d b = none :: tl) : finish (.ok (b, n, d)) = place H (pad d b) n := by
  have hb : (if b.length < d + 1 then List.replicate (d + 1 - b.length) none ++ b else b) = pad d b := by
    split
    · rfl
    · next h => exact (pad_of_ge (Nat.not_lt.1 h)).symm
  have hl : tl.length + 1 = d + 1 := by
    rw [← pad_length hlen, hp, List.length_cons]
  simp only [finish, hb, hp, List.length_cons, hl, Nat.lt_succ_self, if_true, Nat.add_sub_cancel, Nat.sub_self,
    List.set_cons_zero, place]

private theorem finish_loop (b : Builder) : ∀ (n : NodeInfo) (d : Nat), b.length ≤ d + 1 →
    finish (combineLoop H b n d) = place H (pad d b) n := by
  induction b with
  | nil => exact fun n d h => finish_free H [] _ n d h (pad_of_lt (Nat.succ_pos d))
  | cons o rest ih =>
    intro n d hlen
    rcases Nat.lt_or_eq_of_le hlen with hlt | heq
    · rw [combineLoop_skip H _ n d (Nat.ne_of_lt hlt)]
      exact finish_free H _ _ n d hlen (pad_of_lt hlt)
    · match o, rest, ih, heq with
      | none, rest, _, heq => exact finish_free H _ rest n d hlen (pad_of_ge (Nat.le_of_eq heq.symm))
      | some c, [], _, heq =>
        cases heq
        rfl
      | some c, o' :: rest', ih, heq =>
        -- one turn of the loop is one step of the carry
        cases heq
        rw [combineLoop, if_pos rfl, if_neg (List.cons_ne_nil o' rest' ∘ List.eq_nil_of_length_eq_zero),
          pad_of_ge (Nat.le_refl _), place]
        cases combine H c n with
        | ok x =>
          refine (ih x _ (Nat.le_refl _)).trans ?_
          rw [pad_of_ge (Nat.le_refl _)]
          rfl
        | err e => rfl
        | panic s => rfl

/-- `TaprootBuilder::insert`: the two refusals, then the carry on the padded builder -/
theorem insert_eq (b : Builder) (n : NodeInfo) (d : Nat) :
    insert H b n d =
      if d > maxDepth then .err "InvalidMerkleTreeDepth"
      else if d + 1 < b.length then .err "NodeNotInDfsOrder"
      else place H (pad d b) n := by
  -- by unfolding, `insert` is its two refusals around `finish` of the loop
  show (if d > maxDepth then _ else if d + 1 < b.length then _ else finish (combineLoop H b n d)) = _
  exact ite_congr rfl (fun _ => rfl) fun _ => ite_congr rfl (fun _ => rfl) fun h => finish_loop H b n d (Nat.not_lt.1 h)

theorem insert_place (b : Builder) (n : NodeInfo) (d : Nat) (hd : d ≤ maxDepth) (hb : b.length ≤ d + 1) :
    insert H b n d = place H (pad d b) n := by
  rw [insert_eq, if_neg (Nat.not_lt.2 hd), if_neg (Nat.not_lt.2 hb)]

variable {H} in
theorem insert_ok {b b2 : Builder} {n : NodeInfo} {d : Nat} (h : insert H b n d = .ok b2) :
    d ≤ maxDepth ∧ b.length ≤ d + 1 ∧ place H (pad d b) n = .ok b2 := by
  rw [insert_eq, Res.guard_eq_ok, Res.guard_eq_ok] at h
  exact ⟨Nat.not_lt.1 h.1, Nat.not_lt.1 h.2.1, h.2.2⟩

theorem place_node (l r : Tree) (b : Builder) (hb : b ≠ []) (hh : (Tree.node l r).height ≤ maxDepth) :
    place H (some (info H l) :: b) (info H r) = place H b (info H (.node l r)) := by
  match b, hb with
  | o :: rest, _ =>
    rw [place, combine_info H l r hh]
    rfl

theorem insert_tree (t : Tree) : ∀ (d : Nat) (b : Builder), b.length ≤ d + 1 → d + t.height ≤ maxDepth →
    addAll H b (t.dfs d) = insert H b (info H t) d := by
  induction t with
  | leaf s v => exact fun d b _ _ => addAll_singleton H b d (.leaf s v)
  | hidden h => exact fun d b _ _ => addAll_singleton H b d (.hidden h)
  | node l r ihl ihr =>
    intro d b hb hh
    have hht : (Tree.node l r).height ≤ maxDepth := Nat.le_trans (Nat.le_add_left ..) hh
    rw [add_height_node] at hh
    have hl : d + 1 + l.height ≤ maxDepth := Nat.le_trans (Nat.add_le_add_left (Nat.le_max_left ..) _) hh
    have hr : d + 1 + r.height ≤ maxDepth := Nat.le_trans (Nat.add_le_add_left (Nat.le_max_right ..) _) hh
    have hd1 : d + 1 ≤ maxDepth := Nat.le_trans (Nat.le_add_right ..) hh
    have hb1 : b.length ≤ d + 1 + 1 := Nat.le_succ_of_le hb
    -- the finished left subtree opens level `d + 1` of the padded builder
    have hleft : insert H b (info H l) (d + 1) = .ok (some (info H l) :: pad d b) := by
      rw [insert_place H b _ _ hd1 hb1, pad_succ hb, place]
    -- the finished right subtree finds it there and is carried to level `d` as their parent
    have hp : (some (info H l) :: pad d b).length = d + 1 + 1 := congrArg (· + 1) (pad_length hb)
    have hright : insert H (some (info H l) :: pad d b) (info H r) (d + 1) =
        place H (pad d b) (info H (.node l r)) := by
      rw [insert_place H _ _ _ hd1 (Nat.le_of_eq hp), pad_of_ge (Nat.le_of_eq hp.symm),
        place_node H l r _ (List.ne_nil_of_length_eq_add_one (pad_length hb)) hht]
    rw [Tree.dfs, addAll_append, ihl (d + 1) b hb1 hl, hleft, Res.ok_bind, ihr (d + 1) _ (Nat.le_of_eq hp) hr, hright,
      insert_place H b _ d (Nat.le_of_succ_le hd1) hb]

theorem builder_dfs (t : Tree) (hh : t.height ≤ maxDepth) : addAll H [] (t.dfs 0) = .ok [some (info H t)] := by
  rw [insert_tree H t 0 [] (Nat.zero_le _) ((Nat.zero_add _).symm ▸ hh),
    insert_place H [] _ 0 (Nat.zero_le _) (Nat.zero_le _)]
  rfl

theorem build_dfs (t : Tree) (hh : t.height ≤ maxDepth) : buildTree H (t.dfs 0) = .ok (info H t) := by
  rw [buildTree, builder_dfs H t hh]
  rfl

/-- the three refusals of `insert` -/
def InsertErr (e : String) : Prop :=
  e = "InvalidMerkleTreeDepth" ∨ e = "NodeNotInDfsOrder" ∨ e = "OverCompleteTree"

theorem place_post (b : Builder) : ∀ n : NodeInfo,
    (place H b n).Post (fun b' => ∃ n' rest, b' = some n' :: rest) InsertErr := by
  induction b with
  | nil => exact fun n => .ok ⟨n, [], rfl⟩
  | cons o rest ih =>
    intro n
    match o, rest, ih with
    | none, rest, _ => exact .ok ⟨n, rest, rfl⟩
    | some c, [], _ => exact .err (.inr (.inr rfl))
    | some c, o' :: rest', ih =>
      rw [place, combine_eq]
      split
      · exact ih _
      · exact .err (.inl rfl)

/-- no panic: the `unreachable!` and the index `branch[depth]` of `insert` are dead -/
theorem insert_post (b : Builder) (n : NodeInfo) (d : Nat) :
    (insert H b n d).Post (fun b' => ∃ n' rest, b' = some n' :: rest) InsertErr := by
  rw [insert_eq]
  split
  · exact .err (.inl rfl)
  · split
    · exact .err (.inr (.inl rfl))
    · exact place_post H _ n

/-- the listing denoted by a (reversed) stack of optional trees: the element with `k` elements
    below it sits at depth `k` -/
def listing : List (Option Tree) → List (Nat × Item)
  | [] => []
  | o :: rest => listing rest ++ (match o with | some t => t.dfs rest.length | none => [])

/-- the builder that a stack of optional trees stands for: each tree's node on its level -/
def ghost (ts : List (Option Tree)) : Builder := ts.map (Option.map (info H))

theorem listing_singleton (t : Tree) : listing [some t] = t.dfs 0 := rfl

theorem ghost_length (ts : List (Option Tree)) : (ghost H ts).length = ts.length := by
  simp only [ghost, List.length_map]

theorem listing_replicate_none (k : Nat) (ts : List (Option Tree)) :
    listing (List.replicate k none ++ ts) = listing ts := by
  induction k with
  | zero => rfl
  | succ k ih =>
    rw [List.replicate_succ, List.cons_append, listing, ih]
    simp only [List.append_nil]

theorem ghost_replicate_none (k : Nat) (ts : List (Option Tree)) :
    ghost H (List.replicate k none ++ ts) = List.replicate k none ++ ghost H ts := by
  simp only [ghost, List.map_append, List.map_replicate, Option.map_none]

theorem listing_pad (d : Nat) (ts : List (Option Tree)) : listing (pad d ts) = listing ts :=
  listing_replicate_none _ ts

theorem ghost_pad (d : Nat) (ts : List (Option Tree)) : ghost H (pad d ts) = pad d (ghost H ts) := by
  rw [pad, ghost_replicate_none, pad, ghost_length]

theorem place_ghost (ts : List (Option Tree)) : ∀ (d : Nat) (n : Tree) (b2 : Builder), ts.length = d + 1 →
    place H (ghost H ts) (info H n) = .ok b2 →
    ∃ ts2 : List (Option Tree), b2 = ghost H ts2 ∧ listing ts2 = listing ts ++ n.dfs d := by
  induction ts with
  | nil => exact nofun
  | cons o rest ih =>
    intro d n b2 hl hok
    cases hl
    -- a lone occupied root level refuses the node, so it is not among the cases
    match o, rest, ih, hok with
    | none, rest, _, hok =>
      cases hok
      exact ⟨some n :: rest, rfl, by rw [listing, listing, List.append_nil]⟩
    | some c, o' :: rest', ih, hok =>
      obtain ⟨x, hc, hok⟩ := Res.bind_eq_ok.1 hok
      cases (combine_info_post H c n).of_ok hc
      obtain ⟨ts2, e1, e2⟩ := ih _ (.node c n) b2 rfl hok
      refine ⟨ts2, e1, ?_⟩
      rw [e2, Tree.dfs, ← List.append_assoc]
      rfl

theorem insert_inv (ts : List (Option Tree)) (n : Tree) (d : Nat) (b2 : Builder)
    (hok : insert H (ghost H ts) (info H n) d = .ok b2) :
    ∃ ts2 : List (Option Tree), b2 = ghost H ts2 ∧ listing ts2 = listing ts ++ n.dfs d := by
  obtain ⟨_, hlen, hok⟩ := insert_ok hok
  rw [ghost_length] at hlen
  rw [← ghost_pad] at hok
  obtain ⟨ts2, e1, e2⟩ := place_ghost H _ d n b2 (pad_length hlen) hok
  exact ⟨ts2, e1, by rw [e2, listing_pad]⟩

/-- what holds of a builder `b` that has accepted the listing `items` from the start -/
structure Fed (items : List (Nat × Item)) (b : Builder) : Prop where
  stack : ∃ ts, b = ghost H ts ∧ listing ts = items
  top : b = [] ∨ ∃ x rest, b = some x :: rest
  depth : ∀ p ∈ items, p.1 ≤ maxDepth

theorem addAll_post (items : List (Nat × Item)) : (addAll H [] items).Post (Fed H items) InsertErr := by
  -- taken apart at its last item, the run starts at the empty builder
  rw [← List.reverse_reverse items]
  induction items.reverse with
  | nil => exact .ok ⟨⟨[], rfl, rfl⟩, .inl rfl, nofun⟩
  | cons q r ih =>
    obtain ⟨d, it⟩ := q
    rw [List.reverse_cons, addAll_append]
    refine .bind (ih.imp ?_)
    intro b _ hfed
    obtain ⟨ts, hb, hl⟩ := hfed.stack
    have hd := hfed.depth
    subst hb
    rw [addAll_cons]
    refine .bind ((insert_post H _ _ d).imp ?_)
    intro b1 hi h1
    obtain ⟨ts1, e1, hl1⟩ := insert_inv H ts (Item.toTree it) d b1 hi
    refine .ok ⟨⟨ts1, e1, ?_⟩, .inr h1, List.forall_mem_append.2 ⟨hd, List.forall_mem_singleton.2 (insert_ok hi).1⟩⟩
    rw [hl1, hl]
    cases it <;> rfl

/-- `isComplete` is false of every other shape -/
theorem ghost_complete {ts : List (Option Tree)} (hc : isComplete (ghost H ts) = true) : ∃ t, ts = [some t] :=
  match ts, hc with
  | [some t], _ => ⟨t, rfl⟩

theorem builder_sound (items : List (Nat × Item)) (b : Builder) (hok : addAll H [] items = .ok b)
    (hc : isComplete b = true) : ∃ t : Tree, items = t.dfs 0 ∧ b = [some (info H t)] ∧ t.height ≤ maxDepth := by
  have hfed := (addAll_post H items).of_ok hok
  obtain ⟨ts, rfl, hl⟩ := hfed.stack
  obtain ⟨t, rfl⟩ := ghost_complete H hc
  rw [listing_singleton] at hl
  refine ⟨t, hl.symm, rfl, ?_⟩
  -- the deepest item of the listing sits at the height of the tree
  obtain ⟨p, hp, hpe⟩ := dfs_depth_max t 0
  rw [Nat.zero_add] at hpe
  exact hpe ▸ hfed.depth p (hl ▸ hp)

theorem buildTree_eq (items : List (Nat × Item)) : buildTree H items = (addAll H [] items).bind finalizeNode := by
  rw [buildTree]
  cases addAll H [] items <;> rfl

/-- the `expect` of `finalize` is dead -/
theorem finalizeNode_post (b : Builder) (hb : b = [] ∨ ∃ x rest, b = some x :: rest) :
    (finalizeNode b).Post (fun n => b = [some n]) := by
  rcases hb with rfl | ⟨x, rest, rfl⟩
  · exact .err trivial
  · refine .guard fun hlen => ?_
    match rest, hlen with
    | [], _ => exact .ok rfl
    | _ :: _, hlen => exact absurd (Nat.succ_lt_succ (Nat.succ_pos _)) hlen

theorem buildTree_post (items : List (Nat × Item)) :
    (buildTree H items).Post fun n => ∃ t : Tree, items = t.dfs 0 ∧ t.height ≤ maxDepth ∧ n = info H t := by
  rw [buildTree_eq]
  -- which of the refusals an error is, is forgotten here
  have hrun := (addAll_post H items).imp_err (E' := fun _ => True) fun _ _ => trivial
  refine .bind (hrun.imp ?_)
  intro b hok hfed
  refine (finalizeNode_post b hfed.top).imp ?_
  intro n _ hn
  subst hn
  obtain ⟨t, e1, e2, e3⟩ := builder_sound H items _ hok rfl
  cases e2
  exact ⟨t, e1, e3, rfl⟩

end EV.Proofs.TaprootBuilder
