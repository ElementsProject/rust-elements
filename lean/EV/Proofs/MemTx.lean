/-
  The in-memory transport of the line protocol (`EV.Driver.MemTx`) is faithful: what the harness writes for a
  transaction value is read back by the driver as exactly that value — including the values the consensus
  encoding cannot carry (an all-ones outpoint index together with a pegin flag or an issuance).
-/
import EV.Driver.MemTx
import EV.Proofs.CodecTx
namespace EV.Proofs.MemTx
open EV EV.Codec EV.Proofs.CodecPrim EV.Proofs.CodecTx EV.Driver.MemTx

variable (P : Prims)

/-- field sizes only — NO relation between the index and the flags -/
def wfIn (i : TxIn) : Prop :=
  i.previousOutput.wf ∧ i.scriptSig.length ≤ maxVecSize ∧ i.sequence < 2^32 ∧ i.assetIssuance.wf P ∧ i.witness.wf P

def wfOut (o : TxOut) : Prop := o.wfBody P ∧ o.witness.wf P

def wfTx (t : Tx) : Prop :=
  t.version < 2^32 ∧ t.lockTime < 2^32 ∧ t.input.length ≤ maxVecSize ∧ t.output.length ≤ maxVecSize ∧
  (∀ i ∈ t.input, wfIn P i) ∧ (∀ o ∈ t.output, wfOut P o)

theorem decIn_complete (i : TxIn) (r : Bytes) (h : wfIn P i) : decIn P (encIn i ++ r) = .ok (i, r) := by
  obtain ⟨h1, h2, h3, h4, h5⟩ := h
  obtain ⟨op, pg, ss, sq, iss, wit⟩ := i
  simp only at h1 h2 h3 h4 h5
  have c1 := fun rr => outpoint_lawful.complete op rr h1
  have c2 := fun rr => bytesVec_lawful.complete ss rr h2
  have c3 := fun rr => (le_lawful 4).complete sq rr (by omega)
  have c4 := fun rr => (issuance_lawful P).complete iss rr h4
  have c5 := fun rr => (txInWitness_lawful P).complete wit rr h5
  cases pg
  · simp only [decIn, encIn, List.append_assoc, c1, Bool.false_eq_true, if_false, List.cons_append, List.nil_append, u8,
      c2, c3, c4, c5]
    simp
  · simp only [decIn, encIn, List.append_assoc, c1, if_true, List.cons_append, List.nil_append, u8,
      c2, c3, c4, c5]
    simp

theorem decOut_complete (o : TxOut) (r : Bytes) (h : wfOut P o) : decOut P (encOut o ++ r) = .ok (o, r) := by
  obtain ⟨h1, h2⟩ := h
  obtain ⟨a, v, n, spk, wit⟩ := o
  have c1 := fun rr => (txOut_lawful P).complete ⟨a, v, n, spk, TxOutWitness.empty⟩ rr ⟨h1, rfl⟩
  have c2 := fun rr => (txOutWitness_lawful P).complete wit rr h2
  have he : TxOut.enc ⟨a, v, n, spk, wit⟩ = TxOut.enc ⟨a, v, n, spk, TxOutWitness.empty⟩ := rfl
  simp only [decOut, encOut, List.append_assoc, he, c1, c2]

theorem dec_complete (t : Tx) (r : Bytes) (h : wfTx P t) : dec P (enc t ++ r) = .ok (t, r) := by
  obtain ⟨h1, h2, h3, h4, h5, h6⟩ := h
  obtain ⟨v, lt, ins, outs⟩ := t
  simp only at h1 h2 h3 h4 h5 h6
  have c1 := fun rr => (le_lawful 4).complete v rr (by omega)
  have c2 := fun rr => (le_lawful 4).complete lt rr (by omega)
  have c3 := fun rr => vecOf_complete 1 Nat.one_pos (decIn P) encIn (wfIn P) (decIn_complete P) ins rr
    (by omega) h5
  have c4 := fun rr => vecOf_complete 1 Nat.one_pos (decOut P) encOut (wfOut P) (decOut_complete P) outs rr
    (by omega) h6
  simp only [dec, enc, List.append_assoc, c1, c2, c3, c4]

/-- such an input survives `enc`/`dec` unchanged; its consensus encoding does not decode back to it -/
example (P : Prims) (i : TxIn) (hi : wfIn P i) (_hidx : i.previousOutput.vout = 0xffffffff) (hp : i.isPegin = true) :
    (decIn P (encIn i)).map (fun p => p.1.isPegin) = .ok true := by
  have := decIn_complete P i [] hi
  simp only [List.append_nil] at this
  simp [this, Res.map, Res.bind, hp]

end EV.Proofs.MemTx
