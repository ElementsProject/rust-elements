/-
  Bridge between C11 (`TxIn::issuance_ids`, model `EV.TxIn.issuanceIds`) and C05
  (`Transaction::verify_tx_amt_proofs`, model `EV.Blind.verify`).

  The Blind model takes the two ids of an input as parameters (`Blind.TxIn.assetId`, `.tokenId`);
  `verify_tx_amt_proofs` (src/blind.rs) instantiates them:

      if inp.has_issuance() {
          let (asset_id, token_id) = inp.issuance_ids();
          let arr = [(inp.asset_issuance.amount, asset_id), (inp.asset_issuance.inflation_keys, token_id)];
          for (amt, asset) in &arr { … Generator::new_unblinded(secp, asset.into_tag()) … }

  `blindIn` is that instantiation.  The last part shows that the blinder's pseudo-inputs of C09
  (`PartiallySignedTransaction::surjection_inputs`, model `EV.PsetBlind.Inp.issued`) carry the same ids.
-/
import EV.Model.PsetBlind
import EV.Proofs.IssuanceBridge
import EV.Proofs.BlindC05

namespace EV.Proofs.BridgeIssuanceBlind
open EV EV.Codec EV.Issuance EV.Proofs.Issuance EV.Proofs.IssuanceBridge

variable {Pt RP SP : Type}

/-- a consensus `confidential::Value` as `verify_tx_amt_proofs` reads it (`match amt { Null, Explicit(v),
    Confidential(comm) }`); `pt` reads the 33 commitment bytes as a point -/
def cvalue (pt : Bytes → Pt) : Value → Blind.CValue Pt
  | .null => .null
  | .explicit n => .explicit n
  | .conf c => .conf (pt c)

/-- the components of `TxIn::issuance_ids()` (it never panics: `ids_eq`) -/
def assetIdOf (H : Hashes) (t : EV.TxIn) : Bytes := ((t.issuanceIds H).getD ([], [])).1

def tokenIdOf (H : Hashes) (t : EV.TxIn) : Bytes := ((t.issuanceIds H).getD ([], [])).2

/-- The Blind view of a consensus input, as an `Option` (`none` = `issuance_ids` would panic). -/
def blindIn? (H : Hashes) (pt : Bytes → Pt) (t : EV.TxIn) : Option (Blind.TxIn Bytes Pt) :=
  match t.issuanceIds H with
  | none => none
  | some (a, tk) =>
    some { amount := cvalue pt t.assetIssuance.amount, keys := cvalue pt t.assetIssuance.inflationKeys,
           assetId := a, tokenId := tk }

/-- the instantiation quoted at the head of the file, with the ids of `TxIn::issuance_ids`
    (src/transaction.rs), whose `into_tag()` (the 32 bytes unchanged, C11 `assetid_accessors`) goes into
    `Generator::new_unblinded` -/
def blindIn (H : Hashes) (pt : Bytes → Pt) (t : EV.TxIn) : Blind.TxIn Bytes Pt :=
  { amount := cvalue pt t.assetIssuance.amount
    keys := cvalue pt t.assetIssuance.inflationKeys
    assetId := assetIdOf H t
    tokenId := tokenIdOf H t }

variable (H : Hashes) (pt : Bytes → Pt)

theorem ids_eq (t : EV.TxIn) : t.issuanceIds H = some (assetIdOf H t, tokenIdOf H t) := by
  unfold assetIdOf tokenIdOf
  rw [txin_ids_eq]
  rfl

theorem ids_of_some (t : EV.TxIn) (a tk : Bytes) (h : t.issuanceIds H = some (a, tk)) :
    assetIdOf H t = a ∧ tokenIdOf H t = tk := by
  unfold assetIdOf tokenIdOf
  rw [h]
  exact ⟨rfl, rfl⟩

theorem blindIn?_eq (t : EV.TxIn) : blindIn? H pt t = some (blindIn H pt t) := by
  unfold blindIn? blindIn
  rw [ids_eq H t]

theorem cvalue_isNull (v : Value) : (cvalue pt v).isNull = v.isNull := by cases v <;> rfl

theorem cvalue_eq_explicit (v : Value) (n : Nat) : cvalue pt v = .explicit n ↔ v = .explicit n := by
  cases v <;> simp [cvalue]

/-- both sides model `TxIn::has_issuance` -/
theorem hasIssuance_blindIn (t : EV.TxIn) : (blindIn H pt t).hasIssuance = t.hasIssuance := by
  simp only [Blind.TxIn.hasIssuance, blindIn, cvalue_isNull, EV.TxIn.hasIssuance, AssetIssuance.isNull]

theorem issOk_blindIn (t : EV.TxIn) :
    Blind.IssOk (blindIn H pt t) ↔
      t.assetIssuance.amount ≠ .explicit 0 ∧ t.assetIssuance.inflationKeys ≠ .explicit 0 := by
  simp only [Blind.IssOk, blindIn, ne_eq, cvalue_eq_explicit]

/-- what one issuance amount contributes for the id `id`: nothing when null, else the pair
    (`Generator::new_unblinded(id.into_tag())`, commitment), an explicit amount `n` being committed
    as `PedersenCommitment::new_unblinded(n, gen)` -/
def issTerm (V : Blind.VPrims Bytes Pt RP SP) (pt : Bytes → Pt) (id : Bytes) : Value → List (Pt × Pt)
  | .null => []
  | .explicit n => [(V.genUnblinded id, V.commitUnblinded n (V.genUnblinded id))]
  | .conf c => [(V.genUnblinded id, pt c)]

/-- the ids one input adds to the surjection domain -/
def issuedIds (H : Hashes) (t : EV.TxIn) : List Bytes :=
  (if t.assetIssuance.amount.isNull then [] else [assetIdOf H t]) ++
  (if t.assetIssuance.inflationKeys.isNull then [] else [tokenIdOf H t])

def issTerms (V : Blind.VPrims Bytes Pt RP SP) (H : Hashes) (pt : Bytes → Pt) (t : EV.TxIn) : List (Pt × Pt) :=
  issTerm V pt (assetIdOf H t) t.assetIssuance.amount ++
  issTerm V pt (tokenIdOf H t) t.assetIssuance.inflationKeys

variable (V : Blind.VPrims Bytes Pt RP SP)

theorem issTerm_fst (id : Bytes) (v : Value) :
    (issTerm V pt id v).map Prod.fst = if v.isNull then [] else [V.genUnblinded id] := by
  cases v <;> rfl

theorem issTerm_snd (id : Bytes) (v : Value) :
    (issTerm V pt id v).map Prod.snd =
      match v with
      | .null => []
      | .explicit n => [V.commitUnblinded n (V.genUnblinded id)]
      | .conf c => [pt c] := by
  cases v <;> rfl

theorem issTerms_fst (t : EV.TxIn) :
    (issTerms V H pt t).map Prod.fst = (issuedIds H t).map V.genUnblinded := by
  unfold issTerms issuedIds
  rw [List.map_append, List.map_append, issTerm_fst, issTerm_fst]
  cases t.assetIssuance.amount.isNull <;> cases t.assetIssuance.inflationKeys.isNull <;> rfl

theorem issuancePair_cvalue (id : Bytes) (v : Value) (h : v ≠ .explicit 0) :
    Blind.issuancePair V (cvalue pt v) id = some (issTerm V pt id v) := by
  cases v with
  | null => rfl
  | explicit n =>
    have hn : n ≠ 0 := fun e => h (by rw [e])
    simp only [cvalue, Blind.issuancePair, issTerm]
    rw [if_neg hn]
  | conf c => rfl

theorem issuancePairs_blindIn (t : EV.TxIn)
    (ha : t.assetIssuance.amount ≠ .explicit 0) (hk : t.assetIssuance.inflationKeys ≠ .explicit 0) :
    Blind.issuancePairs V (blindIn H pt t) = some (issTerms V H pt t) := by
  simp only [Blind.issuancePairs_eq, blindIn, issuancePair_cvalue pt V _ _ ha, issuancePair_cvalue pt V _ _ hk]
  rfl

/-- `none` is the error `IssuanceTransactionInput` -/
theorem issuancePairs_blindIn_none_iff (t : EV.TxIn) :
    Blind.issuancePairs V (blindIn H pt t) = none ↔
      (t.assetIssuance.amount = .explicit 0 ∨ t.assetIssuance.inflationKeys = .explicit 0) := by
  rw [← Option.not_isSome_iff_eq_none, Blind.issuancePairs_isSome, issOk_blindIn, not_and_or, not_not, not_not]

/-- `Blind.pairsOf` of the Blind view in terms of C11; on acceptable inputs (`idsPairs_spec`) its projections
    are `idsDomain`, the surjection domain, and `idsCommits`, the input side of the balance -/
def idsPairs (V : Blind.VPrims Bytes Pt RP SP) (H : Hashes) (pt : Bytes → Pt) :
    List EV.TxIn → List (Blind.TxOut Bytes Pt RP SP) → List (Pt × Pt)
  | t :: ts, u :: us => (Blind.spentPair? V u).toList ++ issTerms V H pt t ++ idsPairs V H pt ts us
  | _, _ => []

def idsDomain (V : Blind.VPrims Bytes Pt RP SP) (H : Hashes) :
    List EV.TxIn → List (Blind.TxOut Bytes Pt RP SP) → List Pt
  | t :: ts, u :: us =>
    (Blind.assetGen V u.asset).toList ++ (issuedIds H t).map V.genUnblinded ++ idsDomain V H ts us
  | _, _ => []

def idsCommits (V : Blind.VPrims Bytes Pt RP SP) (H : Hashes) (pt : Bytes → Pt) :
    List EV.TxIn → List (Blind.TxOut Bytes Pt RP SP) → List Pt
  | t :: ts, u :: us =>
    (Blind.outCommit? V u).toList ++ (issTerms V H pt t).map Prod.snd ++ idsCommits V H pt ts us
  | _, _ => []

/-- `Blind.SpentOk ∧ Blind.IssOk` at every position, read on the consensus inputs (`insOk_iff`) -/
def InsOk (ins : List EV.TxIn) (utxos : List (Blind.TxOut Bytes Pt RP SP)) : Prop :=
  ∀ p ∈ ins.zip utxos, Blind.SpentOk p.2 ∧
    p.1.assetIssuance.amount ≠ .explicit 0 ∧ p.1.assetIssuance.inflationKeys ≠ .explicit 0

section lists
variable (ins : List EV.TxIn) (utxos : List (Blind.TxOut Bytes Pt RP SP))

theorem insOk_iff :
    (∀ p ∈ (ins.map (blindIn H pt)).zip utxos, Blind.SpentOk p.2 ∧ Blind.IssOk p.1) ↔ InsOk ins utxos := by
  simp only [InsOk, List.zip_map_left, List.forall_mem_map, Prod.map_fst, Prod.map_snd, id, issOk_blindIn]

theorem idsPairs_spec (h : InsOk ins utxos) :
    Blind.domainOf V (ins.map (blindIn H pt)) utxos = idsDomain V H ins utxos ∧
    Blind.inCommitsOf V (ins.map (blindIn H pt)) utxos = idsCommits V H pt ins utxos ∧
    Blind.pairsOf V (ins.map (blindIn H pt)) utxos = idsPairs V H pt ins utxos := by
  unfold Blind.domainOf Blind.inCommitsOf
  induction ins generalizing utxos with
  | nil => exact ⟨rfl, rfl, rfl⟩
  | cons t ts ih =>
    cases utxos with
    | nil => exact ⟨rfl, rfl, rfl⟩
    | cons u us =>
      obtain ⟨h0, hr⟩ := List.forall_mem_cons.mp h
      obtain ⟨ih1, ih2, ih3⟩ := ih us hr
      obtain ⟨g, c, hg, hc⟩ := (Blind.spentOk_iff V u).1 h0.1
      rw [ih3] at ih1 ih2
      simp only [List.map_cons, Blind.pairsOf, idsPairs, idsDomain, idsCommits, List.map_append, ih1, ih2, ih3,
        issuancePairs_blindIn H pt V t h0.2.1 h0.2.2, Option.getD_some, issTerms_fst, Blind.spentPair?,
        Blind.outCommit?, hg, hc, Option.toList_some, List.map_nil, and_self]

end lists

theorem assetIdOf_eq (t : EV.TxIn) :
    assetIdOf H t = H.comb (entropyOf H t.previousOutput t.assetIssuance.nonce t.assetIssuance.entropy) assetLeaf := by
  unfold assetIdOf
  rw [txin_ids_eq]
  rfl

theorem tokenIdOf_eq (t : EV.TxIn) :
    tokenIdOf H t = H.comb (entropyOf H t.previousOutput t.assetIssuance.nonce t.assetIssuance.entropy)
      (tokenLeaf t.assetIssuance.amount.isConf) := by
  unfold tokenIdOf
  rw [txin_ids_eq]
  rfl

/-- the ids are `AssetId::from_entropy` / `reissuance_token_from_entropy` of the input's entropy -/
theorem ids_from_entropy (t : EV.TxIn) :
    fromEntropy H (entropyOf H t.previousOutput t.assetIssuance.nonce t.assetIssuance.entropy) = some (assetIdOf H t) ∧
    reissuanceTokenFromEntropy H (entropyOf H t.previousOutput t.assetIssuance.nonce t.assetIssuance.entropy)
      t.assetIssuance.amount.isConf = some (tokenIdOf H t) := by
  rw [fromEntropy_eq, token_eq, assetIdOf_eq, tokenIdOf_eq]
  exact ⟨rfl, rfl⟩

/-- new issuance (zero blinding nonce) -/
theorem assetIdOf_new (t : EV.TxIn) (h : t.assetIssuance.nonce = Issuance.zero32) :
    assetIdOf H t =
      H.comb (H.comb (H.sha256d (t.previousOutput.txid ++ encLe 4 t.previousOutput.vout)) t.assetIssuance.entropy)
        (List.replicate 32 0) := by
  rw [assetIdOf_eq, assetLeaf_eq]
  simp only [entropyOf, h, if_true]

/-- reissuance (non-zero nonce): the outpoint does not enter -/
theorem assetIdOf_reissuance (t : EV.TxIn) (h : t.assetIssuance.nonce ≠ Issuance.zero32) :
    assetIdOf H t = H.comb t.assetIssuance.entropy (List.replicate 32 0) := by
  rw [assetIdOf_eq, assetLeaf_eq]
  simp only [entropyOf, h, if_false]

theorem tokenIdOf_new (t : EV.TxIn) (h : t.assetIssuance.nonce = Issuance.zero32) :
    tokenIdOf H t =
      H.comb (H.comb (H.sha256d (t.previousOutput.txid ++ encLe 4 t.previousOutput.vout)) t.assetIssuance.entropy)
        ((if t.assetIssuance.amount.isConf then 2 else 1) :: List.replicate 31 0) := by
  rw [tokenIdOf_eq, tokenLeaf_eq]
  simp only [entropyOf, h, if_true]

theorem tokenIdOf_reissuance (t : EV.TxIn) (h : t.assetIssuance.nonce ≠ Issuance.zero32) :
    tokenIdOf H t =
      H.comb t.assetIssuance.entropy ((if t.assetIssuance.amount.isConf then 2 else 1) :: List.replicate 31 0) := by
  rw [tokenIdOf_eq, tokenLeaf_eq]
  simp only [entropyOf, h, if_false]

/-- a reissuance `r` carrying the entropy `generate_asset_entropy` derives for the new issuance `i` has the
    asset id of `i`, whatever outpoint it spends -/
theorem reissuance_same_asset (i r : EV.TxIn) (hi : i.assetIssuance.nonce = Issuance.zero32)
    (hr : r.assetIssuance.nonce ≠ Issuance.zero32)
    (he : generateAssetEntropy H i.previousOutput i.assetIssuance.entropy = some r.assetIssuance.entropy) :
    assetIdOf H r = assetIdOf H i := by
  rw [entropy_eq] at he
  injection he with he
  rw [assetIdOf_new H i hi, assetIdOf_reissuance H r hr, he]

/-- likewise for the token id when both amounts are blinded or neither is: the token leaf reads
    `amount.is_confidential()` of the input at hand -/
theorem reissuance_same_token (i r : EV.TxIn) (hi : i.assetIssuance.nonce = Issuance.zero32)
    (hr : r.assetIssuance.nonce ≠ Issuance.zero32)
    (he : generateAssetEntropy H i.previousOutput i.assetIssuance.entropy = some r.assetIssuance.entropy)
    (hf : r.assetIssuance.amount.isConf = i.assetIssuance.amount.isConf) :
    tokenIdOf H r = tokenIdOf H i := by
  rw [entropy_eq] at he
  injection he with he
  rw [tokenIdOf_new H i hi, tokenIdOf_reissuance H r hr, he, hf]

theorem same_asset_same_entropy (a b : EV.TxIn) (h : assetIdOf H a = assetIdOf H b) :
    entropyOf H a.previousOutput a.assetIssuance.nonce a.assetIssuance.entropy =
      entropyOf H b.previousOutput b.assetIssuance.nonce b.assetIssuance.entropy ∨ Coll2 H.comb := by
  apply assetId_commits
  rw [(ids_from_entropy H a).1, (ids_from_entropy H b).1, h]

/-- in particular an explicit and a confidential issuance of the same entropy have different token ids -/
theorem same_token_same_entropy_flag (a b : EV.TxIn) (h : tokenIdOf H a = tokenIdOf H b) :
    (entropyOf H a.previousOutput a.assetIssuance.nonce a.assetIssuance.entropy =
      entropyOf H b.previousOutput b.assetIssuance.nonce b.assetIssuance.entropy ∧
     a.assetIssuance.amount.isConf = b.assetIssuance.amount.isConf) ∨ Coll2 H.comb := by
  apply tokenId_commits
  rw [(ids_from_entropy H a).2, (ids_from_entropy H b).2, h]

theorem asset_ne_token_ids (a b : EV.TxIn) (h : assetIdOf H a = tokenIdOf H b) : Coll2 H.comb := by
  apply asset_ne_token H _ _ b.assetIssuance.amount.isConf
  rw [(ids_from_entropy H a).1, (ids_from_entropy H b).2, h]

/-- converse of `reissuance_same_asset` -/
theorem same_asset_quotes_entropy (i r : EV.TxIn) (hi : i.assetIssuance.nonce = Issuance.zero32)
    (hr : r.assetIssuance.nonce ≠ Issuance.zero32) (h : assetIdOf H r = assetIdOf H i) :
    generateAssetEntropy H i.previousOutput i.assetIssuance.entropy = some r.assetIssuance.entropy ∨
      Coll2 H.comb := by
  rcases same_asset_same_entropy H r i h with he | hc
  · left
    simp only [entropyOf, hi, hr, if_true, if_false] at he
    rw [entropy_eq, he]
  · exact Or.inr hc

def setAmount (t : EV.TxIn) (v : Value) : EV.TxIn :=
  { t with assetIssuance := { t.assetIssuance with amount := v } }

/-- `issuance_ids` reads only `amount.is_confidential()` -/
theorem blindIn_setAmount_explicit (t : EV.TxIn) (v v' : Nat) (hamt : t.assetIssuance.amount = .explicit v) :
    blindIn H pt (setAmount t (.explicit v')) = { blindIn H pt t with amount := .explicit v' } := by
  have h : (setAmount t (.explicit v')).issuanceIds H = t.issuanceIds H := by
    unfold TxIn.issuanceIds
    rw [hamt]
    rfl
  unfold blindIn assetIdOf tokenIdOf
  rw [h]
  rfl

section tamper
variable {R M : Type} [CommRing R] [AddCommGroup M] [Module R M]

/-- changing an explicit issuance amount of a consensus input breaks verification: `tamper_issuance` of C05
    with the torsion hypothesis on the tag of the asset id `TxIn::issuance_ids()` derives.
    `H` and `pt` are bound afresh, not taken from the `variable` line: the point type is the module `M` here. -/
theorem tamper_issuance_ids (cv : Blind.Curve R M Bytes) (V : Blind.VPrims Bytes M RP SP) (hV : Blind.AlgV cv V)
    (H : Hashes) (pt : Bytes → M)
    (outs : List (Blind.TxOut Bytes M RP SP)) (ipre ipost : List EV.TxIn) (t : EV.TxIn)
    (upre upost : List (Blind.TxOut Bytes M RP SP)) (u : Blind.TxOut Bytes M RP SP)
    (hl : upre.length = ipre.length)
    (v v' : Nat) (B : Nat) (hamt : t.assetIssuance.amount = .explicit v) (hne : v ≠ v')
    (hvB : v < B) (hvB' : v' < B)
    (hT : Blind.NoTorsion R (cv.tag (assetIdOf H t)) B) :
    ¬ (Blind.verify V ((ipre ++ t :: ipost).map (blindIn H pt)) outs (upre ++ u :: upost) = .ok ∧
       Blind.verify V ((ipre ++ setAmount t (.explicit v') :: ipost).map (blindIn H pt)) outs
         (upre ++ u :: upost) = .ok) := by
  rw [List.map_append, List.map_cons, List.map_append, List.map_cons,
    blindIn_setAmount_explicit H pt t v v' hamt]
  exact Blind.tamper_issuance' hV outs _ _ (blindIn H pt t) upre upost u
    (hl.trans (List.length_map _).symm) v v' B (congrArg (cvalue pt) hamt) hne hvB hvB' hT

end tamper

/-! ## C09

  `EV.PsetBlind.Inp.issued` (abstract asset ids, `Nat`) is a parameter of the C09 model;
  `surjection_inputs` (src/pset/mod.rs) fills it from `pset::Input::issuance_ids()`:
  `asset_id` if `issuance_value_amount` or `issuance_value_comm` is set, `token_id` if
  `issuance_inflation_keys` or `issuance_inflation_keys_comm` is.  `code` names the ids as `Nat`s. -/

/-- the C09 view of a PSET input (C11 model `IssPsetInput`), `hasUtxo` and `blinded_issuance` given -/
def psetInp (H : Hashes) (code : Bytes → Nat) (hasUtxo : Bool) (blindedIssuance : Option Nat)
    (p : IssPsetInput) : PsetBlind.Inp :=
  { hasUtxo := hasUtxo
    hasIssuance := p.hasIssuance
    blindedIssuance := blindedIssuance
    issued :=
      (if p.issuanceValueAmount.isSome || p.issuanceValueComm.isSome
        then [code ((p.issuanceIds H).getD ([], [])).1] else []) ++
      (if p.issuanceInflationKeys.isSome || p.issuanceInflationKeysComm.isSome
        then [code ((p.issuanceIds H).getD ([], [])).2] else []) }

theorem valueOf_isNull (a : Option Nat) (c : Option Bytes) :
    (a.isSome || c.isSome) = !(IssPsetInput.valueOf a c).isNull := by
  cases a <;> cases c <;> rfl

theorem hasIssuance_fromTxin (t : EV.TxIn) : (IssPsetInput.fromTxin t).hasIssuance = t.hasIssuance := by
  simp only [IssPsetInput.hasIssuance, IssPsetInput.assetIssuance, AssetIssuance.isNull, fromTxin_amount,
    fromTxin_keys, EV.TxIn.hasIssuance]

/-- the PSET built from a canonical input puts into the blinder's surjection domain the list `issuedIds`
    whose generators `verify` uses (`idsDomain`) -/
theorem psetInp_fromTxin (code : Bytes → Nat) (u : Bool) (b : Option Nat) (t : EV.TxIn)
    (h : IndexOk t.previousOutput.vout t.isPegin t.hasIssuance) (hi : IssuanceOk t) :
    psetInp H code u b (IssPsetInput.fromTxin t) =
      { hasUtxo := u, hasIssuance := t.hasIssuance, blindedIssuance := b,
        issued := (issuedIds H t).map code } := by
  unfold psetInp issuedIds
  rw [ids_agree_pset H t h hi, hasIssuance_fromTxin, valueOf_isNull, valueOf_isNull, fromTxin_amount,
    fromTxin_keys]
  cases t.assetIssuance.amount.isNull <;> cases t.assetIssuance.inflationKeys.isNull <;> rfl

theorem issuedIds_of_no_issuance (t : EV.TxIn) (h : t.hasIssuance = false) : issuedIds H t = [] := by
  have hn := amounts_null_of_not_hasIssuance t h
  unfold issuedIds
  rw [hn.1, hn.2]
  rfl

theorem issuedAssets_fromTxin (code : Bytes → Nat) :
    ∀ (l : List (EV.TxIn × Bool × Option Nat)),
      (∀ x ∈ l, IndexOk x.1.previousOutput.vout x.1.isPegin x.1.hasIssuance ∧ IssuanceOk x.1) →
      PsetBlind.issuedAssets (l.map (fun x => psetInp H code x.2.1 x.2.2 (IssPsetInput.fromTxin x.1))) =
        l.flatMap (fun x => (issuedIds H x.1).map code)
  | [], _ => rfl
  | x :: l, h => by
    obtain ⟨h0, hr⟩ := List.forall_mem_cons.mp h
    have ih := issuedAssets_fromTxin code l hr
    rw [List.map_cons, List.flatMap_cons, PsetBlind.issuedAssets, ih, psetInp_fromTxin H code _ _ _ h0.1 h0.2]
    cases hq : x.1.hasIssuance
    · rw [issuedIds_of_no_issuance H x.1 hq]
      rfl
    · rfl

/-! ## an instance over `Bytes` asset ids: the algebraic hypotheses are not vacuous -/
namespace Inst

abbrev PtB := Option Bytes → ℤ

def cvB : Blind.Curve ℤ PtB Bytes := ⟨Pi.single none 1, fun b => Pi.single (some b) 1⟩

noncomputable def VB : Blind.VPrims Bytes PtB Unit Unit where
  genUnblinded := cvB.tag
  commitUnblinded := fun v g => (v : ℤ) • g
  rangeVerify := fun _ _ _ _ => true
  surjVerify := fun _ _ _ => true
  sumEqual := fun l r => @decide (l.sum = r.sum) (Classical.propDecidable _)

theorem algVB : Blind.AlgV cvB VB := ⟨fun _ => rfl, fun _ _ => rfl, fun l r => by simp [VB]⟩

theorem noTorsion_tagB (B : Nat) (a : Bytes) : Blind.NoTorsion ℤ (cvB.tag a) B := by
  intro k hk _ h
  have := congrFun h (some a)
  simp [cvB] at this
  omega

end Inst

end EV.Proofs.BridgeIssuanceBlind
