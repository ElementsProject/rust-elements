/-
  EV.Proofs.PsetLockKind — with requirements typed as in Rust (`locktime::Height` is below
  `LOCK_TIME_THRESHOLD`, `locktime::Time` at or above it; the constant is regenerated from
  src/locktime.rs), the selected lock time is a block height exactly when every constraining
  input supports a height lock: height is preferred whenever it is possible.
-/
import EV.Proofs.PsetLocktime
import EV.Gen.Consts
namespace EV.Proofs.PsetLockKind
open EV EV.Proofs.PsetLocktime

/-- requirements as plain numbers, bounded as `locktime::Time` and `locktime::Height` bound them -/
def WellTyped (reqs : List LockReq) : Prop :=
  ∀ r ∈ reqs, (∀ t, r.1 = some t → EV.Gen.lockTimeThreshold ≤ t) ∧ (∀ h, r.2 = some h → h < EV.Gen.lockTimeThreshold)

theorem cs_all_iff (reqs : List LockReq) (p : LockReq → Bool) :
    (reqs.filter constraining).all p = true ↔ ∀ r ∈ reqs, constraining r = true → p r = true := by
  simp only [List.all_eq_true, List.mem_filter, and_imp]

/-- `n` is the greatest requirement of the kind `f` that an input states -/
structure Greatest (f : LockReq → Option Nat) (reqs : List LockReq) (n : Nat) : Prop where
  stated : ∃ r ∈ reqs, f r = some n
  le : ∀ r ∈ reqs, ∀ x, f r = some x → x ≤ n

theorem greatest_maxList (f : LockReq → Option Nat) {reqs : List LockReq} {r : LockReq}
    (hr : r ∈ reqs) (hs : (f r).isSome = true) : Greatest f reqs (maxList (reqs.filterMap f)) := by
  obtain ⟨x, hx⟩ := Option.isSome_iff_exists.mp hs
  exact ⟨List.mem_filterMap.mp (maxList_mem (List.ne_nil_of_mem (List.mem_filterMap.mpr ⟨r, hr, hx⟩))),
    fun r' hr' x' hx' => le_maxList (List.mem_filterMap.mpr ⟨r', hr', hx'⟩)⟩

theorem ok_cases (fb : Option Nat) (reqs : List LockReq) (n : Nat) (h : locktimeOf fb reqs = .ok n) :
    ((∀ r ∈ reqs, constraining r = false) ∧ n = fb.getD 0) ∨
    ((∃ r ∈ reqs, constraining r = true) ∧ (∀ r ∈ reqs, constraining r = true → r.2.isSome = true) ∧
        n = maxList (reqs.filterMap (·.2))) ∨
    ((∃ r ∈ reqs, constraining r = true) ∧ (∃ r ∈ reqs, constraining r = true ∧ r.2.isSome = false) ∧
        (∀ r ∈ reqs, constraining r = true → r.1.isSome = true) ∧
        n = maxList (reqs.filterMap (·.1))) := by
  rw [locktimeOf_eq_bip370, bip370] at h
  by_cases he : (reqs.filter constraining).isEmpty = true
  · rw [if_pos he] at h
    cases h
    exact Or.inl ⟨(cs_isEmpty_iff reqs).mp he, rfl⟩
  · have hex : ∃ r ∈ reqs, constraining r = true := by
      obtain ⟨r, hm⟩ := List.exists_mem_of_ne_nil _ (mt List.isEmpty_iff.mpr he)
      exact ⟨r, List.mem_filter.mp hm⟩
    rw [if_neg he] at h
    by_cases hall : (reqs.filter constraining).all (fun r => r.2.isSome) = true
    · rw [if_pos hall] at h
      cases h
      exact Or.inr (Or.inl ⟨hex, (cs_all_iff reqs _).mp hall, rfl⟩)
    · rw [if_neg hall] at h
      obtain ⟨r, hm, hr2⟩ := List.all_eq_false.mp (Bool.not_eq_true _ ▸ hall)
      obtain ⟨hr, hcr⟩ := List.mem_filter.mp hm
      by_cases hallT : (reqs.filter constraining).all (fun r => r.1.isSome) = true
      · rw [if_pos hallT] at h
        cases h
        exact Or.inr (Or.inr ⟨hex, ⟨r, hr, hcr, Bool.not_eq_true _ ▸ hr2⟩, (cs_all_iff reqs _).mp hallT, rfl⟩)
      · rw [if_neg hallT] at h
        cases h

theorem ok_constrained {fb : Option Nat} {reqs : List LockReq} {n : Nat}
    (hc : ∃ r ∈ reqs, constraining r = true) (h : locktimeOf fb reqs = .ok n) :
    ((∀ r ∈ reqs, constraining r = true → r.2.isSome = true) ∧ Greatest (·.2) reqs n) ∨
    (¬ (∀ r ∈ reqs, constraining r = true → r.2.isSome = true) ∧
      (∀ r ∈ reqs, constraining r = true → r.1.isSome = true) ∧ Greatest (·.1) reqs n) := by
  obtain ⟨r, hr, hcr⟩ := hc
  rcases ok_cases fb reqs n h with ⟨hnone, _⟩ | ⟨_, hall, rfl⟩ | ⟨_, ⟨r', hr', hcr', hs'⟩, hallT, rfl⟩
  · rw [hnone r hr] at hcr
    cases hcr
  · exact .inl ⟨hall, greatest_maxList (·.2) hr (hall r hr hcr)⟩
  · refine .inr ⟨fun hall => ?_, hallT, greatest_maxList (·.1) hr (hallT r hr hcr)⟩
    rw [hall r' hr' hcr'] at hs'
    cases hs'

theorem locktime_kind (fb : Option Nat) (reqs : List LockReq) (hw : WellTyped reqs)
    (hc : ∃ r ∈ reqs, constraining r = true) (n : Nat) (h : locktimeOf fb reqs = .ok n) :
    (n < EV.Gen.lockTimeThreshold ↔ ∀ r ∈ reqs, constraining r = true → r.2.isSome = true) := by
  -- the result is a stated requirement, and a stated height is below the threshold, a stated time is not
  rcases ok_constrained hc h with ⟨hall, ⟨r, hr, hn⟩, -⟩ | ⟨hnall, -, ⟨r, hr, hn⟩, -⟩
  · exact ⟨fun _ => hall, fun _ => (hw r hr).2 n hn⟩
  · exact ⟨fun hlt => absurd hlt (Nat.not_lt.mpr ((hw r hr).1 n hn)), fun hall => absurd hall hnall⟩

theorem locktime_satisfies (fb : Option Nat) (reqs : List LockReq) (n : Nat) (h : locktimeOf fb reqs = .ok n) :
    (∀ r ∈ reqs, constraining r = true → r.2.isSome = true) → ∀ r ∈ reqs, ∀ x, r.2 = some x → x ≤ n := by
  intro hall r hr x hx
  have hcr : constraining r = true := by
    rw [constraining, hx, Option.isSome_some, Bool.or_true]
  rcases ok_constrained ⟨r, hr, hcr⟩ h with ⟨-, -, hle⟩ | ⟨hnall, -⟩
  · exact hle r hr x hx
  · exact absurd hall hnall

end EV.Proofs.PsetLockKind
