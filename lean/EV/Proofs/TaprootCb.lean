/-
  Control-block codec laws (`from_slice`, `serialize`) and the hash-binding lemmas of taproot commitments
  (model: EV.Model.Taproot).  Hash functions are parameters; binding is stated with explicit
  collision disjuncts.
-/
import EV.Proofs.CodecPrim
import EV.Proofs.TaprootBuilder
namespace EV.Proofs.TaprootCb
open EV EV.Codec EV.Taproot EV.Proofs.TaprootBuilder

/-- two different inputs of `f` with the same digest, exhibited -/
def Collision (f : Bytes → Bytes) : Prop := ∃ x y, x ≠ y ∧ f x = f y

/-- a digest of `f` equal to a digest of `g` (leaf / branch domain separation broken) -/
def Cross (f g : Bytes → Bytes) : Prop := ∃ x y, f x = g y

/-- leaf and branch digests have 32 bytes (true of the SHA-256 tagged hashes; needed to cut a sorted pair in two) -/
structure Len32 (H : TapHashes) : Prop where
  leaf : ∀ x, (H.leaf x).length = 32
  branch : ∀ x, (H.branch x).length = 32

/-- scripts are shorter than 2^64 bytes (compact-size range) and hidden hashes have 32 bytes -/
def ScriptsOk : Tree → Prop
  | .leaf s _ => s.length < 2 ^ 64
  | .hidden h => h.length = 32
  | .node l r => ScriptsOk l ∧ ScriptsOk r

/-- `(script, ver, branch)` is a genuine opening of the tree: the branch is the sibling path of a leaf
    with exactly that script and version, or it ends in (hashes to) a hidden node -/
def Opens (H : TapHashes) : Tree → Bytes → UInt8 → List Bytes → Prop
  | .leaf s v, s', v', b => s = s' ∧ v = v' ∧ b = []
  | .hidden h, s', v', b => ControlBlock.computeRoot H s' v' b = h
  | .node l r, s', v', b =>
    ∃ b' e, b = b' ++ [e] ∧
      ((e = r.merkleRoot H ∧ Opens H l s' v' b') ∨ (e = l.merkleRoot H ∧ Opens H r s' v' b'))

variable (H : TapHashes)

theorem leafPreimage_inj (s s' : Bytes) (v v' : UInt8) (hs : s.length < 2 ^ 64) (hs' : s'.length < 2 ^ 64)
    (h : leafPreimage s v = leafPreimage s' v') : s = s' ∧ v = v' := by
  simp only [leafPreimage, encBytesVec, List.cons.injEq] at h
  obtain ⟨hv, ht⟩ := h
  have := CodecPrim.enc_prefix_free CodecPrim.varint_lawful s.length s'.length s s' hs hs' ht
  exact ⟨this.2, hv⟩

theorem sortedPair_inj (a b c d : Bytes) (ha : a.length = 32) (hc : c.length = 32) (hd : d.length = 32)
    (h : sortedPair a b = sortedPair c d) : (a = c ∧ b = d) ∨ (a = d ∧ b = c) := by
  unfold sortedPair at h
  split at h
  · split at h
    · exact Or.inl (List.append_inj h (ha.trans hc.symm))
    · exact Or.inr (List.append_inj h (ha.trans hd.symm))
  · split at h
    · exact Or.inr (List.append_inj' h (ha.trans hd.symm)).symm
    · exact Or.inl (List.append_inj' h (ha.trans hc.symm)).symm

theorem merkleRoot_len (L : Len32 H) (t : Tree) (ht : ScriptsOk t) : (t.merkleRoot H).length = 32 := by
  cases t with
  | leaf s v => exact L.leaf _
  | hidden h => exact ht
  | node l r => exact L.branch _

theorem computeRoot_len (L : Len32 H) (s : Bytes) (v : UInt8) (b : List Bytes) :
    (ControlBlock.computeRoot H s v b).length = 32 := by
  rcases List.eq_nil_or_concat b with rfl | ⟨b', e, rfl⟩
  · exact L.leaf _
  · rw [List.concat_eq_append, computeRoot_append]
    exact L.branch _

/-- the root has 32 bytes, so the two preimages have different lengths -/
theorem tweakHash_none_some (k k' r : Bytes) (hr : r.length = 32) (hk : k.length = 32) (hk' : k'.length = 32)
    (h : tweakHash H k none = tweakHash H k' (some r)) : Collision H.tweak := by
  simp only [tweakHash, Option.getD_some, Option.getD_none] at h
  refine ⟨_, _, ?_, h⟩
  intro he
  have := congrArg List.length he
  rw [List.length_append, List.length_append, hk, hk', hr] at this
  cases this

theorem opens_of_root_eq (L : Len32 H) (t : Tree) : ∀ (s : Bytes) (v : UInt8) (b : List Bytes),
    ScriptsOk t → s.length < 2 ^ 64 → ControlBlock.computeRoot H s v b = t.merkleRoot H →
    Opens H t s v b ∨ Collision H.leaf ∨ Collision H.branch ∨ Cross H.leaf H.branch := by
  induction t with
  | leaf s0 v0 =>
    intro s v b ht hs h
    rcases List.eq_nil_or_concat b with rfl | ⟨b', e, rfl⟩
    · refine (CodecPrim.eq_or_collision h).imp (fun hp => ?_) Or.inl
      obtain ⟨h1, h2⟩ := leafPreimage_inj s s0 v v0 hs ht hp
      exact ⟨h1.symm, h2.symm, rfl⟩
    · -- a branch hash equal to a leaf hash
      rw [List.concat_eq_append, computeRoot_append] at h
      exact Or.inr (Or.inr (Or.inr ⟨_, _, h.symm⟩))
  | hidden h0 =>
    intro s v b _ _ h
    exact Or.inl h
  | node l r ihl ihr =>
    intro s v b ht hs h
    rcases List.eq_nil_or_concat b with rfl | ⟨b', e, rfl⟩
    · exact Or.inr (Or.inr (Or.inr ⟨_, _, h⟩))
    · rw [List.concat_eq_append] at h ⊢
      rw [computeRoot_append] at h
      rcases CodecPrim.eq_or_collision (f := H.branch) h with hp | hc
      · -- the last path element is one child's root, and the rest of the path opens the other child
        rcases sortedPair_inj _ _ _ _ (computeRoot_len H L s v b')
            (merkleRoot_len H L l ht.1) (merkleRoot_len H L r ht.2) hp with ⟨h1, h2⟩ | ⟨h1, h2⟩
        · exact (ihl s v b' ht.1 hs h1).imp_left fun ho => ⟨b', e, rfl, Or.inl ⟨h2, ho⟩⟩
        · exact (ihr s v b' ht.2 hs h1).imp_left fun ho => ⟨b', e, rfl, Or.inr ⟨h2, ho⟩⟩
      · exact Or.inr (Or.inr (Or.inl hc))

theorem opens_mem_leaves (t : Tree) (hn : t.noHidden = true) : ∀ (s : Bytes) (v : UInt8) (b : List Bytes),
    Opens H t s v b → (⟨s, v, b⟩ : LeafInfo) ∈ (info H t).leaves := by
  induction t with
  | leaf s0 v0 =>
    intro s v b ho
    obtain ⟨rfl, rfl, rfl⟩ := ho
    simp only [info, newLeaf, List.mem_singleton]
  | hidden h0 => cases hn
  | node l r ihl ihr =>
    intro s v b ho
    simp only [Tree.noHidden, Bool.and_eq_true] at hn
    obtain ⟨b', e, rfl, ho⟩ := ho
    simp only [info, List.mem_append, List.mem_map]
    rcases ho with ⟨rfl, ho⟩ | ⟨rfl, ho⟩
    · exact Or.inl ⟨_, ihl hn.1 s v b' ho, by rw [info_hash]⟩
    · exact Or.inr ⟨_, ihr hn.2 s v b' ho, by rw [info_hash]⟩

theorem mem_leaves_opens (t : Tree) : ∀ (s : Bytes) (v : UInt8) (b : List Bytes),
    (⟨s, v, b⟩ : LeafInfo) ∈ (info H t).leaves → Opens H t s v b := by
  induction t with
  | leaf s0 v0 =>
    intro s v b hm
    cases List.mem_singleton.1 hm
    exact ⟨rfl, rfl, rfl⟩
  | hidden h0 =>
    intro s v b hm
    cases hm
  | node l r ihl ihr =>
    intro s v b hm
    simp only [info, List.mem_append, List.mem_map] at hm
    rcases hm with ⟨⟨xs, xv, xb⟩, hx, he⟩ | ⟨⟨xs, xv, xb⟩, hx, he⟩
    · cases he
      exact ⟨xb, _, rfl, Or.inl ⟨info_hash H r, ihl _ _ _ hx⟩⟩
    · cases he
      exact ⟨xb, _, rfl, Or.inr ⟨info_hash H l, ihr _ _ _ hx⟩⟩

theorem opens_root (t : Tree) : ∀ (s : Bytes) (v : UInt8) (b : List Bytes),
    Opens H t s v b → ControlBlock.computeRoot H s v b = t.merkleRoot H := by
  induction t with
  | leaf s0 v0 =>
    rintro s v b ⟨rfl, rfl, rfl⟩
    rfl
  | hidden h0 => exact fun s v b ho => ho
  | node l r ihl ihr =>
    rintro s v b ⟨b', e, rfl, ⟨rfl, ho⟩ | ⟨rfl, ho⟩⟩
    · rw [computeRoot_append, ihl s v b' ho, Tree.merkleRoot]
    · rw [computeRoot_append, ihr s v b' ho, Tree.merkleRoot, branchHash_comm]

theorem info_leaf_root (t : Tree) (l : LeafInfo) (hl : l ∈ (info H t).leaves) :
    ControlBlock.computeRoot H l.script l.ver l.branch = t.merkleRoot H :=
  opens_root H t _ _ _ (mem_leaves_opens H t _ _ _ hl)

theorem chunks_flatten (l : List Bytes) (hl : ∀ h ∈ l, h.length = nodeSize) :
    ControlBlock.chunks l.length l.flatten = l := by
  induction l with
  | nil => rfl
  | cons a l ih =>
    obtain ⟨ha, hl⟩ := List.forall_mem_cons.1 hl
    rw [List.length_cons, List.flatten_cons, ControlBlock.chunks, List.take_left' ha, List.drop_left' ha, ih hl]

-- `first_byte_split` and `first_byte_join` at the byte `UInt8.ofNat n`: a sweep over the 256 values (core decides
-- `∀ n < 256`, not `∀ v : UInt8`)
private theorem split_byte : ∀ n, n < 256 → ∀ p : Bool, n &&& leafMask = n →
    let b0 := UInt8.ofNat ((if p then 1 else 0) ||| n)
    (b0.toNat &&& 1 == 1) = p ∧ UInt8.ofNat (b0.toNat &&& leafMask) = UInt8.ofNat n := by decide +kernel

private theorem join_byte : ∀ n, n < 256 →
    UInt8.ofNat ((if ((UInt8.ofNat n).toNat &&& 1 == 1) then 1 else 0) |||
      (UInt8.ofNat ((UInt8.ofNat n).toNat &&& leafMask)).toNat) = UInt8.ofNat n := by decide +kernel

theorem first_byte_split (v : UInt8) (p : Bool) (hv : leafVersionOk v = true) :
    let b0 := UInt8.ofNat ((if p then 1 else 0) ||| v.toNat)
    (b0.toNat &&& 1 == 1) = p ∧ UInt8.ofNat (b0.toNat &&& leafMask) = v := by
  simp only [leafVersionOk, Bool.and_eq_true, beq_iff_eq] at hv
  have := split_byte v.toNat (UInt8.toNat_lt v) p hv.1
  rwa [UInt8.ofNat_toNat] at this

theorem first_byte_join (b0 : UInt8) :
    UInt8.ofNat ((if (b0.toNat &&& 1 == 1) then 1 else 0) ||| (UInt8.ofNat (b0.toNat &&& leafMask)).toNat) = b0 := by
  have := join_byte b0.toNat (UInt8.toNat_lt b0)
  rwa [UInt8.ofNat_toNat] at this

theorem encode_length (E : EC) (cb : ControlBlock) (hw : cb.wf E) : cb.encode.length = cb.size := by
  obtain ⟨_, hk, _, _, hb⟩ := hw
  rw [ControlBlock.encode, List.length_cons, List.length_append, hk, CodecPrim.flatten_length hb, Nat.add_right_comm]
  rfl

theorem size_eq (cb : ControlBlock) : cb.size = 33 + 32 * cb.branch.length := rfl

private theorem branchFromSlice_post (sl : Bytes) :
    (ControlBlock.branchFromSlice sl).Post fun br =>
      br.flatten = sl ∧ br.length ≤ maxDepth ∧ ∀ c ∈ br, c.length = nodeSize := by
  unfold ControlBlock.branchFromSlice
  refine .guard fun hm => .guard fun hd => ?_
  have hm0 : sl.length % nodeSize = 0 := Decidable.byContradiction fun h => hm (bne_iff_ne.2 h)
  obtain ⟨br, rfl, hn, hb⟩ :=
    CodecPrim.exists_chunks nodeSize _ sl (Nat.mul_div_cancel' (Nat.dvd_of_mod_eq_zero hm0)).symm
  rw [← hn, chunks_flatten br hb]
  exact .ok ⟨rfl, hn ▸ Nat.div_le_of_le_mul (Nat.not_lt.1 hd), hb⟩

private theorem branchFromSlice_flatten (br : List Bytes) (hl : br.length ≤ maxDepth)
    (hb : ∀ h ∈ br, h.length = nodeSize) : ControlBlock.branchFromSlice br.flatten = .ok br := by
  unfold ControlBlock.branchFromSlice
  rw [CodecPrim.flatten_length hb, Nat.mul_mod_right, if_neg (Nat.not_lt.2 (Nat.mul_le_mul_left _ hl)),
    Nat.mul_div_cancel_left _ (by decide), chunks_flatten br hb]
  rfl

/-- `from_slice (serialize cb) = Ok cb` -/
theorem decode_encode (E : EC) (cb : ControlBlock) (hw : cb.wf E) : ControlBlock.decode E cb.encode = .ok cb := by
  have hlen : cb.encode.length = baseSize + nodeSize * cb.branch.length := encode_length E cb hw
  obtain ⟨hv, hk, hx, hd, hb⟩ := hw
  obtain ⟨hs1, hs2⟩ := first_byte_split cb.leafVersion cb.parity hv
  have hc1 : ¬ (cb.encode.length < baseSize) := hlen ▸ Nat.not_lt.2 (Nat.le_add_right _ _)
  have hc2 : (cb.encode.length - baseSize) % nodeSize = 0 := by
    rw [hlen, Nat.add_sub_cancel_left]
    exact Nat.mul_mod_right _ _
  unfold ControlBlock.decode
  have hcond : (decide (cb.encode.length < baseSize) || (cb.encode.length - baseSize) % nodeSize != 0) = false := by
    simp only [hc1, hc2, decide_false, Bool.false_or, bne_self_eq_false]
  rw [hcond]
  simp only [ControlBlock.encode, Bool.false_eq_true, if_false]
  -- `baseSize - 1` is the 32 of `wf`
  have hk' : cb.internalKey.length = baseSize - 1 := hk
  rw [hs1, hs2, hv, List.take_left' hk', List.drop_left' hk', hk, hx,
    branchFromSlice_flatten _ hd hb]
  rfl

theorem decode_post (E : EC) (bs : Bytes) : (ControlBlock.decode E bs).Post fun cb => cb.encode = bs ∧ cb.wf E := by
  unfold ControlBlock.decode
  refine .guard fun hc => ?_
  cases bs with
  | nil => exact absurd rfl hc
  | cons b0 rest =>
    dsimp only
    refine .guard fun hv => .guard fun hkx => ?_
    rw [Bool.not_eq_true, Bool.not_eq_false'] at hv hkx
    rw [Bool.and_eq_true, beq_iff_eq] at hkx
    have hbr := branchFromSlice_post (rest.drop (baseSize - 1))
    cases hok : ControlBlock.branchFromSlice (rest.drop (baseSize - 1)) with
    | ok br =>
      obtain ⟨h1, h2, h3⟩ := hbr.of_ok hok
      refine .ok ⟨?_, hv, hkx.1, hkx.2, h2, h3⟩
      rw [ControlBlock.encode, first_byte_join, h1, List.take_append_drop]
    | err e => exact .err trivial
    | panic s => exact absurd hok (hbr.ne_panic s)

end EV.Proofs.TaprootCb
