/-
  EV.Proofs.Regroup — the 8↔5 bit regrouping (`bytesToFes`, `fesToBytes`) and its two round trips:
  bytes → symbols → bytes always, symbols → bytes → symbols under valid padding.
-/
import EV.Model.Bech32
namespace EV.Bech32

/-- the low `n` bits of `x`, most significant first; `bits8`, `bits5` are `bitsOf 8`, `bitsOf 5` -/
def bitsOf : Nat → Nat → List Bool
  | 0, _ => []
  | n + 1, x => x.testBit n :: bitsOf n x

theorem bits5_eq (x : Nat) : bits5 x = bitsOf 5 x := rfl

theorem bitsOf_length (n x : Nat) : (bitsOf n x).length = n := by
  induction n with
  | zero => rfl
  | succ n ih => rw [bitsOf, List.length_cons, ih]

theorem bitsVal_acc (l : List Bool) (a : Nat) : bitsVal l a = 2 ^ l.length * a + bitsVal l 0 := by
  induction l generalizing a with
  | nil => simp [bitsVal]
  | cons b l ih =>
    rw [bitsVal, ih, bitsVal, ih (2 * 0 + b.toNat), List.length_cons, Nat.pow_succ]
    simp only [Nat.mul_add, Nat.mul_zero, Nat.zero_add, Nat.mul_assoc, Nat.add_assoc]

theorem bitsVal_lt (l : List Bool) : bitsVal l 0 < 2 ^ l.length := by
  induction l with
  | nil => decide
  | cons b l ih =>
    rw [bitsVal, bitsVal_acc, List.length_cons, Nat.pow_succ]
    have : b.toNat ≤ 1 := Bool.toNat_le b
    have : 2 ^ l.length * (2 * 0 + b.toNat) ≤ 2 ^ l.length * 1 := Nat.mul_le_mul_left _ (by omega)
    omega

theorem bitsVal_bitsOf (n x : Nat) : bitsVal (bitsOf n x) 0 = x % 2 ^ n := by
  induction n with
  | zero => simp [bitsOf, bitsVal, Nat.mod_one]
  | succ n ih =>
    rw [bitsOf, bitsVal, bitsVal_acc, ih, bitsOf_length, Nat.mod_pow_succ, Nat.toNat_testBit,
      Nat.mul_zero, Nat.zero_add, Nat.add_comm]

theorem bitsOf_bitsVal (l : List Bool) (a : Nat) : bitsOf l.length (bitsVal l a) = l := by
  induction l generalizing a with
  | nil => rfl
  | cons b l ih =>
    rw [List.length_cons, bitsOf, bitsVal, ih, bitsVal_acc,
      Nat.testBit_two_pow_mul_add _ (bitsVal_lt l), if_neg (Nat.lt_irrefl _), Nat.sub_self]
    cases b <;> simp

theorem bits5_bitsVal (a b c d e : Bool) : bits5 (bitsVal [a, b, c, d, e] 0) = [a, b, c, d, e] :=
  bitsOf_bitsVal [a, b, c, d, e] 0

theorem bits8_bitsVal (a b c d e f g h : Bool) :
    bits8 (bitsVal [a, b, c, d, e, f, g, h] 0) = [a, b, c, d, e, f, g, h] :=
  bitsOf_bitsVal [a, b, c, d, e, f, g, h] 0

theorem bitsVal5_lt (a b c d e : Bool) : bitsVal [a, b, c, d, e] 0 < 32 :=
  Nat.lt_of_lt_of_eq (bitsVal_lt [a, b, c, d, e]) (by decide : 2 ^ 5 = 32)

theorem bitsOf_zero (n : Nat) : bitsOf n 0 = List.replicate n false := by
  induction n with
  | zero => rfl
  | succ n ih => rw [bitsOf, ih, Nat.zero_testBit, List.replicate_succ]

theorem bitsOf_eq_replicate (p x : Nat) : bitsOf p x = List.replicate p false ↔ x % 2 ^ p = 0 := by
  rw [← bitsVal_bitsOf]
  constructor
  · intro h; rw [h, ← bitsOf_zero, bitsVal_bitsOf, Nat.zero_mod]
  · intro h
    have := bitsOf_bitsVal (bitsOf p x) 0
    rw [h, bitsOf_length, bitsOf_zero] at this
    exact this.symm

theorem drop_bitsOf (p k x : Nat) : (bitsOf (p + k) x).drop k = bitsOf p x := by
  induction k with
  | zero => rfl
  | succ k ih => exact ih  -- by definition, one more bit in front and one more dropped

theorem flatMap_bitsOf_length (n : Nat) (l : List Nat) : (l.flatMap (bitsOf n)).length = l.length * n := by
  induction l with
  | nil => exact (Nat.zero_mul n).symm
  | cons x xs ih => rw [List.flatMap_cons, List.length_append, ih, bitsOf_length, List.length_cons, Nat.succ_mul, Nat.add_comm]

theorem flatMap_bits5_length (l : List Nat) : (l.flatMap bits5).length = l.length * 5 := flatMap_bitsOf_length 5 l

theorem flatMap_bits8_length (l : List Nat) : (l.flatMap bits8).length = l.length * 8 := flatMap_bitsOf_length 8 l

theorem group5_cons5 (a b c d e : Bool) (rest : List Bool) :
    group5 (a :: b :: c :: d :: e :: rest) = bitsVal [a, b, c, d, e] 0 :: group5 rest := rfl

theorem group5_lt (bits : List Bool) : ∀ x ∈ group5 bits, x < 32 := by
  induction bits using group5.induct with
  | case1 => nofun
  | case2 a => exact List.forall_mem_singleton.mpr (bitsVal5_lt ..)
  | case3 a b => exact List.forall_mem_singleton.mpr (bitsVal5_lt ..)
  | case4 a b c => exact List.forall_mem_singleton.mpr (bitsVal5_lt ..)
  | case5 a b c d => exact List.forall_mem_singleton.mpr (bitsVal5_lt ..)
  | case6 a b c d e rest ih => exact List.forall_mem_cons.mpr ⟨bitsVal5_lt .., ih⟩

theorem group5_flatMap_bits5 (bits : List Bool) :
    (group5 bits).flatMap bits5 = bits ++ List.replicate ((5 - bits.length % 5) % 5) false := by
  induction bits using group5.induct with
  | case1 => rfl
  | case2 a => exact (List.append_nil _).trans (bits5_bitsVal ..)
  | case3 a b => exact (List.append_nil _).trans (bits5_bitsVal ..)
  | case4 a b c => exact (List.append_nil _).trans (bits5_bitsVal ..)
  | case5 a b c d => exact (List.append_nil _).trans (bits5_bitsVal ..)
  | case6 a b c d e rest ih =>
    rw [group5_cons5, List.flatMap_cons, ih, bits5_bitsVal]
    rw [show (a :: b :: c :: d :: e :: rest).length = rest.length + 5 from rfl, Nat.add_mod_right]
    rfl

theorem group5_length (bits : List Bool) : (group5 bits).length = (bits.length + 4) / 5 := by
  have := congrArg List.length (group5_flatMap_bits5 bits)
  rw [flatMap_bits5_length, List.length_append, List.length_replicate] at this
  omega

theorem group5_flatMap_bits5_id (fs : List Nat) (h : ∀ x ∈ fs, x < 32) :
    group5 (fs.flatMap bits5) = fs := by
  induction fs with
  | nil => rfl
  | cons x xs ih =>
    obtain ⟨hx, hxs⟩ := List.forall_mem_cons.mp h
    rw [List.flatMap_cons]
    show group5 (_ :: _ :: _ :: _ :: _ :: List.flatMap bits5 xs) = _
    rw [group5_cons5, ih hxs]
    show bitsVal (bitsOf 5 x) 0 :: xs = _
    rw [bitsVal_bitsOf, Nat.mod_eq_of_lt hx]

theorem group5_append_pad (bits : List Bool) :
    group5 (bits ++ List.replicate ((5 - bits.length % 5) % 5) false) = group5 bits := by
  rw [← group5_flatMap_bits5, group5_flatMap_bits5_id _ (group5_lt bits)]

theorem group8_cons8 (a b c d e f g h : Bool) (rest : List Bool) :
    group8 (a :: b :: c :: d :: e :: f :: g :: h :: rest) =
      bitsVal [a, b, c, d, e, f, g, h] 0 :: group8 rest := rfl

theorem group8_short (l : List Bool) (h : l.length < 8) : group8 l = [] := by
  unfold group8
  split
  · simp only [List.length_cons] at h; omega
  · rfl

theorem group8_flatMap_bits8_pad (bs : List Nat) (h : ∀ b ∈ bs, b < 256) (pad : List Bool)
    (hp : pad.length < 8) : group8 (bs.flatMap bits8 ++ pad) = bs := by
  induction bs with
  | nil => exact group8_short pad hp
  | cons x xs ih =>
    obtain ⟨hx, hxs⟩ := List.forall_mem_cons.mp h
    rw [List.flatMap_cons]
    show group8 (_ :: _ :: _ :: _ :: _ :: _ :: _ :: _ :: (List.flatMap bits8 xs ++ pad)) = _
    rw [group8_cons8, ih hxs]
    show bitsVal (bitsOf 8 x) 0 :: xs = _
    rw [bitsVal_bitsOf, Nat.mod_eq_of_lt hx]

theorem exists_bytes (bits : List Bool) :
    ∃ (bs : List Nat) (pad : List Bool), bits = bs.flatMap bits8 ++ pad ∧ pad.length < 8 ∧ ∀ b ∈ bs, b < 256 :=
  if h : bits.length < 8 then ⟨[], bits, rfl, h, nofun⟩ else by
    have hl : (bits.take 8).length = 8 := List.length_take_of_le (Nat.le_of_not_lt h)
    obtain ⟨bs, pad, e, hp, hb⟩ := exists_bytes (bits.drop 8)
    refine ⟨bitsVal (bits.take 8) 0 :: bs, pad, ?_, hp,
      List.forall_mem_cons.mpr ⟨Nat.lt_of_lt_of_eq (bitsVal_lt _) (congrArg (2 ^ ·) hl), hb⟩⟩
    rw [List.flatMap_cons, List.append_assoc, ← e]
    exact (List.take_append_drop 8 bits).symm.trans
      (congrArg (· ++ _) (hl ▸ bitsOf_bitsVal (bits.take 8) 0).symm)
termination_by bits.length
decreasing_by rw [List.length_drop]; omega

theorem group8_spec (bits : List Bool) :
    ∃ pad, bits = (group8 bits).flatMap bits8 ++ pad ∧ pad.length < 8 ∧ ∀ b ∈ group8 bits, b < 256 := by
  obtain ⟨bs, pad, rfl, hp, hb⟩ := exists_bytes bits
  rw [group8_flatMap_bits8_pad bs hb pad hp]
  exact ⟨pad, rfl, hp, hb⟩

theorem group8_length (bits : List Bool) : (group8 bits).length = bits.length / 8 := by
  obtain ⟨pad, e, hp, _⟩ := group8_spec bits
  have := congrArg List.length e
  rw [List.length_append, flatMap_bits8_length] at this
  omega

theorem group8_lt (bits : List Bool) : ∀ x ∈ group8 bits, x < 256 :=
  let ⟨_, _, _, h⟩ := group8_spec bits; h

theorem bytesToFes_length (bs : List Nat) : (bytesToFes bs).length = (bs.length * 8 + 4) / 5 := by
  unfold bytesToFes
  rw [group5_length, flatMap_bits8_length]

theorem fesToBytes_length (fs : List Nat) : (fesToBytes fs).length = fs.length * 5 / 8 := by
  unfold fesToBytes
  rw [group8_length, flatMap_bits5_length]

theorem bytesToFes_lt (bs : List Nat) : ∀ x ∈ bytesToFes bs, x < 32 :=
  group5_lt _

theorem fesToBytes_lt (fs : List Nat) : ∀ x ∈ fesToBytes fs, x < 256 :=
  group8_lt _

theorem fesToBytes_bytesToFes (bs : List Nat) (h : ∀ b ∈ bs, b < 256) :
    fesToBytes (bytesToFes bs) = bs := by
  unfold fesToBytes bytesToFes
  rw [group5_flatMap_bits5]
  apply group8_flatMap_bits8_pad bs h
  rw [List.length_replicate]; omega

/-- `validate_segwit_padding` on the bit string, which is `q` whole bytes and `p` more bits -/
theorem validatePadding_iff (fs : List Nat) (q p : Nat) (h : fs.length * 5 = q * 8 + p) (hp : p < 8) :
    validatePadding fs = true ↔ p ≤ 4 ∧ (fs.flatMap bits5).drop (q * 8) = List.replicate p false := by
  unfold validatePadding
  rw [h, Nat.mul_add_mod_of_lt hp]
  split
  · rename_i hnone
    rw [List.getLast?_eq_none_iff.mp hnone] at h ⊢
    obtain rfl : p = 0 := by rw [List.length_nil] at h; omega
    simp
  · rename_i last hlast
    obtain ⟨ini, rfl⟩ := List.getLast?_eq_some_iff.mp hlast
    rw [List.length_append, List.length_singleton] at h
    by_cases hle : p ≤ 4
    · -- the left-over bits are the low `p` bits of the last symbol
      have hk : q * 8 = (ini.flatMap bits5).length + (5 - p) := by
        rw [flatMap_bits5_length]; omega
      have hd := drop_bitsOf p (5 - p) last
      rw [Nat.add_sub_cancel' (by omega)] at hd
      rw [List.flatMap_append, hk, List.drop_length_add_append, List.flatMap_singleton, bits5_eq, hd,
        bitsOf_eq_replicate]
      simp [hle]
    · simp [hle]

theorem validatePadding_bytesToFes (bs : List Nat) : validatePadding (bytesToFes bs) = true := by
  have hfm : (bytesToFes bs).flatMap bits5 = _ := group5_flatMap_bits5 (bs.flatMap bits8)
  have hlen := congrArg List.length hfm
  rw [flatMap_bits5_length, List.length_append, flatMap_bits8_length, List.length_replicate] at hlen
  rw [validatePadding_iff _ _ _ hlen (by omega), hfm, ← flatMap_bits8_length, List.drop_left]
  exact ⟨by omega, rfl⟩

theorem bytesToFes_fesToBytes (fs : List Nat) (h : ∀ x ∈ fs, x < 32) (hp : validatePadding fs = true) :
    bytesToFes (fesToBytes fs) = fs := by
  obtain ⟨pad, e, hpad, _⟩ := group8_spec (fs.flatMap bits5)
  unfold bytesToFes fesToBytes
  generalize group8 (fs.flatMap bits5) = bs at e ⊢
  have hlen := congrArg List.length e
  rw [flatMap_bits5_length, List.length_append, flatMap_bits8_length] at hlen
  obtain ⟨hle, hdrop⟩ := (validatePadding_iff fs _ _ hlen hpad).mp hp
  -- the bits dropped with the partial byte (`pad`) are zero bits, which `group5` puts back
  rw [e, ← flatMap_bits8_length, List.drop_left] at hdrop
  rw [← group5_append_pad, flatMap_bits8_length, show (5 - bs.length * 8 % 5) % 5 = pad.length by omega,
    ← hdrop, ← e]
  exact group5_flatMap_bits5_id fs h

end EV.Bech32
