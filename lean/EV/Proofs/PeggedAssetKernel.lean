/-
  How the two hard-coded asset ids relate to the derivation, computed by the Lean kernel: the model of
  `pegged_asset_id_for_params_and_parent_chain_hash` on the parameter sets extracted from src/genesis.rs and the
  chain hashes extracted from the `bitcoin` crate.  C11: `AssetId::LIQUID_BTC` is the derivation with the Bitcoin
  mainnet chain hash, `AssetId::LIQUIDTESTNET_BTC` the one with the all-zero parent chain hash, as the crate's test
  `liquid_asset_ids` has it; those comparisons are made in Props/C11 §7(d), from the outpoint hashes proved here.

  The parent chain hash enters the derivation only in its last two compressions.  What precedes them, the double
  SHA-256 of the outpoint (commitment, 0), depends on the parameter set alone and is evaluated once per network,
  from the value of the commitment (EV.Proofs.KernelHashes).
-/
import EV.Proofs.KernelHashes
import EV.Proofs.PeggedAsset
namespace EV.Proofs.PeggedAssetKernel
open EV EV.Codec EV.Genesis EV.PeggedAsset EV.Proofs.GenesisKernel EV.Proofs.PeggedAsset

theorem prevoutHash_liquidv1 :
    kernelHashes.sha256d (commit kernelHashes.sha256 NetworkParams.liquidv1 ++ encLe 4 Gen.peggedAssetVout) =
      ofNats [46, 47, 109, 213, 60, 33, 83, 18, 68, 251, 229, 54, 156, 177, 50, 146, 21, 140, 253, 18, 152, 67, 35,
        207, 18, 240, 173, 199, 171, 244, 216, 246] := by
  rw [commit_liquidv1, kernelHashes_eq]
  decide +kernel

theorem prevoutHash_liquidtestnet :
    kernelHashes.sha256d (commit kernelHashes.sha256 NetworkParams.liquidtestnet ++ encLe 4 Gen.peggedAssetVout) =
      ofNats [155, 241, 197, 194, 10, 204, 196, 251, 124, 89, 142, 47, 249, 94, 57, 210, 221, 172, 167, 80, 197, 239,
        88, 172, 101, 239, 11, 59, 5, 104, 123, 8] := by
  rw [commit_liquidtestnet, kernelHashes_eq]
  decide +kernel

/-- the fall-through arm (regtest parent) applied to the built-in parameter sets gives neither constant:
    the two string arms of the `match` are not redundant -/
theorem builtin_not_fallthrough :
    forParamsAndParent kernelHashes NetworkParams.liquidv1 parentChainHash ≠ some liquidBtc ∧
    forParamsAndParent kernelHashes NetworkParams.liquidtestnet parentChainHash ≠ some liquidtestnetBtc := by
  rw [derive_of_prevoutHash _ _ prevoutHash_liquidv1, derive_of_prevoutHash _ _ prevoutHash_liquidtestnet,
    kernelHashes_eq]
  decide +kernel

end EV.Proofs.PeggedAssetKernel
