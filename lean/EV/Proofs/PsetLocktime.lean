/-
  EV.Proofs.PsetLocktime — the lock-time selection of `PartiallySignedTransaction::locktime` refines the
  selection rule of BIP370 written directly as a specification (`bip370`), for every list of inputs; the two
  `unreachable!()` arms are unreachable.

  A requirement `LockReq` is the pair (time, height), and so is the state of the loop.  The two kinds never
  interact inside the loop: `lockStep` updates both states by the same function `stepKind` with the roles of
  the two requirements exchanged.  So what one input does is computed once, for one kind (`stepKind_kind`),
  and the rest is read off the closed form of the state after the loop (`lockFold_eq`).
-/
import EV.Model.Pset
import EV.Proofs.Res
namespace EV.Proofs.PsetLocktime
open EV

/-- the input states a requirement of some kind -/
def constraining (r : LockReq) : Bool := r.1.isSome || r.2.isSome

def maxList (l : List Nat) : Nat := l.foldl Nat.max 0

/-- BIP370, "Determining Lock Time": the fallback (or 0) if no input has a requirement; otherwise
    the maximum of the height requirements if every constraining input supports a height lock
    (height is preferred when both kinds are possible); otherwise the maximum of the time
    requirements if every constraining input supports a time lock; otherwise there is no valid
    lock time -/
def bip370 (fallback : Option Nat) (reqs : List LockReq) : Res Nat :=
  let cs := reqs.filter constraining
  if cs.isEmpty then .ok (fallback.getD 0)
  else if cs.all (fun r => r.2.isSome) then .ok (maxList (reqs.filterMap (·.2)))
  else if cs.all (fun r => r.1.isSome) then .ok (maxList (reqs.filterMap (·.1)))
  else .err "LocktimeConflict"

theorem maxList_nil : maxList [] = 0 := rfl

theorem maxList_append (l : List Nat) (x : Nat) : maxList (l ++ [x]) = max (maxList l) x := by
  simp only [maxList, List.foldl_append, List.foldl_cons, List.foldl_nil]

theorem maxList_eq (l : List Nat) : maxList l = l.max?.getD 0 :=
  (List.foldl_max (l := l) (a := 0)).trans (Nat.zero_max _)

theorem maxList_cons (x : Nat) (l : List Nat) : maxList (x :: l) = max x (maxList l) := by
  rw [maxList_eq, maxList_eq, List.max?_cons]
  cases l.max? with
  | none => exact (Nat.max_zero x).symm
  | some a => rfl

theorem le_maxList {l : List Nat} {x : Nat} (h : x ∈ l) : x ≤ maxList l :=
  maxList_eq l ▸ List.le_max?_getD_of_mem h

theorem maxList_mem {l : List Nat} (h : l ≠ []) : maxList l ∈ l := by
  rw [maxList_eq]
  cases hm : l.max? with
  | none => exact absurd (List.max?_eq_none_iff.mp hm) h
  | some a => exact List.max?_mem hm

def mo : List Nat → Option Nat
  | [] => none
  | l => some (maxList l)

/-- `Seen.kind e (mo l)`: the state of a kind of which the requirements `l` have been seen, `e` telling
    whether some input stated a requirement of the other kind only -/
def Seen.kind (excluded : Bool) (m : Option Nat) : LockState :=
  if excluded then .disallowed else match m with | none => .unconstrained | some x => .minimum x

theorem kind_true (m : Option Nat) : Seen.kind true m = .disallowed := rfl

theorem kind_eq_disallowed {e : Bool} {l : List Nat} (h : Seen.kind e (mo l) = .disallowed) : e = true := by
  cases e
  · cases l <;> cases h
  · rfl

theorem kind_eq_unconstrained {e : Bool} {l : List Nat} (h : Seen.kind e (mo l) = .unconstrained) : l = [] := by
  cases e
  · cases l
    · rfl
    · cases h
  · cases h

theorem mem_of_kind_eq_minimum {e : Bool} {l : List Nat} {x : Nat} (h : Seen.kind e (mo l) = .minimum x) :
    x ∈ l := by
  cases e
  · cases l
    · cases h
    · cases h
      exact maxList_mem (List.cons_ne_nil _ _)
  · cases h

/-- what `lockStep` does to the state of one kind, given the input's requirement of that kind
    and of the other kind -/
def stepKind (s : LockState) (own other : Option Nat) : LockState :=
  match own, other with
  | some x, _ => LockState.max s (.minimum x)
  | none, some _ => .disallowed
  | none, none => s

theorem lockStep_eq (st : LockState × LockState) (r : LockReq) :
    lockStep st r = (stepKind st.1 r.1 r.2, stepKind st.2 r.2 r.1) := by
  obtain ⟨rt, rh⟩ := r
  cases rt <;> cases rh <;> rfl

theorem max_kind (e : Bool) (acc : List Nat) (x : Nat) :
    LockState.max (Seen.kind e (mo acc)) (.minimum x) = Seen.kind e (mo (acc ++ [x])) := by
  cases e
  · cases acc with
    | nil => rfl
    | cons a acc =>
      show (if decide (maxList (a :: acc) ≤ x) = true then LockState.minimum x else .minimum (maxList (a :: acc))) =
        .minimum (maxList ((a :: acc) ++ [x]))
      rw [maxList_append, Nat.max_def, apply_ite LockState.minimum]
      simp only [decide_eq_true_eq]
  · rfl

section
variable (f g : LockReq → Option Nat)

/-- the input states a requirement of the kind `g` and none of the kind `f`: it excludes the kind `f` -/
def only (r : LockReq) : Bool := (f r).isNone && (g r).isSome

theorem stepKind_kind (e : Bool) (acc : List Nat) (r : LockReq) :
    stepKind (Seen.kind e (mo acc)) (f r) (g r) =
      Seen.kind (e || [r].any (only f g)) (mo (acc ++ [r].filterMap f)) := by
  rw [List.any_cons, List.any_nil, Bool.or_false, only]
  cases hf : f r with
  | some x =>
    rw [List.filterMap_cons_some hf, Option.isNone_some, Bool.false_and, Bool.or_false]
    exact max_kind e acc x
  | none =>
    rw [List.filterMap_cons_none hf, List.filterMap_nil, List.append_nil, Option.isNone_none, Bool.true_and]
    cases hg : g r with
    | none =>
      rw [Option.isSome_none, Bool.or_false]
      rfl
    | some y =>
      rw [Option.isSome_some, Bool.or_true]
      rfl

end

/-- a height and no time: such an input makes the time state `Disallowed` -/
def heightOnly : LockReq → Bool := only (·.1) (·.2)
def timeOnly : LockReq → Bool := only (·.2) (·.1)

theorem lockFold_eq (reqs : List LockReq) :
    lockFold reqs = (Seen.kind (reqs.any heightOnly) (mo (reqs.filterMap (·.1))),
                     Seen.kind (reqs.any timeOnly) (mo (reqs.filterMap (·.2)))) := by
  -- from the last input backwards, so that the state before it is the closed form of the inputs before it
  rw [← reqs.reverse_reverse]
  induction reqs.reverse with
  | nil => rfl
  | cons r l ih =>
    rw [List.reverse_cons, lockFold, List.foldl_append, ← lockFold, ih, List.any_append, List.any_append,
      List.filterMap_append, List.filterMap_append]
    exact (lockStep_eq _ r).trans (Prod.ext (stepKind_kind (·.1) (·.2) _ _ r) (stepKind_kind (·.2) (·.1) _ _ r))

section
variable (f g : LockReq → Option Nat)

theorem any_only_iff (l : List LockReq) :
    l.any (only f g) = true ↔ ∃ r ∈ l, (g r).isSome = true ∧ (f r).isSome = false := by
  simp only [List.any_eq_true, only, Bool.and_eq_true, Option.isSome_eq_false_iff, and_comm]

theorem filterMap_ne_nil_of_only {l : List LockReq} (h : l.any (only f g) = true) : l.filterMap g ≠ [] := by
  obtain ⟨r, hr, hg, -⟩ := (any_only_iff f g l).mp h
  obtain ⟨y, hy⟩ := Option.isSome_iff_exists.mp hg
  exact List.ne_nil_of_mem (List.mem_filterMap.mpr ⟨r, hr, hy⟩)

theorem filterMap_ne_nil_of_not_only {l : List LockReq} (hf : l.filterMap f ≠ []) (h : l.any (only g f) = false) :
    l.filterMap g ≠ [] := by
  obtain ⟨x, hx⟩ := List.exists_mem_of_ne_nil _ hf
  obtain ⟨r, hr, hrx⟩ := List.mem_filterMap.mp hx
  cases hg : g r with
  | some y => exact List.ne_nil_of_mem (List.mem_filterMap.mpr ⟨r, hr, hg⟩)
  | none =>
    rw [(any_only_iff g f l).mpr ⟨r, hr, congrArg Option.isSome hrx, congrArg Option.isSome hg⟩] at h
    cases h
end

theorem cs_isEmpty (reqs : List LockReq) :
    (reqs.filter constraining).isEmpty =
      ((reqs.filterMap (·.1)).isEmpty && (reqs.filterMap (·.2)).isEmpty) := by
  induction reqs with
  | nil => rfl
  | cons r reqs ih =>
    obtain ⟨_ | t, _ | h⟩ := r
    · exact ih
    · exact (Bool.and_false _).symm
    · rfl
    · rfl

theorem cs_all_height (reqs : List LockReq) :
    (reqs.filter constraining).all (fun r => r.2.isSome) = !reqs.any timeOnly := by
  rw [List.all_filter, List.not_any_eq_all_not]
  exact List.all_congr rfl fun ⟨a, b⟩ => by cases a <;> cases b <;> rfl

theorem cs_all_time (reqs : List LockReq) :
    (reqs.filter constraining).all (fun r => r.1.isSome) = !reqs.any heightOnly := by
  rw [List.all_filter, List.not_any_eq_all_not]
  exact List.all_congr rfl fun ⟨a, b⟩ => by cases a <;> cases b <;> rfl

/-- the final `match` on a state of the form of `lockFold_eq`: `T`, `H` the stated times and heights, `aT`
    (`aH`) whether some input states a time (height) only.  The right side is `bip370` with its three tests
    in these terms. -/
theorem final_core (fb : Option Nat) (aT aH : Bool) (T H : List Nat)
    (hT : aT = true → T ≠ []) (hH : aH = true → H ≠ [])
    (hTH : T ≠ [] → aT = false → H ≠ []) :
    lockFinal fb (Seen.kind aH (mo T), Seen.kind aT (mo H)) =
      if (T.isEmpty && H.isEmpty) = true then Res.ok (fb.getD 0)
      else if (!aT) = true then Res.ok (maxList H)
      else if (!aH) = true then Res.ok (maxList T)
      else Res.err "LocktimeConflict" := by
  cases aT <;> cases aH
  · cases T <;> cases H
    · rfl
    · rfl
    · exact absurd rfl (hTH (List.cons_ne_nil _ _) rfl)
    · rfl
  · obtain ⟨h, H, rfl⟩ := List.exists_cons_of_ne_nil (hH rfl)
    cases T <;> rfl
  · obtain ⟨t, T, rfl⟩ := List.exists_cons_of_ne_nil (hT rfl)
    cases H <;> rfl
  · obtain ⟨h, H, rfl⟩ := List.exists_cons_of_ne_nil (hH rfl)
    obtain ⟨t, T, rfl⟩ := List.exists_cons_of_ne_nil (hT rfl)
    rfl

theorem locktimeOf_eq_bip370 (fb : Option Nat) (reqs : List LockReq) :
    locktimeOf fb reqs = bip370 fb reqs := by
  simp only [locktimeOf, bip370, lockFold_eq, cs_isEmpty, cs_all_height, cs_all_time]
  exact final_core fb _ _ _ _ (filterMap_ne_nil_of_only _ _) (filterMap_ne_nil_of_only _ _)
    (fun h1 h2 => filterMap_ne_nil_of_not_only _ _ h1 h2)

theorem cs_isEmpty_iff (reqs : List LockReq) :
    (reqs.filter constraining).isEmpty = true ↔ ∀ r ∈ reqs, constraining r = false := by
  simp only [List.isEmpty_iff, List.filter_eq_nil_iff, Bool.not_eq_true]

theorem locktimeOf_free (fb : Option Nat) (reqs : List LockReq) (hno : ∀ r ∈ reqs, constraining r = false) :
    locktimeOf fb reqs = .ok (fb.getD 0) := by
  rw [locktimeOf_eq_bip370, bip370, if_pos ((cs_isEmpty_iff reqs).mpr hno)]

/-- a kind is `Disallowed` only if the other one is at least `Minimum` -/
theorem lockFold_invariant (reqs : List LockReq) :
    ((lockFold reqs).2 = .disallowed → (lockFold reqs).1 ≠ .unconstrained) ∧
    ((lockFold reqs).1 = .disallowed → (lockFold reqs).2 ≠ .unconstrained) := by
  rw [lockFold_eq]
  exact ⟨fun h c => filterMap_ne_nil_of_only _ _ (kind_eq_disallowed h) (kind_eq_unconstrained c),
    fun h c => filterMap_ne_nil_of_only _ _ (kind_eq_disallowed h) (kind_eq_unconstrained c)⟩

/-- the final `match` read backwards; the `.panic` states are those of the two `unreachable!()` arms -/
theorem lockFinal_spec {fb : Option Nat} {st : LockState × LockState} {r : Res Nat} (h : lockFinal fb st = r) :
    match r with
    | .ok n => n = fb.getD 0 ∨ st.2 = .minimum n ∨ st.1 = .minimum n
    | .err _ => st = (.disallowed, .disallowed)
    | .panic _ => st = (.unconstrained, .disallowed) ∨ st = (.disallowed, .unconstrained) := by
  subst h
  obtain ⟨a, b⟩ := st
  cases a <;> cases b <;> simp [lockFinal]

theorem locktimeOf_no_panic (fb : Option Nat) (reqs : List LockReq) (s : String) :
    locktimeOf fb reqs ≠ .panic s := by
  rw [locktimeOf_eq_bip370]
  -- the four branches of `bip370`: three values and the error
  exact (Res.Post.ite (Q := fun _ => True) (E := fun _ => True) (fun _ => .ok trivial) fun _ => .ite (fun _ => .ok trivial) fun _ =>
    .ite (fun _ => .ok trivial) fun _ => .err trivial).ne_panic s

theorem locktimeOf_mem {fb : Option Nat} {reqs : List LockReq} {n : Nat} (h : locktimeOf fb reqs = .ok n) :
    n = fb.getD 0 ∨ n ∈ reqs.filterMap (·.2) ∨ n ∈ reqs.filterMap (·.1) := by
  rw [locktimeOf, lockFold_eq] at h
  exact (lockFinal_spec h).imp_right (Or.imp mem_of_kind_eq_minimum mem_of_kind_eq_minimum)

end EV.Proofs.PsetLocktime
