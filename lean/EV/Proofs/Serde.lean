/-
  EV.Proofs.Serde — `ofS (lossy f (toS x)) = .ok x` for the hand-written serde impls (EV.Model.Serde). The scalars: the
  codecs that write a string when human readable and bytes otherwise have two cases each (`compatible_cases`). The struct
  visitors: `struct_rt` reduces a struct read by `visit_map` to the lookups of its entries (`Entry`), and each struct is
  one walk through its visitor (`Params`, `ExtData`, `BlockHeader` and `Block` are walked in EV.Props.C20). Last, the
  well-formed values of C01 lie in the domain of the round trip.
-/
import EV.Model.Serde
import EV.Proofs.Text
import EV.Proofs.CodecPrim
namespace EV.Serde
open EV EV.Text EV.Proofs.CodecPrim

theorem key_not_mem_of_nodup {κ ν} {pre post : List (κ × ν)} {k : κ} {v : ν}
    (h : ((pre ++ (k, v) :: post).map Prod.fst).Nodup) : k ∉ pre.map Prod.fst ∧ k ∉ post.map Prod.fst := by
  rw [List.map_append, List.map_cons, List.nodup_append, List.nodup_cons] at h
  exact ⟨fun hk => h.2.2 k hk k List.mem_cons_self rfl, h.2.1.1⟩

theorem lossyL_map (f : Fmt) (l : List SVal) : lossyL f l = l.map (lossy f) := by
  induction l with
  | nil => simp [lossyL]
  | cons a r ih => simp [lossyL, ih]

theorem ofU8s_nums (w : Nat) (b : Bytes) : ofU8s (b.map fun x => SVal.num w x.toNat) = .ok b := by
  induction b with
  | nil => rfl
  | cons x r ih =>
    have hx : x.toNat < 256 := x.toNat_lt
    simp [ofU8s, ofNum, hx, ih]

theorem ofU8s_sU8s (f : Fmt) (b : Bytes) : ofU8s (lossyL f (sU8s b)) = .ok b := by
  rw [sU8s, lossyL_map, List.map_map]
  -- `lossy f (.num 8 n)` unfolds to `.num 0 n`
  exact ofU8s_nums 0 b

theorem ofVecU8_rt (f : Fmt) (b : Bytes) : ofVecU8 (lossy f (sVecU8 b)) = .ok b := by
  simp [sVecU8, lossy, ofVecU8, ofU8s_sU8s]

theorem ofArr_rt (f : Fmt) (n : Nat) (b : Bytes) (h : b.length = n) : ofArr n (lossy f (sArr b)) = .ok b := by
  simp [sArr, lossy, ofArr, ofU8s_sU8s, h]

theorem mapRes_rt {α} (f : Fmt) (t : α → SVal) (p : SVal → Res α) (l : List α)
    (h : ∀ a ∈ l, p (lossy f (t a)) = .ok a) : mapRes p (lossyL f (l.map t)) = .ok l := by
  induction l with
  | nil => simp [lossyL, mapRes]
  | cons a r ih =>
    have ha := h a List.mem_cons_self
    have hr := ih (List.forall_mem_cons.mp h).2
    simp [lossyL, mapRes, ha, hr]

theorem ofSeq_rt {α} (f : Fmt) (t : α → SVal) (p : SVal → Res α) (l : List α)
    (h : ∀ a ∈ l, p (lossy f (t a)) = .ok a) : ofSeq p (lossy f (.seq (l.map t))) = .ok l := by
  simp [lossy, ofSeq, mapRes_rt f t p l h]

theorem ofStack_rt (f : Fmt) (l : List Bytes) : ofStack (lossy f (sStack l)) = .ok l :=
  ofSeq_rt f sVecU8 ofVecU8 l (fun b _ => ofVecU8_rt f b)

/-- human readable (a string, in either format), or not and then in a format that keeps byte strings -/
theorem compatible_cases {h : Bool} {f : Fmt} (hc : compatible h f) : h = true ∨ (h = false ∧ f = .cbor) := by
  cases h
  · cases f
    · exact absurd (hc rfl) (by decide)
    · exact Or.inr ⟨rfl, rfl⟩
  · exact Or.inl rfl

theorem lossy_struct (f : Fmt) (nm : String) (fs : List (String × SVal)) :
    lossy f (.struct nm fs) = .map (lossyF f fs) := by simp [lossy]

theorem ofNum_rt (f : Fmt) (B w n : Nat) (h : n < B) : ofNum B (lossy f (.num w n)) = .ok n := by
  simp [lossy, ofNum, h]

theorem lossy_sStr (f : Fmt) (cs : Str) : lossy f (sStr cs) = .str (String.ofList cs) := by
  simp [sStr, lossy]

theorem ofScript_rt (f : Fmt) (b : Bytes) : ofScript (lossy f (sScript b)) = .ok b := by
  simp [sScript, lossy_sStr, ofScript, unhex_hexStr]

theorem ofHash_rt (k : HashKind) (h : Bool) (f : Fmt) (hc : compatible h f) (b : Bytes) (hl : b.length = k.len) :
    ofHash k h (lossy f (sHash k h b)) = .ok b := by
  rcases compatible_cases hc with rfl | ⟨rfl, rfl⟩
  · simp [sHash, lossy_sStr, ofHash, hashParse_hashShow k b hl]
  · simp [sHash, lossy, ofHash, hl]

theorem ofBtcScript_rt (h : Bool) (f : Fmt) (hc : compatible h f) (b : Bytes) :
    ofBtcScript h (lossy f (sHexOrBytes h b)) = .ok b := by
  rcases compatible_cases hc with rfl | ⟨rfl, rfl⟩
  · simp [sHexOrBytes, lossy_sStr, ofBtcScript, unhex_hexStr]
  · simp [sHexOrBytes, lossy, ofBtcScript]

theorem ofHexBytes_rt (h : Bool) (f : Fmt) (b : Bytes) : ofHexBytes (lossy f (sHexOrBytes h b)) = .ok b := by
  cases h with
  | true => simp [sHexOrBytes, lossy_sStr, ofHexBytes, unhex_hexStr]
  | false =>
    cases f with
    | json => simp [sHexOrBytes, lossy, ofHexBytes, ofU8s_nums]
    | cbor => simp [sHexOrBytes, lossy, ofHexBytes]

theorem ofTweak_rt (P : Prims) (h : Bool) (f : Fmt) (hc : compatible h f) (b : Bytes)
    (hl : b.length = 32) (ht : P.tweak b = true) : ofTweak P h (lossy f (sHexOrBytes h b)) = .ok b := by
  rcases compatible_cases hc with rfl | ⟨rfl, rfl⟩
  · simp [sHexOrBytes, lossy_sStr, ofTweak, unhex_hexStr, hl, ht]
  · simp [sHexOrBytes, lossy, ofTweak, hl, ht]

theorem ofPoint_rt (valid : Bytes → Bool) (h : Bool) (f : Fmt) (hc : compatible h f) (b : Bytes)
    (hl : b.length = 33) (hv : valid b = true) : ofPoint valid h (lossy f (sHexOrBytes h b)) = .ok b := by
  have ht : b.take 33 = b := by rw [← hl]; exact List.take_length
  rcases compatible_cases hc with rfl | ⟨rfl, rfl⟩
  · simp [sHexOrBytes, lossy_sStr, ofPoint, unhex_hexStr, hl, hv]
  · simp [sHexOrBytes, lossy, ofPoint, hl, ht, hv]

theorem ofPubkey_rt (P : Prims) (h : Bool) (f : Fmt) (b : Bytes)
    (hl : b.length = 33) (hv : P.pubkey b = true) : ofPubkey P h (lossy f (sPubkey h b)) = .ok b := by
  cases h with
  | true => simp [sPubkey, lossy_sStr, ofPubkey, unhex_hexStr, hl, hv]
  | false => simp [sPubkey, lossy, ofPubkey, ofU8s_sU8s, hl, hv]

theorem ofProof_rt (valid : Bytes → Bool) (h : Bool) (f : Fmt) (hc : compatible h f) (b : Bytes)
    (hv : valid b = true) : ofProof valid h (lossy f (sHexOrBytes h b)) = .ok b := by
  rcases compatible_cases hc with rfl | ⟨rfl, rfl⟩
  · simp [sHexOrBytes, lossy_sStr, ofProof, unhex_hexStr, hv]
  · simp [sHexOrBytes, lossy, ofProof, hv]

theorem lossy_sHash_ne (h : Bool) (f : Fmt) (k : HashKind) (b : Bytes) : lossy f (sHash k h b) ≠ .unit := by
  cases h <;> cases f <;> simp [sHash, lossy_sStr, lossy]

theorem lossy_sHexOrBytes_ne (h : Bool) (f : Fmt) (b : Bytes) : lossy f (sHexOrBytes h b) ≠ .unit := by
  cases h <;> cases f <;> simp [sHexOrBytes, lossy_sStr, lossy]

theorem ofOptProof_of_ne (valid : Bytes → Bool) (h : Bool) (s : SVal) (hs : s ≠ .unit) :
    ofOptProof valid h s = (ofProof valid h s).map some := by
  unfold ofOptProof
  split
  · exact absurd rfl hs
  · cases ofProof valid h s <;> rfl

theorem ofOptProof_rt (valid : Bytes → Bool) (h : Bool) (f : Fmt) (hc : compatible h f) (o : Option Bytes)
    (hv : okOptProof valid o) : ofOptProof valid h (lossy f (sOptProof h o)) = .ok o := by
  cases o with
  | none => simp [sOptProof, lossy, ofOptProof]
  | some b =>
    rw [sOptProof, lossy, ofOptProof_of_ne _ _ _ (lossy_sHexOrBytes_ne h f b), ofProof_rt valid h f hc b hv]
    rfl

/- `swap64 n` unfolds to `beNat (leBytes 8 n)` and to `leNat (beBytes 8 n)` -/
theorem swap64_lt (n : Nat) : swap64 n < 2^64 :=
  beNat_lt (leBytes_length 8 n)

theorem swap64_swap64 (n : Nat) (h : n < 2^64) : swap64 (swap64 n) = n := by
  have h1 : beBytes 8 (swap64 n) = leBytes 8 n := beBytes_beNat (leBytes_length 8 n)
  exact (congrArg leNat h1).trans (leNat_leBytes 8 n h)

theorem value_rt (P : Prims) (h : Bool) (f : Fmt) (hc : compatible h f) (v : Value) (hv : Value.ok P v) :
    Value.ofS P h (lossy f (Value.toS h v)) = .ok v := by
  cases v with
  | null => simp [Value.toS, lossy, lossyL, Value.ofS, ofNum]
  | explicit n => simp [Value.toS, lossy, lossyL, Value.ofS, ofNum, swap64_lt n, swap64_swap64 n hv]
  | conf c => simp [Value.toS, lossy, lossyL, Value.ofS, ofNum, ofPoint_rt P.commitment h f hc c hv.1 hv.2]

theorem asset_rt (P : Prims) (h : Bool) (f : Fmt) (hc : compatible h f) (v : Asset) (hv : Asset.ok P v) :
    Asset.ofS P h (lossy f (Asset.toS h v)) = .ok v := by
  cases v with
  | null => simp [Asset.toS, lossy, lossyL, Asset.ofS, ofNum]
  | explicit id => simp [Asset.toS, lossy, lossyL, Asset.ofS, ofNum, ofHash_rt kAssetId h f hc id hv]
  | conf g => simp [Asset.toS, lossy, lossyL, Asset.ofS, ofNum, ofPoint_rt P.generator h f hc g hv.1 hv.2]

theorem nonce_rt (P : Prims) (h : Bool) (f : Fmt) (v : Nonce) (hv : Nonce.ok P v) :
    Nonce.ofS P h (lossy f (Nonce.toS h v)) = .ok v := by
  cases v with
  | null => simp [Nonce.toS, lossy, lossyL, Nonce.ofS, ofNum]
  | explicit b => simp [Nonce.toS, lossy, lossyL, Nonce.ofS, ofNum, ofArr_rt f 32 b hv]
  | conf pk => simp [Nonce.toS, lossy, lossyL, Nonce.ofS, ofNum, ofPubkey_rt P h f pk hv.1 hv.2]

theorem blindingFactor_rt (P : Prims) (h : Bool) (f : Fmt) (hc : compatible h f) (b : Bytes)
    (hv : BlindingFactor.ok P b) : BlindingFactor.ofS P h (lossy f (BlindingFactor.toS h b)) = .ok b := by
  obtain ⟨hl, ht⟩ := hv
  rcases compatible_cases hc with rfl | ⟨rfl, rfl⟩
  · simp [BlindingFactor.toS, lossy_sStr, BlindingFactor.ofS, bfParse_bfShow P.tweak b hl ht]
  · simp [BlindingFactor.toS, lossy, BlindingFactor.ofS, hl, ht]

/-- `serde_string_impl!` and `Address`: a `Display`/`FromStr` pair that round-trips as text does so through serde -/
theorem string_rt {α} (f : Fmt) (parse : String → Res α) (s : String) (a : α) (h : parse s = .ok a) :
    stringOfS parse (lossy f (stringToS s)) = .ok a := by
  simp [stringToS, lossy, stringOfS, h]

theorem keysOk_lossyF (f : Fmt) (fs : List (String × SVal)) : keysOk (lossyF f fs) = true := by
  induction fs with
  | nil => rfl
  | cons a r ih => obtain ⟨k, v⟩ := a; simp [lossyF, keysOk, ih]

theorem fieldOpt_miss {α} (f : Fmt) {n k : String} (p : SVal → Res α) (v : SVal) (fs : List (String × SVal)) (h : k ≠ n) :
    fieldOpt n p (lossyF f ((k, v) :: fs)) = fieldOpt n p (lossyF f fs) := by
  simp [lossyF, fieldOpt, h]

theorem fieldOpt_skip {α} (f : Fmt) (n : String) (p : SVal → Res α) (rest : List (String × SVal)) :
    ∀ (pre : List (String × SVal)), n ∉ pre.map Prod.fst →
    fieldOpt n p (lossyF f (pre ++ rest)) = fieldOpt n p (lossyF f rest)
  | [], _ => rfl
  | (k, v) :: r, h => by
    rw [List.map_cons, List.mem_cons, not_or] at h
    rw [List.cons_append, fieldOpt_miss f p v _ (Ne.symm h.1), fieldOpt_skip f n p rest r h.2]

theorem fieldOpt_absent {α} (f : Fmt) (n : String) (p : SVal → Res α) (fs : List (String × SVal))
    (h : n ∉ fs.map Prod.fst) : fieldOpt n p (lossyF f fs) = .ok .none := by
  simpa [lossyF, fieldOpt] using fieldOpt_skip f n p [] fs h

theorem fieldOpt_hit {α} (f : Fmt) {n : String} (p : SVal → Res α) (v : SVal) (fs : List (String × SVal))
    (h : n ∉ fs.map Prod.fst) : fieldOpt n p (lossyF f ((n, v) :: fs)) = (p (lossy f v)).map some := by
  simp only [lossyF, fieldOpt, if_true, fieldOpt_absent f n p fs h]
  cases p (lossy f v) <;> rfl

/-- the map `es` holds the field `(n, v)` of a struct: looking `n` up finds the parse of `v` as the format hands it over -/
structure Entry (f : Fmt) (es : List (SVal × SVal)) (n : String) (v : SVal) : Prop where
  opt {α} (p : SVal → Res α) : fieldOpt n p es = (p (lossy f v)).map some
  req {α} (p : SVal → Res α) : field n p es = p (lossy f v)

theorem entry_lossyF (f : Fmt) {n : String} {v : SVal} {fs : List (String × SVal)} (hnd : (fs.map Prod.fst).Nodup)
    (hm : (n, v) ∈ fs) : Entry f (lossyF f fs) n v := by
  obtain ⟨pre, post, rfl⟩ := List.append_of_mem hm
  obtain ⟨h1, h2⟩ := key_not_mem_of_nodup hnd
  have opt {α} (p : SVal → Res α) : fieldOpt n p (lossyF f (pre ++ (n, v) :: post)) = (p (lossy f v)).map some := by
    rw [fieldOpt_skip f n p _ pre h1, fieldOpt_hit f p v post h2]
  exact ⟨opt, fun p => by rw [field, opt p]; cases p (lossy f v) <;> rfl⟩

/-- an entry for every field of `fs`, as a conjunction: a proof names them field by field -/
def Entries (f : Fmt) (es : List (SVal × SVal)) : List (String × SVal) → Prop
  | [] => True
  | (n, v) :: fs => Entry f es n v ∧ Entries f es fs

theorem entries_of_mem (f : Fmt) (es : List (SVal × SVal)) (fs : List (String × SVal))
    (h : ∀ n v, (n, v) ∈ fs → Entry f es n v) : Entries f es fs := by
  induction fs with
  | nil => trivial
  | cons x r ih => exact ⟨h _ _ List.mem_cons_self, ih fun n v hm => h n v (List.mem_cons_of_mem _ hm)⟩

/-- A struct with pairwise distinct field names is serialized as the map of its fields, and a visitor consults that
    map only through `keysOk` and its lookups. `es` is a variable for the sake of the kernel: in the literal map it
    evaluates the lookups still to come, string comparisons included, each time it meets the visitor's nested `match`. -/
theorem struct_rt {α} (f : Fmt) (ofS : SVal → Res α) {nm : String} {fs : List (String × SVal)} {a : α}
    (hnd : (fs.map Prod.fst).Nodup)
    (H : ∀ es, keysOk es = true → Entries f es fs →
      (∀ {β} (n : String) (p : SVal → Res β), n ∉ fs.map Prod.fst → fieldOpt n p es = .ok none) →
      ofS (.map es) = .ok a) :
    ofS (lossy f (.struct nm fs)) = .ok a := by
  rw [lossy_struct]
  exact H _ (keysOk_lossyF f fs) (entries_of_mem f _ fs fun _ _ => entry_lossyF f hnd) fun n p => fieldOpt_absent f n p fs

/-! ### `OutPoint` and the `serde_struct_impl!` structs

  Each proof names the entries of the struct's map by their fields, in the order `toS` writes them, and walks the visitor
  in the order `ofS` reads them: the lookup of a field, then the round trip of its value. The closing `rfl` computes the
  visitor's nested `match`, every scrutinee now an `.ok`. -/

theorem outPoint_rt (h : Bool) (f : Fmt) (hc : compatible h f) (o : OutPoint) (hv : OutPoint.ok o) :
    OutPoint.ofS h (lossy f (OutPoint.toS h o)) = .ok o := by
  rcases compatible_cases hc with rfl | ⟨rfl, rfl⟩
  · simp [OutPoint.toS, lossy_sStr, OutPoint.ofS, outPointParse_outPointShow o hv.1 hv.2]
  · refine struct_rt .cbor (OutPoint.ofS false) (by simp) fun es hk ⟨txid, vout, _⟩ _ => ?_
    rw [OutPoint.ofS, hk, txid.req, ofHash_rt kTxid false .cbor hc o.txid hv.1, vout.req, ofNum_rt .cbor _ _ _ hv.2]
    rfl

theorem issuance_rt (P : Prims) (h : Bool) (f : Fmt) (hc : compatible h f) (i : AssetIssuance)
    (hv : AssetIssuance.ok P i) : AssetIssuance.ofS P h (lossy f (AssetIssuance.toS h i)) = .ok i := by
  obtain ⟨h1, h2, h3, h4, h5⟩ := hv
  refine struct_rt f (AssetIssuance.ofS P h) (by simp) fun es hk ⟨nonce, entropy, amount, inflationKeys, _⟩ _ => ?_
  rw [AssetIssuance.ofS, hk, nonce.req, ofTweak_rt P h f hc _ h1 h2, entropy.req, ofArr_rt f 32 _ h3, amount.req,
    value_rt P h f hc _ h4, inflationKeys.req, value_rt P h f hc _ h5]
  rfl

theorem txInWitness_rt (P : Prims) (h : Bool) (f : Fmt) (hc : compatible h f) (w : TxInWitness)
    (hv : TxInWitness.ok P w) : TxInWitness.ofS P h (lossy f (TxInWitness.toS h w)) = .ok w := by
  refine struct_rt f (TxInWitness.ofS P h) (by simp) fun es hk ⟨amountProof, keysProof, scriptWitness, peginWitness, _⟩ _ => ?_
  rw [TxInWitness.ofS, hk, amountProof.req, ofOptProof_rt P.rangeproof h f hc _ hv.1, keysProof.req,
    ofOptProof_rt P.rangeproof h f hc _ hv.2, scriptWitness.req, ofStack_rt, peginWitness.req, ofStack_rt]
  rfl

theorem txOutWitness_rt (P : Prims) (h : Bool) (f : Fmt) (hc : compatible h f) (w : TxOutWitness)
    (hv : TxOutWitness.ok P w) : TxOutWitness.ofS P h (lossy f (TxOutWitness.toS h w)) = .ok w := by
  refine struct_rt f (TxOutWitness.ofS P h) (by simp) fun es hk ⟨surjectionProof, rangeproof, _⟩ _ => ?_
  rw [TxOutWitness.ofS, hk, surjectionProof.req, ofOptProof_rt P.surjproof h f hc _ hv.1, rangeproof.req,
    ofOptProof_rt P.rangeproof h f hc _ hv.2]
  rfl

theorem sequence_rt (f : Fmt) (n : Nat) (h : n < 2^32) : ofSequence (lossy f (sSequence n)) = .ok n :=
  ofNum_rt f _ 32 n h

theorem lockTime_rt (f : Fmt) (n : Nat) (h : n < 2^32) : ofLockTime (lossy f (sLockTime n)) = .ok n := by
  unfold sLockTime
  split <;> cases f <;> simp [lossy, ofLockTime, lockTimeVariant, ofNum, h]

theorem txIn_rt (P : Prims) (h : Bool) (f : Fmt) (hc : compatible h f) (i : TxIn) (hv : TxIn.ok P i) :
    TxIn.ofS P h (lossy f (TxIn.toS h i)) = .ok i := by
  obtain ⟨h1, h2, h3, h4⟩ := hv
  refine struct_rt f (TxIn.ofS P h) (by simp)
    fun es hk ⟨previousOutput, isPegin, scriptSig, sequence, issuance, witness, _⟩ _ => ?_
  -- `is_pegin` needs no lemma: `ofBool` reads the `.bool` that `lossy` leaves alone by computation
  rw [TxIn.ofS, hk, previousOutput.req, outPoint_rt h f hc _ h1, isPegin.req, scriptSig.req, ofScript_rt, sequence.req,
    sequence_rt f _ h2, issuance.req, issuance_rt P h f hc _ h3, witness.req, txInWitness_rt P h f hc _ h4]
  rfl

theorem txOut_rt (P : Prims) (h : Bool) (f : Fmt) (hc : compatible h f) (o : TxOut) (hv : TxOut.ok P o) :
    TxOut.ofS P h (lossy f (TxOut.toS h o)) = .ok o := by
  obtain ⟨h1, h2, h3, h4⟩ := hv
  refine struct_rt f (TxOut.ofS P h) (by simp) fun es hk ⟨asset, value, nonce, scriptPubkey, witness, _⟩ _ => ?_
  rw [TxOut.ofS, hk, asset.req, asset_rt P h f hc _ h1, value.req, value_rt P h f hc _ h2, nonce.req,
    nonce_rt P h f _ h3, scriptPubkey.req, ofScript_rt, witness.req, txOutWitness_rt P h f hc _ h4]
  rfl

theorem tx_rt (P : Prims) (h : Bool) (f : Fmt) (hc : compatible h f) (t : Tx) (hv : Tx.ok P t) :
    Tx.ofS P h (lossy f (Tx.toS h t)) = .ok t := by
  obtain ⟨h1, h2, h3, h4⟩ := hv
  refine struct_rt f (Tx.ofS P h) (by simp) fun es hk ⟨version, lockTime, input, output, _⟩ _ => ?_
  rw [Tx.ofS, hk, version.req, ofNum_rt f _ _ _ h1, lockTime.req, lockTime_rt f _ h2, input.req,
    ofSeq_rt f _ _ _ fun i hi => txIn_rt P h f hc i (h3 i hi), output.req,
    ofSeq_rt f _ _ _ fun o ho => txOut_rt P h f hc o (h4 o ho)]
  rfl

/-! ### the canonical values of C01 (`wf`) are in the domain of the serde round trip (`ok`)

  What only the wire format looks at is dropped: the prefix byte of a commitment, the size limits (`maxVecSize`), that a
  proof is not empty, the bits of `vout` and of the block version that serve as flags there. -/

theorem value_ok_of_wf (P : Prims) (v : Value) (h : v.wf P) : Value.ok P v := by
  cases v with
  | null => trivial
  | explicit n => exact h
  | conf c =>
    obtain ⟨hlen, _, hvalid⟩ := h
    exact ⟨hlen, hvalid⟩

theorem asset_ok_of_wf (P : Prims) (v : Asset) (h : v.wf P) : Asset.ok P v := by
  cases v with
  | null => trivial
  | explicit n => exact h
  | conf c =>
    obtain ⟨hlen, _, hvalid⟩ := h
    exact ⟨hlen, hvalid⟩

theorem nonce_ok_of_wf (P : Prims) (v : Nonce) (h : v.wf P) : Nonce.ok P v := by
  cases v with
  | null => trivial
  | explicit n => exact h
  | conf c =>
    obtain ⟨hlen, _, hvalid⟩ := h
    exact ⟨hlen, hvalid⟩

theorem optProof_ok_of_wf (valid : Bytes → Bool) (o : Option Bytes) (h : wfOptProof valid o) : okOptProof valid o := by
  cases o with
  | none => trivial
  | some b =>
    obtain ⟨_, hvalid, _⟩ := h
    exact hvalid

theorem issuance_ok_of_wf (P : Prims) (i : AssetIssuance) (h : i.wf P) : AssetIssuance.ok P i := by
  obtain ⟨hnonce, htweak, hentropy, hamount, hkeys⟩ := h
  exact ⟨hnonce, htweak, hentropy, value_ok_of_wf P _ hamount, value_ok_of_wf P _ hkeys⟩

theorem issuance_null_ok (P : Prims) (hz : P.tweak AssetIssuance.zero32 = true) : AssetIssuance.ok P AssetIssuance.null :=
  ⟨by simp [AssetIssuance.null, AssetIssuance.zero32], hz, by simp [AssetIssuance.null, AssetIssuance.zero32], trivial, trivial⟩

theorem txIn_ok_of_wf (P : Prims) (hz : P.tweak AssetIssuance.zero32 = true) (i : TxIn) (h : i.wf P) : TxIn.ok P i := by
  obtain ⟨⟨ht, hvout, _, hseq, hiss⟩, hamount, hkeys, _, _⟩ := h
  refine ⟨⟨ht, ?_⟩, hseq, ?_, ?_⟩
  · rcases hvout with ⟨hlt, _⟩ | ⟨heq, _⟩
    · omega
    · rw [heq]; decide
  · by_cases hi : i.hasIssuance = true
    · rw [if_pos hi] at hiss; exact issuance_ok_of_wf P _ hiss
    · rw [if_neg hi] at hiss; rw [hiss]; exact issuance_null_ok P hz
  · exact ⟨optProof_ok_of_wf _ _ hamount, optProof_ok_of_wf _ _ hkeys⟩

theorem txOut_ok_of_wf (P : Prims) (o : TxOut) (h : o.wf P) : TxOut.ok P o := by
  obtain ⟨⟨ha, hv, hn, _⟩, hsurj, hrange⟩ := h
  exact ⟨asset_ok_of_wf P _ ha, value_ok_of_wf P _ hv, nonce_ok_of_wf P _ hn,
    ⟨optProof_ok_of_wf _ _ hsurj, optProof_ok_of_wf _ _ hrange⟩⟩

theorem tx_ok_of_wf (P : Prims) (hz : P.tweak AssetIssuance.zero32 = true) (t : Tx) (h : t.wf P) : Tx.ok P t := by
  obtain ⟨h1, h2, _, _, h5, h6⟩ := h
  exact ⟨h1, h2, fun i hi => txIn_ok_of_wf P hz i (h5 i hi), fun o ho => txOut_ok_of_wf P o (h6 o ho)⟩

theorem params_ok_of_wf (p : Params) (h : p.wf) : Params.ok p := by
  cases p with
  | null => trivial
  | compact s l e =>
    obtain ⟨_, hlimit, hroot⟩ := h
    exact ⟨hlimit, hroot⟩
  | full f =>
    obtain ⟨_, hlimit, _⟩ := h
    exact hlimit

theorem header_ok_of_wf (b : BlockHeader) (h : b.wf) : BlockHeader.ok b := by
  obtain ⟨h1, h2, h3, h4, h5, h6⟩ := h
  refine ⟨by omega, h2, h3, h4, h5, ?_⟩
  cases hx : b.ext with
  | proof c s => trivial
  | dynafed c p w =>
    rw [hx] at h6
    obtain ⟨hc, hp, _⟩ := h6
    exact ⟨params_ok_of_wf c hc, params_ok_of_wf p hp⟩

theorem block_ok_of_wf (P : Prims) (hz : P.tweak AssetIssuance.zero32 = true) (b : Block) (h : b.wf P) : Block.ok P b := by
  obtain ⟨hheader, _, htx⟩ := h
  exact ⟨header_ok_of_wf _ hheader, fun t ht => tx_ok_of_wf P hz t (htx t ht)⟩

end EV.Serde
