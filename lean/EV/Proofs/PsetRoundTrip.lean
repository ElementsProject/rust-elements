/-
  EV.Proofs.PsetRoundTrip — `extract_tx (from_tx tx) = tx` holds for EXACTLY the transactions described by `Rt`
  (`extract_fromTx_iff`).  An input fails on the flag/coinbase clash of its index word, and on pegin or issuance
  data without the flag that makes `from_txin` keep them; an output on a nonce: `ecdh_pubkey` is the only carrier
  of the nonce in `extract_tx`, and `from_txout` fills it only for partially blinded outputs (recorded finding
  class F12bc).
-/
import EV.Proofs.CodecTx
import EV.Proofs.PsetExtract
namespace EV.Proofs.PsetRoundTrip
open EV EV.Codec EV.Proofs.PsetExtract

/-- inputs that survive `from_txin` then `extract_tx` -/
def RtIn (i : TxIn) : Prop :=
  ((i.previousOutput.vout = 0xffffffff ∧ i.isPegin = false) ∨
   (i.previousOutput.vout < 2^30 ∧
     ¬ (i.previousOutput.vout = 2^30 - 1 ∧ i.isPegin = true ∧ i.hasIssuance = true))) ∧
  (i.isPegin = false → i.witness.peginWitness = []) ∧
  (i.hasIssuance = false →
    i.assetIssuance = AssetIssuance.null ∧ i.witness.amountRangeproof = none ∧
    i.witness.inflationKeysRangeproof = none)

def RtOut (o : TxOut) : Prop :=
  o.asset ≠ .null ∧ o.value ≠ .null ∧
  (o.nonce = .null ∨
   ∃ pk, o.nonce = .conf pk ∧ compressPk pk = pk ∧ PsetOutput.txOutPartiallyBlinded o = true)

def Rt (t : Tx) : Prop := (∀ i ∈ t.input, RtIn i) ∧ (∀ o ∈ t.output, RtOut o)

/-- every index is a `u32`: the hypothesis of `Props.C08.extract_from_tx_iff`, which no proof uses -/
def IndexInRange (t : Tx) : Prop := ∀ i ∈ t.input, i.previousOutput.vout < 2^32

theorem pairValue_roundtrip (v : Value) :
    PsetInput.pairValue (PsetInput.valueAmount v) (PsetInput.valueComm v) = v := by
  cases v <;> rfl

theorem fromTxIn_eq (t : TxIn) : PsetInput.fromTxIn t =
    { previousTxid := t.previousOutput.txid
      previousOutputIndex := t.voutWord
      sequence := some t.sequence
      finalScriptSig := some t.scriptSig
      finalScriptWitness := some t.witness.scriptWitness
      peginWitness := if t.isPegin then some t.witness.peginWitness else none
      issuanceBlindingNonce := if t.hasIssuance then some t.assetIssuance.nonce else none
      issuanceAssetEntropy := if t.hasIssuance then some t.assetIssuance.entropy else none
      issuanceValueAmount := if t.hasIssuance then PsetInput.valueAmount t.assetIssuance.amount else none
      issuanceValueComm := if t.hasIssuance then PsetInput.valueComm t.assetIssuance.amount else none
      issuanceInflationKeys := if t.hasIssuance then PsetInput.valueAmount t.assetIssuance.inflationKeys else none
      issuanceInflationKeysComm := if t.hasIssuance then PsetInput.valueComm t.assetIssuance.inflationKeys else none
      issuanceKeysRangeproof := if t.hasIssuance then t.witness.inflationKeysRangeproof else none
      issuanceValueRangeproof := if t.hasIssuance then t.witness.amountRangeproof else none } := by
  unfold PsetInput.fromTxIn TxIn.voutWord
  -- the two tests are decided before the `let`s of `from_txin` are expanded: every expansion copies the record
  cases t.isPegin <;> cases t.hasIssuance <;> simp -zeta only [if_true, if_false, Bool.false_eq_true, Nat.or_zero] <;> rfl

theorem toTxIn_fromTxIn (i : TxIn) :
    (PsetInput.fromTxIn i).toTxIn =
      { previousOutput := ⟨i.previousOutput.txid, (CodecTx.splitWord i.voutWord).1⟩
        isPegin := (CodecTx.splitWord i.voutWord).2.1
        scriptSig := i.scriptSig
        sequence := i.sequence
        assetIssuance := if i.hasIssuance then i.assetIssuance else AssetIssuance.null
        witness :=
          { amountRangeproof := if i.hasIssuance then i.witness.amountRangeproof else none
            inflationKeysRangeproof := if i.hasIssuance then i.witness.inflationKeysRangeproof else none
            scriptWitness := i.witness.scriptWitness
            peginWitness := if i.isPegin then i.witness.peginWitness else [] } } := by
  rw [fromTxIn_eq]
  cases i.isPegin <;> cases i.hasIssuance <;>
    simp only [PsetInput.toTxIn, PsetInput.plainIndex, PsetInput.isPegin, PsetInput.assetIssuance,
      pairValue_roundtrip, Option.getD_some, Option.getD_none, if_true, if_false, Bool.false_eq_true] <;>
    rfl

theorem txIn_eq_iff (a i : TxIn) :
    a = i ↔
      a.previousOutput.txid = i.previousOutput.txid ∧ a.previousOutput.vout = i.previousOutput.vout ∧
      a.isPegin = i.isPegin ∧ a.scriptSig = i.scriptSig ∧ a.sequence = i.sequence ∧
      a.assetIssuance = i.assetIssuance ∧
      a.witness.amountRangeproof = i.witness.amountRangeproof ∧
      a.witness.inflationKeysRangeproof = i.witness.inflationKeysRangeproof ∧
      a.witness.scriptWitness = i.witness.scriptWitness ∧ a.witness.peginWitness = i.witness.peginWitness := by
  obtain ⟨⟨_, _⟩, _, _, _, _, ⟨_, _, _, _⟩⟩ := a
  obtain ⟨⟨_, _⟩, _, _, _, _, ⟨_, _, _, _⟩⟩ := i
  simp only [TxIn.mk.injEq, OutPoint.mk.injEq, TxInWitness.mk.injEq, and_assoc]

open EV.Proofs.CodecTx in
/-- the index word gives back the index and the pegin flag exactly on the first component of `RtIn` -/
theorem index_iff (v : Nat) (p q : Bool) (w : Nat) (hw : joinWord v p q = w) :
    ((splitWord w).1 = v ∧ (splitWord w).2.1 = p) ↔
    ((v = 0xffffffff ∧ p = false) ∨ (v < 2^30 ∧ ¬ (v = 2^30 - 1 ∧ p = true ∧ q = true))) := by
  subst hw
  constructor
  · rintro ⟨ha, hb⟩
    by_cases hc : joinWord v p q = 0xffffffff
    · -- the coinbase word reads back as the coinbase index without flags
      rw [hc] at ha hb
      exact .inl ⟨ha.symm, hb.symm⟩
    · -- any other word reads back as `w % 2^30`; at the clash the word would be the coinbase word
      rw [splitWord, if_neg hc] at ha
      have hv : v < 2^30 := ha ▸ Nat.mod_lt _ (Nat.two_pow_pos 30)
      exact .inr ⟨hv, fun h => hc ((joinWord_eq_coinbase_iff hv).mpr h)⟩
  · rintro (⟨rfl, rfl⟩ | h)
    · rw [joinWord_coinbase]
      exact ⟨rfl, rfl⟩
    · rw [(splitWord_joinWord (.inl h)).2]
      exact ⟨rfl, rfl⟩

theorem toTxIn_fromTxIn_iff (i : TxIn) : (PsetInput.fromTxIn i).toTxIn = i ↔ RtIn i := by
  have hidx := index_iff i.previousOutput.vout i.isPegin i.hasIssuance i.voutWord rfl
  rw [txIn_eq_iff, toTxIn_fromTxIn]
  simp only [ite_eq_left_iff, Bool.not_eq_true, true_and]
  rw [← and_assoc, hidx]
  constructor
  · rintro ⟨h1, h2, h3, h4, h5⟩
    exact ⟨h1, fun hp => (h5 hp).symm, fun hq => ⟨(h2 hq).symm, (h3 hq).symm, (h4 hq).symm⟩⟩
  · rintro ⟨h1, h2, h3⟩
    exact ⟨h1, fun hq => (h3 hq).1.symm, fun hq => (h3 hq).2.1.symm, fun hq => (h3 hq).2.2.symm,
      fun hp => (h2 hp).symm⟩

theorem pairAsset_roundtrip (a : Asset) :
    PsetOutput.pairAsset (PsetOutput.assetId a) (PsetOutput.assetGen a) = a := by
  cases a <;> rfl

/-- only the nonce of the `TxOut` may differ -/
theorem outOf_fromTxOut (o : TxOut) : BridgePsetSize.outOf (PsetOutput.fromTxOut o) =
    { o with nonce := (PsetOutput.nonceOf
        (if PsetOutput.txOutPartiallyBlinded o then PsetOutput.noncePk o.nonce else none)) } := by
  simp only [BridgePsetSize.outOf, PsetOutput.fromTxOut, pairAsset_roundtrip, pairValue_roundtrip]

theorem nonce_iff (n : Nonce) (b : Bool) :
    PsetOutput.nonceOf (if b then PsetOutput.noncePk n else none) = n ↔
      (n = .null ∨ ∃ pk, n = .conf pk ∧ compressPk pk = pk ∧ b = true) := by
  cases n with
  | null => cases b <;> simp [PsetOutput.nonceOf, PsetOutput.noncePk]
  | explicit x => cases b <;> simp [PsetOutput.nonceOf, PsetOutput.noncePk]
  | conf pk => cases b <;> simp [PsetOutput.nonceOf, PsetOutput.noncePk]

theorem extract_fromTxOut_iff (o : TxOut) : (PsetOutput.fromTxOut o).extract = .ok o ↔ RtOut o := by
  unfold RtOut
  rw [extract_eq, outOf_fromTxOut, checkOut_eq_ok, ← nonce_iff o.nonce (PsetOutput.txOutPartiallyBlinded o)]
  obtain ⟨a, v, n, s, w⟩ := o
  simp only [TxOut.mk.injEq, true_and, and_true, ne_eq]

theorem extract_fromTxOut_no_panic (o : TxOut) (s : String) : (PsetOutput.fromTxOut o).extract ≠ .panic s :=
  extract_no_panic _ s

/-- inputs made by `from_txin` carry no lock-time requirement: the lock time is the fallback -/
theorem locktime_fromTx (t : Tx) : (Pset.fromTx t).locktime = .ok t.lockTime := by
  rw [Pset.locktime, PsetLocktime.locktimeOf_free]
  · rfl
  · intro r hr
    obtain ⟨x, hx, rfl⟩ := List.mem_map.mp hr
    obtain ⟨i, _, rfl⟩ := List.mem_map.mp hx
    rw [fromTxIn_eq]
    rfl

theorem sanityCheck_fromTx (t : Tx) : (Pset.fromTx t).sanityCheck = .ok () :=
  (sanityCheck_eq_ok _ ()).mpr ⟨(List.length_map _).symm, (List.length_map _).symm⟩

theorem extractOutputs_fromTxOut_iff (l : List TxOut) :
    Pset.extractOutputs (l.map PsetOutput.fromTxOut) = .ok l ↔ ∀ o ∈ l, RtOut o := by
  rw [extractOutputs_ok_iff, List.map_map, List.map_inj_left]
  exact forall_congr' fun o => imp_congr_right fun _ => extract_fromTxOut_iff o

theorem map_eq_self_iff {α : Type} (f : α → α) (l : List α) : l.map f = l ↔ ∀ x ∈ l, f x = x := by
  have h := List.map_inj_left (l := l) (f := f) (g := id)
  rw [List.map_id] at h
  exact h

theorem extract_fromTx_iff (t : Tx) : (Pset.fromTx t).extractTx = .ok t ↔ Rt t := by
  have hin : t.input = (Pset.fromTx t).inputs.map PsetInput.toTxIn ↔ ∀ i ∈ t.input, RtIn i := by
    show t.input = (t.input.map PsetInput.fromTxIn).map PsetInput.toTxIn ↔ _
    rw [List.map_map, eq_comm, map_eq_self_iff]
    exact forall_congr' fun i => imp_congr_right fun _ => toTxIn_fromTxIn_iff i
  have hout : (Pset.fromTx t).outputs.map PsetOutput.extract = t.output.map Res.ok ↔ ∀ o ∈ t.output, RtOut o := by
    rw [← extractOutputs_ok_iff]
    exact extractOutputs_fromTxOut_iff t.output
  rw [extractTx_ok_iff, hin, hout, locktime_fromTx]
  exact ⟨fun ⟨_, _, _, _, hi, ho⟩ => ⟨hi, ho⟩,
    fun ⟨hi, ho⟩ => ⟨(List.length_map _).symm, (List.length_map _).symm, rfl, rfl, hi, ho⟩⟩

theorem compressPk_of_length (pk : Bytes) (h : pk.length = 33) : compressPk pk = pk := by
  unfold compressPk
  rw [if_neg (by omega)]

end EV.Proofs.PsetRoundTrip
