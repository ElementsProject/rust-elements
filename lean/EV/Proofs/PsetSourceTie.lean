/-
  Ties the PSET model's field inventory to the Rust source: `EV.Gen.pset*Fields` / `pset*MergeOps` are
  re-extracted from `src/pset/map/{input,output,global}.rs` on every run (struct definitions and the bodies
  of `merge`); `EV.PsetFieldTable` is the table the model is generated from. All statements are closed
  and rest on evaluation, so a field added to a struct, removed from it, or left out of `merge`
  makes this file fail to compile.
-/
import EV.Gen.Consts
import EV.Model.PsetFieldTable
namespace EV.Proofs.PsetSourceTie
open EV

/-- container kind of a model kind: `ob`/`on*`/`ol` are `Option`s, `kv` a `BTreeMap`, `b`/`n*` mandatory -/
def kindOf (k : String) : String :=
  if k == "kv" then "map" else if k == "ob" || k == "ol" || k.startsWith "on" then "opt" else "plain"

def opOf (m : String) : Option String :=
  if m == "m" then some "first" else if m == "e" then some "extend" else if m == "x" then some "max" else none

def namesKinds (t : List (String × String × String)) : List (String × String) := t.map (fun (n, k, _) => (n, kindOf k))

def mergeOps (t : List (String × String × String)) : List (String × String) :=
  t.filterMap (fun (n, _, m) => (opOf m).map (fun o => (n, o)))

def sameSet (a b : List (String × String)) : Bool := a.all (b.contains ·) && b.all (a.contains ·)

theorem kindOf_table :
    kindOf "ob" = "opt" ∧ kindOf "ol" = "opt" ∧ kindOf "on1" = "opt" ∧ kindOf "on4" = "opt" ∧ kindOf "on8" = "opt" ∧
    kindOf "kv" = "map" ∧ kindOf "b" = "plain" ∧ kindOf "n4" = "plain" := by decide +kernel

/-- the model has exactly the fields of `pset::Input`, in the same order, with the same container kinds -/
theorem input_fields_match : namesKinds PsetFieldTable.input = Gen.psetInputFields := by
  obtain ⟨k1, k2, k3, k4, k5, k6, k7, k8⟩ := kindOf_table
  -- with the kinds put in, the two lists are the same text; deciding the equation would compare every name byte by byte
  simp only [namesKinds, PsetFieldTable.input, List.map_cons, List.map_nil, k1, k2, k3, k4, k5, k6, k7, k8]
  rfl

theorem output_fields_match : namesKinds PsetFieldTable.output = Gen.psetOutputFields := by
  obtain ⟨k1, _, _, k4, k5, k6, k7, _⟩ := kindOf_table
  simp only [namesKinds, PsetFieldTable.output, List.map_cons, List.map_nil, k1, k4, k5, k6, k7]
  rfl

/-! `Input::merge` / `Output::merge` treat each field the way the model's merge does (as a set of (field, operation)
    pairs: the statements of `merge` touch pairwise different fields) -/
theorem input_merge_ops_match : sameSet (mergeOps PsetFieldTable.input) Gen.psetInputMergeOps = true := by decide +kernel

theorem output_merge_ops_match : sameSet (mergeOps PsetFieldTable.output) Gen.psetOutputMergeOps = true := by decide +kernel

theorem input_merge_ops_nodup : (Gen.psetInputMergeOps.map (·.1)).Nodup := by decide +kernel

theorem output_merge_ops_nodup : (Gen.psetOutputMergeOps.map (·.1)).Nodup := by decide +kernel

/-- on the source inventory: every `Option` and every map field of the structs is handled by `merge` -/
def covered (fields ops : List (String × String)) : Bool :=
  fields.all (fun (n, k) => k == "plain" || ops.any (fun (m, _) => m == n))

theorem covered_of_table {t : List (String × String × String)} {ops : List (String × String)}
    (ht : ∀ e ∈ t, kindOf e.2.1 = "plain" ∨ (opOf e.2.2).isSome = true) (ho : sameSet (mergeOps t) ops = true) :
    covered (namesKinds t) ops = true := by
  simp only [covered, namesKinds, List.all_map, List.all_eq_true, Function.comp_def, Bool.or_eq_true, beq_iff_eq,
    List.any_eq_true]
  intro ⟨n, k, m⟩ he
  rcases ht _ he with hk | hm
  · exact .inl hk
  · obtain ⟨o, hmo⟩ := Option.isSome_iff_exists.mp hm
    have hmem : (n, o) ∈ mergeOps t := List.mem_filterMap.mpr ⟨_, he, by simp only [hmo, Option.map_some]⟩
    simp only [sameSet, Bool.and_eq_true, List.all_eq_true, List.contains_iff_mem] at ho
    exact .inr ⟨_, ho.1 _ hmem, rfl⟩

/-- the `Global::merge` statements found by the extractor (`tx_data` is flattened into `PsetGlobal`; the xpub
    reconciliation, the `tx_modifiable` OR and the fallback lock time are hand-written code, modelled in
    `PsetGlobal.merge`) -/
theorem global_merge_ops_inventory :
    sameSet Gen.psetGlobalMergeOps
      [("elements_tx_modifiable_flag", "first"), ("scalars", "extend"), ("proprietary", "extend"), ("unknown", "extend"), ("version", "max")] = true := by decide +kernel

end EV.Proofs.PsetSourceTie
