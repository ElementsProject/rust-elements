/-
  What the transaction-accessor theorems of C12 (`EV.Model.TxAccessors`) rest on: the closed form of the
  `fee_in` loop in both build modes (one law of `addU64` carries both), the `all_fees` loop as `fee_in` run
  for every asset at once, the exact classes of `is_null_data` and `pegout_data`, the pegout template as
  calls of the `script::Builder` model and as the iterator reads it back, the guard under which
  `to_pegin_witness` inverts `from_pegin_witness`, and sizes of fee outputs.
-/
import EV.Model.TxAccessors
import EV.Proofs.Accessors
import EV.Proofs.ScriptIter
import EV.Proofs.ScriptBuilder
import EV.Proofs.Res
import EV.Proofs.OrdMap
namespace EV.Proofs.TxAccessors
open EV EV.Codec EV.Acc EV.TxAcc EV.Gen EV.Proofs.Accessors

theorem two64 : (2 : Nat) ^ 64 = 18446744073709551616 := by decide

theorem isFee_iff (o : TxOut) :
    isFee o = true ↔ o.scriptPubkey = [] ∧ (∃ v, o.value = .explicit v) ∧ (∃ a, o.asset = .explicit a) := by
  unfold isFee
  rw [Bool.and_eq_true, Bool.and_eq_true, List.isEmpty_iff]
  constructor
  · rintro ⟨⟨h1, h2⟩, h3⟩
    refine ⟨h1, ?_, ?_⟩
    · cases hv : o.value <;> simp [hv, valueExplicit] at h2 ⊢
    · cases ha : o.asset <;> simp [ha, assetExplicit] at h3 ⊢
  · rintro ⟨h1, ⟨v, hv⟩, ⟨a, ha⟩⟩
    simp [h1, hv, ha, valueExplicit, assetExplicit]

/-- whether output `o` counts as fee in `asset` -/
def sel (asset : Bytes) (o : TxOut) : Bool := isFee o && decide (o.asset = .explicit asset)

theorem feeInSelect_eq (asset : Bytes) (o : TxOut) : feeInSelect asset o = .ok (sel asset o) := by
  unfold feeInSelect sel
  cases hf : isFee o with
  | false => rfl
  | true =>
    obtain ⟨_, _, ⟨a, ha⟩⟩ := (isFee_iff o).mp hf
    simp only [ha, assetExplicit, if_true, Bool.true_and, Asset.explicit.injEq]
    exact congrArg Res.ok (Bool.eq_iff_iff.mpr (by rw [beq_iff_eq, decide_eq_true_iff]))

theorem feeSum_nil (a : Bytes) : feeSum [] a = 0 := rfl

theorem feeSum_cons (o : TxOut) (outs : List TxOut) (a : Bytes) :
    feeSum (o :: outs) a = (if sel a o then explicitValueD o else 0) + feeSum outs a := by
  unfold feeSum feeOutputs
  rw [List.filter_cons]
  show (List.map explicitValueD (if sel a o = true then o :: _ else _)).sum = _
  cases sel a o <;> simp

theorem feeSum_perm {xs ys : List TxOut} (h : xs.Perm ys) (a : Bytes) : feeSum xs a = feeSum ys a :=
  ((h.filter _).map _).sum_nat

theorem addU64_checked (a b : Nat) :
    addU64 true a b = if a + b < 2^64 then .ok (a + b) else .panic feeOverflowSite := by
  by_cases h : a + b < 2^64
  · rw [if_pos h, addU64, if_neg (fun h' => absurd h'.2 (Nat.not_le.mpr h)), Nat.mod_eq_of_lt h]
  · rw [if_neg h, addU64, if_pos ⟨rfl, Nat.le_of_not_lt h⟩]

theorem addU64_wrapping (a b : Nat) : addU64 false a b = .ok ((a + b) % 2^64) :=
  if_neg (fun h => Bool.noConfusion h.1)

theorem addU64_zero (checks : Bool) {a : Nat} (h : a < 2^64) : addU64 checks a 0 = .ok a := by
  rw [addU64, Nat.add_zero, if_neg (fun hc => Nat.not_le.mpr h hc.2), Nat.mod_eq_of_lt h]

theorem addU64_lt {checks : Bool} {a b s : Nat} (h : addU64 checks a b = .ok s) : s < 2^64 := by
  unfold addU64 at h
  split at h
  · cases h
  · cases h
    exact Nat.mod_lt _ (Nat.two_pow_pos 64)

theorem addU64_assoc (checks : Bool) (x y z : Nat) :
    (addU64 checks x y).bind (fun s => addU64 checks s z) = addU64 checks x (y + z) := by
  cases checks with
  | false =>
    rw [addU64_wrapping, addU64_wrapping, ← Nat.add_assoc, ← Nat.mod_add_mod (x + y)]
    exact addU64_wrapping _ z
  | true =>
    rw [addU64_checked, addU64_checked x, ← Nat.add_assoc]
    by_cases h : x + y < 2^64
    · rw [if_pos h]
      exact addU64_checked _ z
    · rw [if_neg h, if_neg (fun h' => h (Nat.lt_of_le_of_lt (Nat.le_add_right _ z) h'))]
      rfl

/-- one round of the `fee_in` fold; the two `expect("is_fee")` cannot fire -/
theorem feeInLoop_cons (checks : Bool) (a : Bytes) (o : TxOut) (outs : List TxOut) (acc : Nat) :
    feeInLoop checks a (o :: outs) acc =
      if sel a o then (addU64 checks acc (explicitValueD o)).bind (feeInLoop checks a outs)
      else feeInLoop checks a outs acc := by
  rw [feeInLoop, feeInSelect_eq]
  cases hs : sel a o with
  | false => rfl
  | true =>
    obtain ⟨_, ⟨v, hv⟩, _⟩ := (isFee_iff o).mp (Bool.and_eq_true _ _ ▸ hs).1
    simp only [hv, valueExplicit, explicitValueD, Option.getD_some, if_true]
    cases addU64 checks acc v <;> rfl

theorem feeInLoop_eq (checks : Bool) (asset : Bytes) (outs : List TxOut) (acc : Nat) (hacc : acc < 2^64) :
    feeInLoop checks asset outs acc = addU64 checks acc (feeSum outs asset) := by
  induction outs generalizing acc with
  | nil => exact (addU64_zero checks hacc).symm
  | cons o outs ih =>
    rw [feeInLoop_cons, feeSum_cons]
    cases sel asset o with
    | false =>
      rw [if_neg Bool.false_ne_true, if_neg Bool.false_ne_true, Nat.zero_add]
      exact ih acc hacc
    | true =>
      rw [if_pos rfl, if_pos rfl, ← addU64_assoc]
      exact Res.bind_congr fun s h => ih s (addU64_lt h)

/-- `fee_in asset`, in either build mode -/
theorem feeIn_eq (checks : Bool) (t : Tx) (a : Bytes) : feeIn checks t a = addU64 checks 0 (feeSum t.output a) :=
  feeInLoop_eq checks a t.output 0 (Nat.two_pow_pos 64)

theorem feeMapGet_nil (a : Bytes) : feeMapGet [] a = 0 := rfl

theorem feeMapGet_cons (k : Bytes) (x : Nat) (m : FeeMap) (a : Bytes) :
    feeMapGet ((k, x) :: m) a = if a = k then x else feeMapGet m a := by
  rw [feeMapGet, OrdMap.lookup_cons_ite]
  split <;> rfl

theorem feeMapGet_ins (lt : Bytes → Bytes → Bool) (k : Bytes) (s : Nat) (m : FeeMap) (a : Bytes) :
    feeMapGet (OrdMap.ins lt k s m) a = if a = k then s else feeMapGet m a := by
  rw [feeMapGet, OrdMap.lookup_ins]
  split <;> rfl

/-- `entry(k).or_insert(0) += v`; `OrdMap.ins` at the order that holds of no two keys puts the sum in place of the
    old entry, or under a new key at the end -/
theorem feeMapAdd_eq (checks : Bool) (m : FeeMap) (k : Bytes) (v : Nat) :
    feeMapAdd checks m k v = (addU64 checks (feeMapGet m k) v).map fun s => OrdMap.ins (fun _ _ => false) k s m := by
  induction m with
  | nil =>
    rw [feeMapAdd, feeMapGet_nil]
    cases addU64 checks 0 v <;> rfl
  | cons kx rest ih =>
    obtain ⟨k', x⟩ := kx
    simp only [feeMapAdd, feeMapGet_cons, OrdMap.ins, Bool.false_eq_true, if_false]
    by_cases hk : k' = k
    · subst hk
      simp only [if_true]
      cases addU64 checks x v <;> rfl
    · rw [if_neg hk, if_neg (Ne.symm hk), ih]
      simp only [if_neg (Ne.symm hk)]
      cases addU64 checks (feeMapGet rest k) v <;> rfl

/-- the assets that get an entry in `all_fees` -/
def feeAsset (outs : List TxOut) (a : Bytes) : Prop := ∃ o ∈ outs, isFee o = true ∧ o.asset = .explicit a

theorem feeAsset_cons (o : TxOut) (outs : List TxOut) (a : Bytes) :
    feeAsset (o :: outs) a ↔ (isFee o = true ∧ o.asset = .explicit a) ∨ feeAsset outs a := by
  simp only [feeAsset, List.mem_cons, or_and_right, exists_or, exists_eq_left]

/-- `all_fees` runs `fee_in` for all assets at once: the entry of every asset moves as the accumulator of
    `fee_in` for that asset does.  No arithmetic: that is in `feeInLoop_eq`. -/
theorem allFeesLoop_sim (checks : Bool) (outs : List TxOut) (m : FeeMap) :
    ((∃ a, feeInLoop checks a outs (feeMapGet m a) = .panic feeOverflowSite) ∧
      allFeesLoop checks outs m = .panic feeOverflowSite) ∨
    ∃ m', allFeesLoop checks outs m = .ok m' ∧
      (∀ a, feeInLoop checks a outs (feeMapGet m a) = .ok (feeMapGet m' a)) ∧
      (∀ a, a ∈ m'.map Prod.fst ↔ a ∈ m.map Prod.fst ∨ feeAsset outs a) ∧
      ((m.map Prod.fst).Nodup → (m'.map Prod.fst).Nodup) := by
  induction outs generalizing m with
  | nil => exact .inr ⟨m, rfl, fun _ => rfl, fun a => by simp [feeAsset], id⟩
  | cons o outs ih =>
    rw [allFeesLoop]
    cases hf : isFee o with
    | false =>
      simp only [feeInLoop_cons, feeAsset_cons, sel, hf, Bool.false_and, Bool.false_eq_true, if_false, false_and,
        false_or]
      exact ih m
    | true =>
      obtain ⟨_, ⟨v, hv⟩, ⟨k, hk⟩⟩ := (isFee_iff o).mp hf
      have eadd := feeMapAdd_eq checks m k v
      simp only [feeInLoop_cons, feeAsset_cons, sel, hf, if_true, hk, hv, assetExplicit, valueExplicit, explicitValueD,
        Option.getD_some, eadd, Bool.true_and, Asset.explicit.injEq, decide_eq_true_eq, true_and, @eq_comm _ k]
      by_cases hov : checks = true ∧ 2^64 ≤ feeMapGet m k + v
      · have hadd : addU64 checks (feeMapGet m k) v = .panic feeOverflowSite := if_pos hov
        refine .inl ⟨⟨k, ?_⟩, ?_⟩
        · rw [if_pos rfl, hadd]
          rfl
        · rw [hadd]
          rfl
      · have hadd : addU64 checks (feeMapGet m k) v = .ok ((feeMapGet m k + v) % 2^64) := if_neg hov
        rw [hadd]
        generalize (feeMapGet m k + v) % 2^64 = s at hadd
        -- the entry of `k` has taken up `v`: every accumulator goes on from the entries of the updated map
        have hstep : ∀ a, (if a = k then (addU64 checks (feeMapGet m a) v).bind (feeInLoop checks a outs)
            else feeInLoop checks a outs (feeMapGet m a)) =
            feeInLoop checks a outs (feeMapGet (OrdMap.ins (fun _ _ => false) k s m) a) := fun a => by
          rw [feeMapGet_ins]
          split
          · subst a
            rw [hadd]
            rfl
          · rfl
        simp only [hstep]
        show _ ∨ ∃ m', allFeesLoop checks outs (OrdMap.ins (fun _ _ => false) k s m) = .ok m' ∧ _
        rcases ih (OrdMap.ins (fun _ _ => false) k s m) with hp | ⟨m', e, hg, hk', hn⟩
        · exact .inl hp
        · exact .inr ⟨m', e, hg,
            fun a => (hk' a).trans ((or_congr_left ((OrdMap.mem_keys_ins k s m a).trans or_comm)).trans or_assoc),
            fun hh => hn (OrdMap.nodup_keys_ins_false k s m hh)⟩

/-- a value `m` of `all_fees`: the values of `fee_in`, under one key for each asset of a fee output -/
structure FeesOf (checks : Bool) (t : Tx) (m : FeeMap) : Prop where
  get : ∀ a, feeIn checks t a = .ok (feeMapGet m a)
  keys : ∀ a, a ∈ m.map Prod.fst ↔ ∃ o ∈ t.output, isFee o = true ∧ o.asset = .explicit a
  nodup : (m.map Prod.fst).Nodup

theorem allFees_spec (checks : Bool) (t : Tx) :
    ((∃ a, feeIn checks t a = .panic feeOverflowSite) ∧ allFees checks t = .panic feeOverflowSite) ∨
    ∃ m, allFees checks t = .ok m ∧ FeesOf checks t m := by
  rcases allFeesLoop_sim checks t.output [] with h | ⟨m, e, hg, hk, hn⟩
  · exact .inl h
  · exact .inr ⟨m, e, hg, fun a => (hk a).trans (or_iff_right List.not_mem_nil), hn List.nodup_nil⟩

theorem allFees_ok {checks : Bool} {t : Tx} {m : FeeMap} (h : allFees checks t = .ok m) : FeesOf checks t m := by
  rcases allFees_spec checks t with ⟨-, e⟩ | ⟨m', e, hm⟩
  · rw [e] at h
    cases h
  · rw [e] at h
    cases h
    exact hm

theorem allFees_of_feeIn {checks : Bool} {t : Tx} (h : ∀ a, feeIn checks t a ≠ .panic feeOverflowSite) :
    ∃ m, allFees checks t = .ok m ∧ FeesOf checks t m :=
  (allFees_spec checks t).resolve_left fun ⟨⟨a, ha⟩, _⟩ => h a ha

theorem allFees_panic {checks : Bool} {t : Tx} {a : Bytes} (h : feeIn checks t a = .panic feeOverflowSite) :
    allFees checks t = .panic feeOverflowSite := by
  rcases allFees_spec checks t with ⟨-, e⟩ | ⟨m, -, hm⟩
  · exact e
  · rw [hm.get a] at h
    cases h

/-- the pegout template in the accessor model's instructions -/
def accPegoutInstrs (g spk : Bytes) (extra : List Bytes) : List Acc.Instr :=
  .op 0x6a :: .push g :: .push spk :: extra.map .push

theorem map_pegoutInstrs (g spk : Bytes) (ex : List Bytes) :
    (pegoutInstrs g spk ex).map instrOfScript = accPegoutInstrs g spk ex := by
  simp only [pegoutInstrs, accPegoutInstrs, List.map_cons, instrOfScript, List.map_map]
  congr 3

theorem instrOfScript_injective : ∀ {a b : Script.Instr}, instrOfScript a = instrOfScript b → a = b := by
  intro a b h
  cases a <;> cases b <;> simp [instrOfScript] at h ⊢ <;> exact h

theorem map_instrOfScript_injective : ∀ {xs ys : List Script.Instr},
    xs.map instrOfScript = ys.map instrOfScript → xs = ys :=
  (List.map_inj_right fun _ _ => instrOfScript_injective).mp

theorem nullDataTail_pushes (ex : List Bytes) : nullDataTail (ex.map Acc.Instr.push) = true := by
  induction ex with
  | nil => rfl
  | cons e ex ih => simpa [nullDataTail] using ih

theorem allPushes_pushes (ex : List Bytes) : allPushes (ex.map Acc.Instr.push) = some ex := by
  induction ex with
  | nil => rfl
  | cons e ex ih => simp [allPushes, ih]

theorem allPushes_some : ∀ {l : List Acc.Instr} {ex : List Bytes}, allPushes l = some ex → l = ex.map Acc.Instr.push := by
  intro l
  induction l with
  | nil =>
    intro ex h
    cases h
    rfl
  | cons i l ih =>
    intro ex h
    cases i with
    | op b => simp [allPushes] at h
    | push d =>
      simp only [allPushes, Option.map_eq_some_iff] at h
      obtain ⟨ex', h1, h2⟩ := h
      subst h2
      rw [ih h1]
      rfl

theorem nullDataTail_of_allPushes {l : List Acc.Instr} {ex : List Bytes} (h : allPushes l = some ex) :
    nullDataTail l = true := by
  rw [allPushes_some h]
  exact nullDataTail_pushes ex

/-- `is_null_data`: read without error, `OP_RETURN` and then only pushes and opcodes up to `OP_PUSHNUM_16` -/
theorem isNullData_true_iff (s : Bytes) : Acc.isNullData s = .ok true ↔
    ∃ rest, Acc.instructions false s = .ok (.op Acc.opReturn :: rest, none) ∧ nullDataTail rest = true := by
  unfold Acc.isNullData
  rw [instructions_eq]
  generalize pairOfScript (Script.collect false s.length s) = r
  obtain ⟨is, e⟩ := r
  match is with
  | [] => simp
  | .push _ :: _ => simp
  | .op b :: rest =>
    by_cases hb : b = Acc.opReturn
    · subst hb
      cases e <;> simp
    · simp [hb]

/-- `TxOut::pegout_data` returns `Some(d)` exactly on an explicit value and a script read without error as
    `OP_RETURN`, a 32-byte push, a non-empty push and then pushes only, and `d` is those components -/
theorem pegoutData_iff (o : TxOut) (d : PegoutData) :
    pegoutData o = .ok (some d) ↔
      o.value = .explicit d.value ∧ d.asset = o.asset ∧ d.genesisHash.length = 32 ∧ d.scriptPubkey ≠ [] ∧
      Acc.instructions false o.scriptPubkey =
        .ok (accPegoutInstrs d.genesisHash d.scriptPubkey d.extraData, none) := by
  constructor
  · intro h
    unfold pegoutData at h
    obtain ⟨b, hb⟩ := isNullData_total o.scriptPubkey
    rw [hb] at h
    cases b
    · cases h
    obtain ⟨rest, hins, -⟩ := (isNullData_true_iff _).mp hb
    rw [hins] at h
    simp only at h
    -- each `split` opens one `match` or `if` of `pegoutData`, outermost first; all arms but one return `none`
    split at h
    · rename_i v hv
      split at h
      · rename_i x g spk rest' heq
        obtain ⟨-, rfl⟩ := List.cons.inj heq
        split at h
        · cases h
        split at h
        · cases h
        rename_i hg hs
        split at h
        · rename_i ex hap _
          cases h
          refine ⟨hv, rfl, Decidable.of_not_not hg, fun hh => hs (List.isEmpty_iff.mpr hh), ?_⟩
          rw [hins, allPushes_some hap]
          rfl
        · cases h
      · cases h
    · cases h
  · rintro ⟨hv, ha, hg, hs, hins⟩
    unfold pegoutData isNullData
    rw [hins]
    simp [accPegoutInstrs, Acc.opReturn, nullDataTail, nullDataTail_pushes, hv, hg, List.isEmpty_eq_false_iff.mpr hs,
      allPushes_pushes, ← ha]

/-- guard of the template theorems: pushes below 4 GiB (`push_slice` panics beyond) -/
def PegoutArgsOk (g spk : Bytes) (extra : List Bytes) : Prop :=
  g.length < 2^32 ∧ spk.length < 2^32 ∧ ∀ e ∈ extra, e.length < 2^32

theorem pegoutBuilderCalls_ok (g spk : Bytes) (ex : List Bytes) (h : PegoutArgsOk g spk ex) :
    ∀ o ∈ pegoutBuilderCalls g spk ex, o.wf := by
  intro o ho
  simp only [pegoutBuilderCalls, List.mem_cons, List.mem_map] at ho
  rcases ho with rfl | rfl | rfl | ⟨e, he, rfl⟩
  · right
    show opPushdata4 < Gen.opReturn
    decide
  · exact h.1
  · exact h.2.1
  · exact h.2.2 e he

theorem expected_pegoutBuilderCalls (g spk : Bytes) (ex : List Bytes) :
    Script.expected (pegoutBuilderCalls g spk ex) = pegoutInstrs g spk ex := by
  have hnv : ∀ o ∈ pegoutBuilderCalls g spk ex, o ≠ Script.BOp.verify := by
    intro o ho
    simp only [pegoutBuilderCalls, List.mem_cons, List.mem_map] at ho
    rcases ho with rfl | rfl | rfl | ⟨e, he, rfl⟩ <;> nofun
  unfold Script.expected
  rw [EV.Proofs.ScriptBuilder.run_no_verify _ _ hnv]
  have h0 : Script.instrOfOpcode Gen.opReturn = .op Gen.opReturn := by decide
  simp [pegoutBuilderCalls, pegoutInstrs, Script.instrOf, h0]

theorem instructions_pegoutScript (g spk : Bytes) (ex : List Bytes) (h : PegoutArgsOk g spk ex) :
    Acc.instructions false (pegoutScript g spk ex) = .ok (accPegoutInstrs g spk ex, none) := by
  have := (EV.Proofs.ScriptBuilder.build_collect false _ (pegoutBuilderCalls_ok g spk ex h) nofun).2
  rw [expected_pegoutBuilderCalls] at this
  rw [instructions_eq, pegoutScript, this, pairOfScript, map_pegoutInstrs]
  rfl

theorem isNullData_true_head {s : Bytes} (h : Acc.isNullData s = .ok true) : ∃ rest, s = Acc.opReturn :: rest := by
  obtain ⟨is, hins, -⟩ := (isNullData_true_iff s).mp h
  rw [instructions_eq] at hins
  match s, hins with
  | [], hins => cases hins
  | b :: tl, hins =>
    rw [List.length_cons, Script.collect] at hins
    cases hn : Script.next false (b :: tl) with
    | done =>
      rw [hn] at hins
      cases hins
    | fail e =>
      rw [hn] at hins
      cases hins
    | item i r =>
      rw [hn] at hins
      cases i with
      | push d => cases hins
      | op c =>
        have hc : Acc.Instr.op c = .op Acc.opReturn := Option.some.inj (congrArg (·.1.head?) (Res.ok.inj hins))
        exact ⟨r, Acc.Instr.op.inj hc ▸ EV.Proofs.ScriptIter.next_op_shape hn⟩

/-- the records `to_pegin_witness` can write back -/
def PeginDataOk (H : Bytes → Bytes) (d : PeginData) : Prop :=
  d.value < 2^64 ∧ d.asset.length = 32 ∧ d.genesisHash.length = 32 ∧
  txaccPeginHeaderLen ≤ d.merkleProof.length ∧ d.referencedBlock = H (d.merkleProof.take txaccPeginHeaderLen)

theorem outpointFlag_eq (i : TxIn) :
    outpointFlag i = (if i.isPegin then 64 else 0) + (if i.hasIssuance then 128 else 0) := by
  unfold outpointFlag
  generalize i.isPegin = p
  generalize i.hasIssuance = q
  cases p <;> cases q <;> decide

theorem txIsCoinbase_eq (t : Tx) :
    txIsCoinbase t = .ok (match t.input with | [i] => inIsCoinbase i | _ => false) := by
  unfold txIsCoinbase
  match t.input with
  | [] => simp
  | [i] => simp [idx]
  | _ :: _ :: _ => simp

theorem newFee_isFee (v : Nat) (a : Bytes) : isFee (newFee v a) = true := rfl

theorem newFee_outputScaled (scale : Nat) (wit : Bool) (v : Nat) (a : Bytes) :
    Tx.outputScaled scale wit (newFee v a) = scale * 44 + (if wit then 2 else 0) := by
  cases wit <;> simp [Tx.outputScaled, newFee, Asset.encodedLength, Value.encodedLength, Nonce.encodedLength,
    varintSize, TxOutWitness.empty, TxOutWitness.surjectionproofLen, TxOutWitness.rangeproofLen]

theorem newFee_enc_length (v : Nat) (a : Bytes) (ha : a.length = 32) : (newFee v a).enc.length = 44 := by
  simp [TxOut.enc, newFee, Asset.enc, Value.enc, Nonce.enc, encBytesVec, encVarint,
    EV.Proofs.CodecPrim.beBytes_length, ha]

theorem newFee_wf (P : Prims) (v : Nat) (a : Bytes) (hv : v < 2^64) (ha : a.length = 32) : (newFee v a).wf P := by
  refine ⟨⟨ha, hv, trivial, ?_⟩, trivial, trivial⟩
  simp [newFee, maxVecSize]

/-- `t` with a `new_fee` output appended -/
def withFee (t : Tx) (v : Nat) (a : Bytes) : Tx := { t with output := t.output ++ [newFee v a] }

theorem withFee_hasWitness (t : Tx) (v : Nat) (a : Bytes) : (withFee t v a).hasWitness = t.hasWitness := by
  simp [withFee, Tx.hasWitness, List.any_append, newFee, TxOutWitness.empty, TxOutWitness.isEmpty]

theorem withFee_scaledSize (t : Tx) (v : Nat) (a : Bytes) (scale : Nat) :
    (withFee t v a).scaledSize scale + scale * varintSize t.output.length =
      t.scaledSize scale + scale * varintSize (t.output.length + 1) + scale * 44 +
        (if t.hasWitness then 2 else 0) := by
  unfold Tx.scaledSize
  rw [withFee_hasWitness]
  simp only [withFee, List.map_append, List.sum_append, List.map_cons, List.map_nil, List.sum_cons, List.sum_nil,
    newFee_outputScaled, List.length_append, List.length_cons, List.length_nil, Nat.zero_add, Nat.mul_add]
  omega

end EV.Proofs.TxAccessors
