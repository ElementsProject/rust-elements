/-
  Injectivity of the legacy and segwit-v0 signing serialisations on canonical committed-field records (modulo
  collisions of the hash parameters), and canonicity of the records built from canonical transactions.
-/
import EV.Proofs.SighashBasics
namespace EV.Sighash
open EV EV.Codec EV.Proofs.CodecPrim EV.Proofs.CodecTx

variable (P : Prims)

theorem default_txIn_wfBody : (default : TxIn).wfBody P :=
  ⟨by decide, Or.inr ⟨rfl, rfl, rfl⟩, by decide, by decide, rfl⟩

theorem txOutDefault_wfBody : txOutDefault.wfBody P :=
  ⟨trivial, trivial, trivial, by decide⟩

theorem normIn_wf (i : TxIn) (hi : i.wfBody P) (s : Bytes) (hs : s.length ≤ maxVecSize) (q : Nat) (hq : q < 2^32) :
    (normIn i s q).wfBody P := by
  obtain ⟨h1, h2, _, _, h5⟩ := hi
  -- a canonical input without issuance carries the null issuance, so `normIn` leaves the issuance field as it is
  have e : (issuanceOf i).getD AssetIssuance.null = i.assetIssuance := by
    rw [issuanceOf_eq]
    cases hn : i.hasIssuance with
    | false =>
      rw [hn] at h5
      exact h5.symm
    | true => rfl
  unfold normIn
  rw [e]
  exact ⟨h1, h2, hs, hq, h5⟩

theorem legacyView_length_le (tx : Tx) (idx : Nat) (script : Bytes) (ty : EcdsaTy) (hr : InRange ty idx tx) :
    (specLegacyView tx idx script ty.asU32).inputs.length ≤ tx.input.length ∧
    (specLegacyView tx idx script ty.asU32).outputs.length ≤ tx.output.length := by
  simp only [specLegacyView, List.length_map, List.length_range, ecdsa_single_iff]
  constructor
  · split
    · exact Nat.lt_of_le_of_lt (Nat.zero_le _) hr.1
    · exact Nat.le_refl _
  · split
    · exact Nat.zero_le _
    · split
      · exact hr.2 ‹_›
      · exact Nat.le_refl _

theorem specLegacyView_wf (hs : SizesPos P) (tx : Tx) (htx : tx.wf P) (idx : Nat) (script : Bytes) (ty : EcdsaTy)
    (hsc : script.length ≤ maxVecSize) (hr : InRange ty idx tx) :
    (specLegacyView tx idx script ty.asU32).wf P := by
  obtain ⟨t1, t2, t3, t4, t5, t6⟩ := htx
  obtain ⟨hlen_i, hlen_o⟩ := legacyView_length_le tx idx script ty hr
  refine ⟨t1, t2, asU32_lt ty, Nat.le_trans hlen_i (Nat.le_trans (Nat.le_mul_of_pos_right _ hs.txIn) t3),
    Nat.le_trans hlen_o (Nat.le_trans (Nat.le_mul_of_pos_right _ hs.txOut) t4), fun i hi => ?_, fun o ho => ?_⟩
  · obtain ⟨k, -, rfl⟩ := List.mem_map.mp hi
    refine ⟨?_, rfl⟩
    simp only [specLegacyInput]
    generalize (if ty.asU32 &&& SIGHASH_ANYONECANPAY ≠ 0 then idx else k) = k'
    have hw := getD_of_forall (fun x hx => (t5 x hx).1) (default_txIn_wfBody P) k'
    refine normIn_wf P _ hw _ ?_ _ ?_
    · split
      · exact Nat.zero_le _
      · exact hsc
    · split
      · decide
      · exact wfBody_sequence P hw
  · obtain ⟨k, -, rfl⟩ := List.mem_map.mp ho
    unfold specLegacyOutput
    split
    · exact ⟨txOutDefault_wfBody P, rfl⟩
    · exact ⟨getD_of_forall (fun o ho => (t6 o ho).1) (txOutDefault_wfBody P) k, rfl⟩

theorem serLegacy_injective (a b : LegacyView) (ha : a.wf P) (hb : b.wf P) (h : serLegacy a = serLegacy b) : a = b := by
  obtain ⟨a1, a2, a3, a4, a5, a6, a7⟩ := ha
  obtain ⟨b1, b2, b3, b4, b5, b6, b7⟩ := hb
  simp only [serLegacy, List.append_assoc] at h
  have hin := enc_prefix_free (vecOf_lawful 1 (by decide) _ _ _ (txIn_lawful P))
  have hout := enc_prefix_free (vecOf_lawful 1 (by decide) _ _ _ (txOut_lawful P))
  have one : ∀ {n : Nat}, n ≤ maxVecSize → n * 1 ≤ maxVecSize := fun h => (Nat.mul_one _).symm ▸ h
  obtain ⟨e1, h⟩ := pf_le4 _ _ _ _ a1 b1 h
  obtain ⟨e2, h⟩ := hin _ _ _ _ ⟨one a4, a6⟩ ⟨one b4, b6⟩ h
  obtain ⟨e3, h⟩ := hout _ _ _ _ ⟨one a5, a7⟩ ⟨one b5, b7⟩ h
  obtain ⟨e4, h⟩ := pf_le4 _ _ _ _ a2 b2 h
  have e5 := pf_le4.injective _ _ a3 b3 h
  show LegacyView.mk a.version a.inputs a.outputs a.lockTime a.hashType =
    LegacyView.mk b.version b.inputs b.outputs b.lockTime b.hashType
  rw [e1, e2, e3, e4, e5]

theorem isSome_ite_some {α} (c : Prop) [Decidable c] (x : α) : (if c then some x else none).isSome = decide c := by
  split <;> simp [*]

theorem isSome_ite_none {α} (c : Prop) [Decidable c] (x : α) : (if ¬ c then none else some x).isSome = decide c := by
  by_cases h : c <;> simp [h]

/-- for every 32-bit hash type, not only the six standard ones -/
theorem specSegwitView_wf (tx : Tx) (htx : tx.wf P) (idx : Nat) (sc : Bytes) (v : Value) (ht : Nat) (hht : ht < 2^32)
    (hsc : sc.length ≤ maxVecSize) (hv : v.wf P) (vw : SegwitView)
    (h : specSegwitView tx idx sc v ht = some vw) : vw.wf P := by
  obtain ⟨t1, t2, t3, t4, t5, t6⟩ := htx
  have hinB : ∀ i ∈ tx.input, i.wfBody P := fun i hi => (t5 i hi).1
  unfold specSegwitView at h
  cases hi : tx.input[idx]? with
  | none => rw [hi] at h; cases h
  | some txin =>
    rw [hi] at h
    simp only [Option.some.injEq] at h
    subst h
    have hw := hinB txin (List.mem_of_getElem? hi)
    refine ⟨t1, t2, hht, outpoint_wf_of_wfBody P _ hw, hsc, hv, wfBody_sequence P hw,
      fun x hx => issuanceOf_wf P txin hw x hx, ?_, ?_, ?_, ?_, ?_, ?_, ?_⟩
    · intro l hl o ho
      dsimp only at hl
      split at hl
      · cases hl
      · cases hl
        obtain ⟨i, hi, rfl⟩ := List.mem_map.mp ho
        exact outpoint_wf_of_wfBody P _ (hinB i hi)
    · intro l hl o ho
      dsimp only at hl
      split at hl
      · cases hl
        obtain ⟨i, hi, rfl⟩ := List.mem_map.mp ho
        exact wfBody_sequence P (hinB i hi)
      · cases hl
    · dsimp only
      split
      · intro o ho
        obtain ⟨i, hi, rfl⟩ := List.mem_map.mp ho
        exact ⟨(t6 i hi).1, rfl⟩
      · split
        · exact ⟨getD_of_forall (fun o ho => (t6 o ho).1) (txOutDefault_wfBody P) _, rfl⟩
        · trivial
    · exact isSome_ite_none _ _
    · exact isSome_ite_none _ _
    · exact (isSome_ite_some _ _).trans (decide_eq_decide.mpr (and_congr_left' Decidable.not_not))
    · dsimp only
      by_cases h1 : ¬ ht &&& 0x1f = SIGHASH_SINGLE ∧ ¬ ht &&& 0x1f = SIGHASH_NONE
      · rw [if_pos h1]; exact h1
      · rw [if_neg h1]
        by_cases h2 : ht &&& 0x1f = SIGHASH_SINGLE ∧ idx < tx.output.length
        · rw [if_pos h2]; exact h2.1
        · rw [if_neg h2]
          rcases Decidable.not_and_iff_not_or_not.mp h1 with h | h
          · exact Or.inl (Decidable.not_not.mp h)
          · exact Or.inr (Decidable.not_not.mp h)

/-- equality of everything BIP143 commits to: of the per-input issuances only the concatenation, see
    `serSegwit_injective` -/
def SegwitView.sameCommitted (a b : SegwitView) : Prop :=
  { a with issuances := none } = { b with issuances := none } ∧
  a.issuances.map (fun l => l.flatMap encIssuanceOpt) = b.issuances.map (fun l => l.flatMap encIssuanceOpt)

theorem optHash_length {H : SigHashes} (hl : HashLen H) {α : Type} (f : α → Bytes) (o : Option (List α)) :
    (optHash H f o).length = 32 := by
  cases o with
  | none => exact zero32_length
  | some l => exact hl.sha256d _

theorem outHash_length {H : SigHashes} (hl : HashLen H) (o : OutSel) : (outHash H o).length = 32 := by
  cases o with
  | all l => exact hl.sha256d _
  | single o => exact hl.sha256d _
  | none => exact zero32_length

theorem optHash_inj {H : SigHashes} (hinj : ∀ x y, H.sha256d x = H.sha256d y → x = y) {α : Type} (f : α → Bytes)
    (a b : Option (List α)) (hs : a.isSome = b.isSome) (h : optHash H f a = optHash H f b) :
    a.map (fun l => l.flatMap f) = b.map (fun l => l.flatMap f) := by
  rcases option_isSome_eq_cases hs with ⟨rfl, rfl⟩ | ⟨x, y, rfl, rfl⟩
  · rfl
  · exact congrArg some (hinj _ _ h)

theorem opt_flatMap_inj {α : Type} {d : Dec α} {e : α → Bytes} {wf : α → Prop} (hc : Lawful d e wf) {s : String}
    (hd : d [] = .err s) (a b : Option (List α))
    (ha : ∀ l, a = some l → ∀ x ∈ l, wf x) (hb : ∀ l, b = some l → ∀ x ∈ l, wf x)
    (h : a.map (fun l => l.flatMap e) = b.map (fun l => l.flatMap e)) : a = b := by
  rcases option_map_eq_cases h with ⟨rfl, rfl⟩ | ⟨x, y, rfl, rfl, hxy⟩
  · rfl
  · rw [flatMap_injective hc hd x y (ha x rfl) (hb y rfl) hxy]

theorem issPart_inj (a b : Option AssetIssuance) (ha : ∀ i, a = some i → i.wf P) (hb : ∀ i, b = some i → i.wf P)
    (h : issPart a = issPart b) : a = b := by
  cases a with
  | none =>
    cases b with
    | none => rfl
    | some y => exact absurd h.symm ((issuance_lawful P).enc_ne_nil rfl y (hb y rfl))
  | some x =>
    cases b with
    | none => exact absurd h ((issuance_lawful P).enc_ne_nil rfl x (ha x rfl))
    | some y => rw [(pf_issuance P).injective x y (ha x rfl) (hb y rfl) h]

/-- `s`, `n`: the output bits of the hash type say SINGLE, NONE, as in `SegwitView.wf`.  The hash type separates "all"
    from the other two; the zero hash separates "single" from "none". -/
theorem outputs_eq_of_outHash_eq (H : SigHashes) (hinj : ∀ x y, H.sha256d x = H.sha256d y → x = y)
    (hnz : ∀ x, H.sha256d x ≠ zero32) {s n : Prop} (x y : OutSel)
    (kx : match x with
      | .all _ => ¬ s ∧ ¬ n
      | .single _ => s
      | .none => s ∨ n)
    (ky : match y with
      | .all _ => ¬ s ∧ ¬ n
      | .single _ => s
      | .none => s ∨ n)
    (hx : x.wfBodies P) (hy : y.wfBodies P) (h : outHash H x = outHash H y) : x = y := by
  cases x with
  | all la =>
    cases y with
    | all lb => rw [flatMap_injective (txOut_lawful P) rfl la lb hx hy (hinj _ _ h)]
    | single ob => exact absurd ky kx.1
    | none => exact absurd ky (not_or_intro kx.1 kx.2)
  | single oa =>
    cases y with
    | all lb => exact absurd kx ky.1
    | single ob => rw [(pf_txOutBody P).injective oa ob hx hy (hinj _ _ h)]
    | none => exact absurd h (hnz _)
  | none =>
    cases y with
    | all lb => exact absurd kx (not_or_intro ky.1 ky.2)
    | single ob => exact absurd h.symm (hnz _)
    | none => rfl

/-- The zero hash stands for "SIGHASH_SINGLE without output", hence `ZeroPreimage`.  `hashIssuance` hashes `00` for an input without issuance and the raw issuance otherwise, and
    segwit v0 commits to no per-input issuance flag; that concatenation is not uniquely decodable
    (e.g. `[I, none×8]` and `[none×8, I']` can serialize identically), hence only the concatenation
    is claimed. -/
theorem serSegwit_injective (H : SigHashes) (hl : HashLen H) (a b : SegwitView) (ha : a.wf P) (hb : b.wf P)
    (h : serSegwit H a = serSegwit H b) :
    a.sameCommitted b ∨ Collision H.sha256d ∨ ZeroPreimage H.sha256d := by
  by_cases hc : Collision H.sha256d
  · exact Or.inr (Or.inl hc)
  by_cases hz : ZeroPreimage H.sha256d
  · exact Or.inr (Or.inr hz)
  left
  have hinj : ∀ x y, H.sha256d x = H.sha256d y → x = y := fun x y hxy => (eq_or_collision hxy).resolve_right hc
  have hnz : ∀ x, H.sha256d x ≠ zero32 := fun x hx => hz ⟨x, hx⟩
  obtain ⟨a1, a2, a3, a4, a5, a6, a7, a8, a9, a10, a11, a12, a13, a14, a15⟩ := ha
  obtain ⟨b1, b2, b3, b4, b5, b6, b7, b8, b9, b10, b11, b12, b13, b14, b15⟩ := hb
  rw [serSegwit_eq, serSegwit_eq] at h
  simp only [List.append_assoc] at h
  obtain ⟨e1, h⟩ := pf_le4 _ _ _ _ a1 b1 h
  obtain ⟨e2, h⟩ := List.append_inj h (by rw [optHash_length hl, optHash_length hl])
  obtain ⟨e3, h⟩ := List.append_inj h (by rw [optHash_length hl, optHash_length hl])
  obtain ⟨e4, h⟩ := List.append_inj h (by rw [optHash_length hl, optHash_length hl])
  obtain ⟨e5, h⟩ := pf_outpoint _ _ _ _ a4 b4 h
  obtain ⟨e6, h⟩ := pf_bytesVec _ _ _ _ a5 b5 h
  obtain ⟨e7, h⟩ := enc_prefix_free (value_lawful P) _ _ _ _ a6 b6 h
  obtain ⟨e8, h⟩ := pf_le4 _ _ _ _ a7 b7 h
  -- the optional issuance has no length of its own: peel the fixed-length tail instead
  obtain ⟨e9, h⟩ := List.append_inj' h (by simp only [List.length_append, outHash_length hl, encLe_length])
  obtain ⟨e10, h⟩ := List.append_inj h (by rw [outHash_length hl, outHash_length hl])
  obtain ⟨e11, h⟩ := pf_le4 _ _ _ _ a2 b2 h
  have e12 := pf_le4.injective _ _ a3 b3 h
  have s1 : a.prevouts.isSome = b.prevouts.isSome := by rw [a12, b12, e12]
  have s2 : a.issuances.isSome = b.issuances.isSome := by rw [a13, b13, e12]
  have s3 : a.sequences.isSome = b.sequences.isSome := by rw [a14, b14, e12]
  have p2 := opt_flatMap_inj outpoint_lawful rfl _ _ a9 b9 (optHash_inj hinj _ _ _ s1 e2)
  have p3 := opt_flatMap_inj (le_lawful 4) rfl _ _ a10 b10 (optHash_inj hinj _ _ _ s3 e3)
  have p9 := issPart_inj P _ _ a8 b8 e9
  have p10 := outputs_eq_of_outHash_eq P H hinj hnz _ _ (e12 ▸ a15) b15 a11 b11 e10
  refine ⟨?_, optHash_inj hinj _ _ _ s2 e4⟩
  show SegwitView.mk a.version a.prevouts a.sequences none a.outpoint a.scriptCode a.value a.sequence a.issuance
    a.outputs a.lockTime a.hashType = SegwitView.mk b.version b.prevouts b.sequences none b.outpoint b.scriptCode
    b.value b.sequence b.issuance b.outputs b.lockTime b.hashType
  rw [e1, p2, p3, e5, e6, e7, e8, p9, p10, e11, e12]

end EV.Sighash
