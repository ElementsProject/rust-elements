/- For C12: `Tx.discountWeight` is the weight less the per-output `discount`. -/
import EV.Proofs.CodecTx
namespace EV.Proofs.Sizes
open EV EV.Codec EV.Proofs.CodecTx

/-- what one output takes off the weight; `EV.Props.C12.discount` is this -/
def discount (o : TxOut) : Nat :=
  (o.witness.enc.length - 2) + (if o.value.isConf then 4 * 24 else 0) + (if o.nonce.isConf then 4 * 32 else 0)

theorem discountStep_some (w : Nat) (o : TxOut) (h : discount o ≤ w) :
    Tx.discountStep (some w) o = some (w - discount o) := by
  have e2 : (if o.value.isConf then (33 - 9) * 4 else 0) = (if o.value.isConf then 4 * 24 else 0) := rfl
  have e3 : (if o.nonce.isConf then (33 - 1) * 4 else 0) = (if o.nonce.isConf then 4 * 32 else 0) := rfl
  simp only [discount, txOutWitness_enc_length] at h
  simp only [Tx.discountStep, discount, txOutWitness_enc_length, e2, e3]
  -- `omega` takes the conditional summands as atoms
  rw [if_neg (by omega), if_neg (by omega), if_neg (by omega)]
  congr 1
  omega

theorem fold_discount (outs : List TxOut) (w : Nat) (h : (outs.map discount).sum ≤ w) :
    outs.foldl Tx.discountStep (some w) = some (w - (outs.map discount).sum) := by
  induction outs generalizing w with
  | nil => simp
  | cons o os ih =>
    simp only [List.map_cons, List.sum_cons] at h ⊢
    rw [List.foldl_cons, discountStep_some w o (by omega), ih _ (by omega)]
    congr 1
    omega

theorem sum_map_le {α} (l : List α) (f g : α → Nat) (h : ∀ x ∈ l, f x ≤ g x) :
    (l.map f).sum ≤ (l.map g).sum := by
  induction l with
  | nil => simp
  | cons a as ih =>
    simp only [List.map_cons, List.sum_cons]
    obtain ⟨h1, hr⟩ := List.forall_mem_cons.mp h
    have h2 := ih hr
    omega

theorem discount_le_outputScaled (t : Tx) (o : TxOut) (ho : o ∈ t.output) :
    discount o ≤ Tx.outputScaled 4 t.hasWitness o := by
  have hv : (if o.value.isConf then 4 * 24 else 0) ≤ 4 * o.value.encodedLength := by
    cases o.value <;> simp [Value.isConf, Value.encodedLength]
  have hn : (if o.nonce.isConf then 4 * 32 else 0) ≤ 4 * o.nonce.encodedLength := by
    cases o.nonce <;> simp [Nonce.isConf, Nonce.encodedLength]
  -- without a witness flag the witness part is the two zero bytes that `discount` leaves out
  have hw : o.witness.enc.length - 2 ≤ if t.hasWitness then o.witness.enc.length else 0 := by
    cases hw : t.hasWitness
    · rw [((hasWitness_false_iff t).mp hw).2 o ho]
      decide
    · exact Nat.sub_le _ _
  rw [txOutWitness_enc_length] at hw
  simp only [discount, Tx.outputScaled, txOutWitness_enc_length]
  omega

/-- the `usize` subtraction of `discount_weight` never underflows; `h` plays no part -/
theorem discount_weight_eq (P : Prims) (t : Tx) (h : t.wf P) :
    (t.output.map discount).sum ≤ t.weight ∧
    t.discountWeight = some (t.weight - (t.output.map discount).sum) := by
  have _ := h
  have hle : (t.output.map discount).sum ≤ t.weight := by
    have h1 := sum_map_le t.output discount (Tx.outputScaled 4 t.hasWitness)
      (fun o ho => discount_le_outputScaled t o ho)
    unfold Tx.weight Tx.scaledSize
    omega
  exact ⟨hle, fold_discount t.output t.weight hle⟩

end EV.Proofs.Sizes
