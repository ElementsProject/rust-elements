/-
  What the balance equation of `verify_tx_amt_proofs` alone rejects.  The hypotheses about the `R`-module
  `M` of points:
    `NoTorsion R g B` no natural 0 < k < B annihilates the point g
    `Indep cv`        the asset tags are linearly independent of each other and of G
    `CastInj R B`     naturals below B are distinct in R
  They hold in the idealised (generic-group) reading of the curve — `EV.Proofs.BlindInstance` is an
  instance — and are NOT theorems about secp256k1 itself, where independence of the tags is the
  discrete-logarithm assumption.  On a transaction whose amounts are all explicit (`ExplicitTx`) both
  sides of the tally are sums of tag parts (`_explicit`).
-/
import EV.Proofs.BlindC04

namespace EV.Blind
open EV

variable {A R M RP SP : Type} [CommRing R] [AddCommGroup M] [Module R M]

def NoTorsion (R : Type) {M : Type} [CommRing R] [AddCommGroup M] [Module R M] (g : M) (B : Nat) : Prop :=
  ∀ k : Nat, 0 < k → k < B → ((k : Nat) : R) • g ≠ 0

def CastInj (R : Type) [CommRing R] (B : Nat) : Prop :=
  ∀ x y : Nat, x < B → y < B → ((x : Nat) : R) = ((y : Nat) : R) → x = y

def Indep (cv : Curve R M A) : Prop :=
  ∀ (S : Finset A) (c : A → R) (r : R), ∑ a ∈ S, c a • cv.tag a + r • cv.G = 0 →
    (∀ a ∈ S, c a = 0) ∧ r = 0

theorem NoTorsion.smul_ne {g : M} {B : Nat} (h : NoTorsion R g B) {v v' : Nat} (hv : v < B) (hv' : v' < B)
    (hne : v ≠ v') : ((v : Nat) : R) • g ≠ ((v' : Nat) : R) • g := by
  -- the difference of the two amounts would annihilate `g`
  have key : ∀ {x y : Nat}, x < y → y < B → ((x : Nat) : R) • g ≠ ((y : Nat) : R) • g := fun hlt hy heq =>
    h _ (Nat.sub_pos_of_lt hlt) (by omega) (by rw [Nat.cast_sub (le_of_lt hlt), sub_smul, heq, sub_self])
  rcases Nat.lt_or_gt_of_ne hne with hlt | hlt
  · exact key hlt hv'
  · exact fun heq => key hlt hv heq.symm

theorem CastInj.eq_zero {B k : Nat} (hC : CastInj R B) (hk : k < B) (h : ((k : Nat) : R) = 0) : k = 0 :=
  hC k 0 hk (by omega) (by rw [h, Nat.cast_zero])

theorem Indep.noTorsion_tag {cv : Curve R M A} (hI : Indep cv) {B : Nat} (hC : CastInj R B)
    (a : A) : NoTorsion R (cv.tag a) B := by
  intro k hk hkB h0
  have := (hI {a} (fun _ => ((k : Nat) : R)) 0 (by rw [Finset.sum_singleton, h0, zero_smul, add_zero])).1 a
    (Finset.mem_singleton_self a)
  exact hk.ne' (hC.eq_zero hkB this)

theorem Indep.tag_smul_ne [DecidableEq A] {cv : Curve R M A} (hI : Indep cv) {B : Nat} (hC : CastInj R B)
    {a a' : A} (hne : a ≠ a') {v : Nat} (hv0 : 0 < v) (hv : v < B) :
    ((v : Nat) : R) • cv.tag a ≠ ((v : Nat) : R) • cv.tag a' := by
  intro heq
  have hsum : ∑ x ∈ ({a, a'} : Finset A), (if x = a then ((v : Nat) : R) else -((v : Nat) : R)) • cv.tag x
      + (0 : R) • cv.G = 0 := by
    rw [Finset.sum_pair hne, if_pos rfl, if_neg hne.symm, neg_smul, heq, add_neg_cancel, zero_smul, add_zero]
  have := (hI {a, a'} _ 0 hsum).1 a (Finset.mem_insert_self a _)
  rw [if_pos rfl] at this
  exact hv0.ne' (hC.eq_zero hv this)

omit [CommRing R] [Module R M] in
theorem sum_replace_cancel (l₁ l₂ : List M) (x y : M)
    (h : (l₁ ++ x :: l₂).sum = (l₁ ++ y :: l₂).sum) : x = y := by
  have := sum_splice_cancel l₁ l₂ [x] [y] (by simpa only [List.append_assoc, List.singleton_append] using h)
  simpa only [List.sum_singleton] using this

theorem balanced_of_sum_tagPart [DecidableEq A] (cv : Curve R M A) (hI : Indep cv) (B : Nat)
    (hC : CastInj R B) (ins outs : List (Secrets A R))
    (hB : ∀ a, amt a ins < B ∧ amt a outs < B)
    (h : (ins.map cv.tagPart).sum = (outs.map cv.tagPart).sum) :
    ∀ a, amt a ins = amt a outs := by
  intro a
  let S := insert a (assetsOf ins outs)
  rw [cv.sum_tagPart_eq_finset S ins fun _ hs => Finset.mem_insert_of_mem (mem_assetsOf_left hs),
    cv.sum_tagPart_eq_finset S outs fun _ hs => Finset.mem_insert_of_mem (mem_assetsOf_right hs)] at h
  have hz : ∑ x ∈ S, (((amt x ins : Nat) : R) - ((amt x outs : Nat) : R)) • cv.tag x + (0 : R) • cv.G = 0 := by
    simp only [sub_smul, Finset.sum_sub_distrib, h, sub_self, zero_smul, add_zero]
  exact hC _ _ (hB a).1 (hB a).2 (sub_eq_zero.1 ((hI S _ 0 hz).1 a (Finset.mem_insert_self a _)))

/-- the openings of the explicit issuance amounts of an input -/
def issuanceOpenings (inp : TxIn A M) : List (Secrets A R) :=
  (match inp.amount with | .explicit v => [⟨inp.assetId, v, 0, 0⟩] | _ => []) ++
  (match inp.keys with | .explicit v => [⟨inp.tokenId, v, 0, 0⟩] | _ => [])

/-- the openings of everything explicit on the input side, in the order of `pairsOf` -/
def inputOpenings : List (TxIn A M) → List (TxOut A M RP SP) → List (Secrets A R)
  | inp :: is, u :: us => explicitOpenings [u] ++ issuanceOpenings inp ++ inputOpenings is us
  | _, _ => []

/-- no confidential asset or amount anywhere -/
def ExplicitTx (ins : List (TxIn A M)) (outs utxos : List (TxOut A M RP SP)) : Prop :=
  (∀ u ∈ utxos, (∃ a, u.asset = .explicit a) ∧ ∃ v, u.value = .explicit v) ∧
  (∀ inp ∈ ins, (∀ c, inp.amount ≠ .conf c) ∧ ∀ c, inp.keys ≠ .conf c) ∧
  (∀ o ∈ outs, (∃ a, o.asset = .explicit a) ∧ ∃ v, o.value = .explicit v)

section alg
variable {cv : Curve R M A} {V : VPrims A M RP SP} (hV : AlgV cv V)
include hV

theorem verify_ok_sum (ins : List (TxIn A M)) (outs utxos : List (TxOut A M RP SP))
    (h : verify V ins outs utxos = .ok) :
    (inCommitsOf V ins utxos).sum = (outCommitsOf V outs).sum := by
  obtain ⟨_, _, _, hsum⟩ := (verify_ok_iff' V ins outs utxos).1 h
  exact (hV.sum _ _).1 hsum

/-- an explicit zero is refused, and both sides are zero -/
theorem issuancePair_eq_smul (v : Nat) (id : A) :
    (((issuancePair V (.explicit v) id).getD []).map Prod.snd).sum = ((v : Nat) : R) • cv.tag id := by
  by_cases h0 : v = 0
  · simp [issuancePair, h0]
  · simp [issuancePair, h0, hV.gen, hV.commit]

/-- one input position changed: its issuance or the spent output presented for it -/
theorem tamper_input (outs : List (TxOut A M RP SP)) (ipre ipost : List (TxIn A M)) (inp inp' : TxIn A M)
    (upre upost : List (TxOut A M RP SP)) (u u' : TxOut A M RP SP) (hl : upre.length = ipre.length)
    (hdiff : (inCommitsOf V [inp] [u]).sum ≠ (inCommitsOf V [inp'] [u']).sum) :
    ¬ (verify V (ipre ++ inp :: ipost) outs (upre ++ u :: upost) = .ok ∧
       verify V (ipre ++ inp' :: ipost) outs (upre ++ u' :: upost) = .ok) := by
  rintro ⟨h1, h2⟩
  have e := (verify_ok_sum hV _ _ _ h1).trans (verify_ok_sum hV _ _ _ h2).symm
  rw [inCommitsOf_splice V ipre ipost inp upre upost u hl,
    inCommitsOf_splice V ipre ipost inp' upre upost u' hl] at e
  exact hdiff (sum_splice_cancel _ _ _ _ e)

theorem tamper_issuance' (outs : List (TxOut A M RP SP)) (ipre ipost : List (TxIn A M)) (inp : TxIn A M)
    (upre upost : List (TxOut A M RP SP)) (u : TxOut A M RP SP) (hl : upre.length = ipre.length)
    (v v' : Nat) (B : Nat) (hamt : inp.amount = .explicit v) (hne : v ≠ v')
    (hvB : v < B) (hvB' : v' < B) (hT : NoTorsion R (cv.tag inp.assetId) B) :
    ¬ (verify V (ipre ++ inp :: ipost) outs (upre ++ u :: upost) = .ok ∧
       verify V (ipre ++ { inp with amount := .explicit v' } :: ipost) outs (upre ++ u :: upost) = .ok) := by
  rintro ⟨h1, h2⟩
  have hiss : ∀ {x : TxIn A M}, verify V (ipre ++ x :: ipost) outs (upre ++ u :: upost) = .ok → IssOk x := by
    intro x h
    obtain ⟨_, hin, _⟩ := (verify_ok_iff' V _ _ _).1 h
    refine (hin (x, u) ?_).2
    rw [List.zip_append hl.symm]
    exact List.mem_append_right _ List.mem_cons_self
  refine tamper_input hV outs ipre ipost inp _ upre upost u u hl ?_ ⟨h1, h2⟩
  -- the two positions differ in the `w • tag` their amounts contribute
  simp only [inCommitsOf, pairsOf, List.append_nil, issuancePairs_getD V _ (hiss h1), issuancePairs_getD V _ (hiss h2),
    hamt, List.map_append, List.sum_append, issuancePair_eq_smul hV]
  exact fun heq => hT.smul_ne hvB hvB' hne (add_right_cancel (add_left_cancel heq))

/-- The right side is, to the letter, one half of `issuanceOpenings`, so that `issuance_explicit` can rewrite
    with it once that definition is unfolded (`generalizing := false` keeps `hc` out of the `match`). -/
theorem issuancePair_explicit (amt : CValue M) (id : A) (hc : ∀ c, amt ≠ .conf c) :
    (((issuancePair V amt id).getD []).map Prod.snd).sum =
      ((match (generalizing := false) amt with
        | .explicit v => [⟨id, v, 0, 0⟩]
        | _ => [] : List (Secrets A R)).map cv.tagPart).sum := by
  cases amt with
  | null => rfl
  | conf c => exact absurd rfl (hc c)
  | explicit v =>
    rw [issuancePair_eq_smul hV]
    simp [Curve.tagPart]

theorem issuance_explicit (inp : TxIn A M)
    (hok : IssOk inp) (hamt : ∀ c, inp.amount ≠ .conf c) (hkeys : ∀ c, inp.keys ≠ .conf c) :
    (((issuancePairs V inp).getD []).map Prod.snd).sum =
      ((issuanceOpenings inp : List (Secrets A R)).map cv.tagPart).sum := by
  simp only [issuancePairs_getD V inp hok, issuanceOpenings, List.map_append, List.sum_append,
    issuancePair_explicit hV _ _ hamt, issuancePair_explicit hV _ _ hkeys]

theorem spent_explicit {u : TxOut A M RP SP}
    (hok : SpentOk u) {a : A} {v : Nat} (ha : u.asset = .explicit a) (hv : u.value = .explicit v) :
    ((spentPair? V u).toList.map Prod.snd).sum =
      ((explicitOpenings [u] : List (Secrets A R)).map cv.tagPart).sum := by
  have hg := hV.assetGen_explicit ha
  rw [spentPair?, hg, valueCommit_explicit V hv (fun h0 => hok.2.2 (h0 ▸ hv)) hg, hV.commit,
    explicitOpenings_cons ha hv]
  rfl

theorem inCommits_explicit (ins : List (TxIn A M)) (utxos : List (TxOut A M RP SP))
    (hok : ∀ p ∈ ins.zip utxos, SpentOk p.2 ∧ IssOk p.1)
    (hu : ∀ u ∈ utxos, (∃ a, u.asset = .explicit a) ∧ ∃ v, u.value = .explicit v)
    (hi : ∀ inp ∈ ins, (∀ c, inp.amount ≠ .conf c) ∧ ∀ c, inp.keys ≠ .conf c) :
    (inCommitsOf V ins utxos).sum =
      ((inputOpenings ins utxos : List (Secrets A R)).map cv.tagPart).sum := by
  induction ins generalizing utxos with
  | nil => rfl
  | cons inp is ih =>
    cases utxos with
    | nil => rfl
    | cons u us =>
      obtain ⟨⟨⟨a, ha⟩, v, hv⟩, hu⟩ := List.forall_mem_cons.1 hu
      obtain ⟨hk, hok⟩ := List.forall_mem_cons.1 hok
      obtain ⟨hc, hi⟩ := List.forall_mem_cons.1 hi
      have ih := ih us hok hu hi
      unfold inCommitsOf at ih ⊢
      simp only [pairsOf, inputOpenings, List.map_append, List.sum_append, ih,
        spent_explicit hV hk.1 ha hv, issuance_explicit hV inp hk.2 hc.1 hc.2]

theorem outCommits_explicit (outs : List (TxOut A M RP SP))
    (h : ∀ o ∈ outs, (∃ a, o.asset = .explicit a) ∧ ∃ v, o.value = .explicit v) :
    (outCommitsOf V outs).sum = ((explicitOpenings outs : List (Secrets A R)).map cv.tagPart).sum := by
  induction outs with
  | nil => rfl
  | cons o os ih =>
    obtain ⟨⟨⟨a, ha⟩, v, hv⟩, h⟩ := List.forall_mem_cons.1 h
    rw [outCommitsOf_cons, List.sum_append, explicitOpenings_cons ha hv, List.map_cons, List.sum_cons, ih h,
      outCommit_eq_smul hV hv (hV.assetGen_explicit ha)]
    rfl

end alg

end EV.Blind
