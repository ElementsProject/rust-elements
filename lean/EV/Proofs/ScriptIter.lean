/-
  The instruction iterator against the canonical encoding (EV.Model.Script / ScriptSpec).  Forward: `next` on
  `encInstr i ++ rest` (`next_enc`), `collect` on `serialize is` (`collect_serialize_nil`).  Backward: what a yielded
  item says about the bytes (`next_sound`, `collect_min_sound`).  The three `OP_PUSHDATA` opcodes are one case
  throughout: `Pushdata` gives their parameters, `pushdataArm` is their arm of `next` in those parameters.
-/
import EV.Model.ScriptSpec
import EV.Proofs.CodecPrim
namespace EV.Proofs.ScriptIter
open EV EV.Script EV.Gen EV.Proofs.CodecPrim

theorem pushOp_toNat : opPushbytes75.toNat = 75 ∧ opPushdata1.toNat = 76 ∧ opPushdata2.toNat = 77 ∧
    opPushdata4.toNat = 78 := by decide

/-- The three `OP_PUSHDATA` opcodes: `k` length bytes; `bound` is the least number of data bytes for which
    `push_slice` chooses the opcode, and below which `instructions_minimal` refuses it. -/
inductive Pushdata : UInt8 → Nat → Nat → Prop
  | one : Pushdata opPushdata1 1 76
  | two : Pushdata opPushdata2 2 0x100
  | four : Pushdata opPushdata4 4 0x10000

theorem Pushdata.facts {op : UInt8} {k bound : Nat} (hp : Pushdata op k bound) :
    0 < k ∧ k ≤ 4 ∧ 76 ≤ bound ∧ ¬ op ≤ opPushbytes75 ∧ op ≤ opPushdata4 := by
  cases hp <;> decide

theorem ofNat_direct {n : Nat} (h : n < 76) : (UInt8.ofNat n).toNat = n ∧ UInt8.ofNat n ≤ opPushbytes75 := by
  have hb : (UInt8.ofNat n).toNat = n := UInt8.toNat_ofNat_of_lt' (show n < 256 by omega)
  refine ⟨hb, UInt8.le_iff_toNat_le.mpr ?_⟩
  rw [hb, pushOp_toNat.1]
  omega

theorem pushHeader_small {n : Nat} (h : n < 76) : pushHeader n = some [UInt8.ofNat n] := by
  rw [pushHeader, pushOp_toNat.2.1, if_pos h]

theorem pushHeader_none {n : Nat} (h : 2 ^ 32 ≤ n) : pushHeader n = none := by
  have : ¬ n < 76 ∧ ¬ n < 0x100 ∧ ¬ n < 0x10000 ∧ ¬ n < 0x100000000 := by omega
  simp only [pushHeader, pushOp_toNat.2.1, this, if_false]

theorem pushHeader_pushdata {op : UInt8} {k bound n : Nat} (hp : Pushdata op k bound) (h1 : bound ≤ n) (h2 : n < 256 ^ k) : pushHeader n = some (op :: leBytes k n) := by
  have e76 := pushOp_toNat.2.1
  cases hp
  · have r : ¬ n < 76 ∧ n < 0x100 := ⟨by omega, h2⟩
    simp [pushHeader, e76, r, leBytes, UInt8.ofNat_mod_size']
  · have r : ¬ n < 76 ∧ ¬ n < 0x100 ∧ n < 0x10000 := ⟨by omega, by omega, h2⟩
    simp [pushHeader, e76, r, leBytes, UInt8.ofNat_mod_size']
  · have r : ¬ n < 76 ∧ ¬ n < 0x100 ∧ ¬ n < 0x10000 ∧ n < 0x100000000 := ⟨by omega, by omega, by omega, h2⟩
    simp [pushHeader, e76, r, leBytes, UInt8.ofNat_mod_size', Nat.div_div_eq_div_mul]

theorem pushHeader_cases {n : Nat} (h : n < 2 ^ 32) :
    (n < 76 ∧ pushHeader n = some [UInt8.ofNat n]) ∨
    ∃ op k bound, Pushdata op k bound ∧ bound ≤ n ∧ n < 256 ^ k ∧ pushHeader n = some (op :: leBytes k n) := by
  by_cases h0 : n < 76
  · exact .inl ⟨h0, pushHeader_small h0⟩
  · refine .inr ?_
    by_cases h1 : n < 0x100
    · exact ⟨_, _, _, .one, by omega, h1, pushHeader_pushdata .one (by omega) h1⟩
    · by_cases h2 : n < 0x10000
      · exact ⟨_, _, _, .two, by omega, h2, pushHeader_pushdata .two (by omega) h2⟩
      · exact ⟨_, _, _, .four, by omega, h, pushHeader_pushdata .four (by omega) h⟩

theorem pushHeader_isSome {n : Nat} (h : n < 2 ^ 32) : ∃ hd, pushHeader n = some hd := by
  rcases pushHeader_cases h with ⟨_, e⟩ | ⟨_, _, _, _, _, _, e⟩
  · exact ⟨_, e⟩
  · exact ⟨_, e⟩

theorem pushHeader_some_lt {n : Nat} {hd : Bytes} (h : pushHeader n = some hd) : n < 2 ^ 32 :=
  Nat.lt_of_not_le fun c => by
    rw [pushHeader_none c] at h
    cases h

theorem pushHeader_length_le {op : UInt8} {k bound n : Nat} (hp : Pushdata op k bound) (h : n < 256 ^ k) : ∃ hd, pushHeader n = some hd ∧ hd.length ≤ k + 1 := by
  rcases pushHeader_cases (n := n) (by cases hp <;> omega) with ⟨_, e⟩ | ⟨_, k', _, hp', h1, _, e⟩
  · exact ⟨_, e, Nat.le_add_left 1 k⟩
  · refine ⟨_, e, ?_⟩
    rw [List.length_cons, leBytes_length]
    -- the opcode chosen for `n` has the least `bound` at most `n`, and `n` fits `k` bytes
    cases hp <;> cases hp' <;> omega

theorem encInstr_ne_nil (i : Instr) : encInstr i ≠ [] := by
  cases i with
  | op c => simp [encInstr]
  | push d =>
    cases d with
    | nil => decide
    | cons x d => simp [encInstr]

theorem byte_kind (b : UInt8) :
    b ≤ opPushbytes75 ∨ b = opPushdata1 ∨ b = opPushdata2 ∨ b = opPushdata4 ∨ opPushdata4 < b := by
  obtain ⟨e0, e1, e2, e4⟩ := pushOp_toNat
  simp only [UInt8.le_iff_toNat_le, UInt8.lt_iff_toNat_lt, ← UInt8.toNat_inj, e0, e1, e2, e4]
  omega

theorem readUint_eq (tl : Bytes) {k : Nat} (hk : k ≤ 8) :
    readUint tl k = if tl.length < k then .err "EarlyEndOfScript" else .ok (leNat (tl.take k)) := by
  have : ¬ k > 8 := by omega
  simp only [readUint, this, if_false]

theorem not_direct_of_op {b : UInt8} (h : opPushdata4 < b) : ¬ b ≤ opPushbytes75 := fun c =>
  UInt8.lt_asymm h (UInt8.lt_of_le_of_lt c (by decide))

theorem ne_pushdata {b : UInt8} (h : b ≤ opPushbytes75 ∨ opPushdata4 < b) :
    b ≠ opPushdata1 ∧ b ≠ opPushdata2 ∧ b ≠ opPushdata4 := by
  obtain ⟨e0, e1, e2, e4⟩ := pushOp_toNat
  simp only [UInt8.le_iff_toNat_le, UInt8.lt_iff_toNat_lt, e0, e4] at h
  simp only [ne_eq, ← UInt8.toNat_inj, e1, e2, e4]
  omega

theorem next_op {b : UInt8} (h : opPushdata4 < b) (min : Bool) (tl : Bytes) : next min (b :: tl) = .item (.op b) tl := by
  obtain ⟨n1, n2, n4⟩ := ne_pushdata (.inr h)
  simp only [next, not_direct_of_op h, beq_iff_eq, n1, n2, n4, if_false]

theorem next_direct {b : UInt8} (h : b ≤ opPushbytes75) (min : Bool) (tl : Bytes) :
    next min (b :: tl) =
      if tl.length < b.toNat then .fail .earlyEnd
      else if min && b.toNat == 1 && smallNumByte (tl.getD 0 0) then .fail .nonMinimal
      else .item (.push (tl.take b.toNat)) (tl.drop b.toNat) := by
  simp only [next, h, if_true, List.length_cons, Nat.add_lt_add_iff_right]

/-- The three `OP_PUSHDATA` arms as one, in the parameters of `Pushdata`.  `lenFirst` decides the error when the
    length test on the data and the minimality test both fail: the arm of `OP_PUSHDATA1` in `Instructions::next`
    tests the length first, the other two minimality. -/
def pushdataArm (min : Bool) (k bound : Nat) (lenFirst : Bool) (tl : Bytes) : Step :=
  if tl.length < k then .fail .earlyEnd
  else
    let n := leNat (tl.take k)
    if min ∧ n < bound then .fail (if lenFirst ∧ tl.length < n + k then .earlyEnd else .nonMinimal)
    else if tl.length < n + k then .fail .earlyEnd
    else .item (.push ((tl.drop k).take n)) (tl.drop (n + k))

/-- `k == 1` singles out `OP_PUSHDATA1`.  The proof splits on the length field being cut off and then on the
    minimality test; the remaining test on the data is the same `if` on both sides. -/
theorem next_pushdata {op : UInt8} {k bound : Nat} (hp : Pushdata op k bound) (min : Bool) (tl : Bytes) :
    next min (op :: tl) = pushdataArm min k bound (k == 1) tl := by
  have e := readUint_eq tl (k := k) (by have := hp.facts; omega)
  unfold pushdataArm
  by_cases c : tl.length < k
  · have c' : tl.length + 1 < k + 1 := by omega
    rw [if_pos c]
    cases hp <;> simp +decide [next, c']
  · have c' : ¬ tl.length + 1 < k + 1 := by omega
    rw [if_neg c] at e ⊢
    by_cases m : min = true ∧ leNat (tl.take k) < bound
    all_goals cases hp <;> simp +decide [next, e, c', m, apply_ite Step.fail]

theorem opcode_kind (b : UInt8) :
    b ≤ opPushbytes75 ∨ (∃ k bound, Pushdata b k bound) ∨ opPushdata4 < b := by
  rcases byte_kind b with h | rfl | rfl | rfl | h
  · exact .inl h
  · exact .inr (.inl ⟨_, _, .one⟩)
  · exact .inr (.inl ⟨_, _, .two⟩)
  · exact .inr (.inl ⟨_, _, .four⟩)
  · exact .inr (.inr h)

theorem pushdataArm_false (k bound : Nat) (lenFirst : Bool) (tl : Bytes) :
    pushdataArm false k bound lenFirst tl =
      if tl.length < k then .fail .earlyEnd
      else if tl.length < leNat (tl.take k) + k then .fail .earlyEnd
      else .item (.push ((tl.drop k).take (leNat (tl.take k)))) (tl.drop (leNat (tl.take k) + k)) := by
  simp only [pushdataArm, Bool.false_eq_true, false_and, if_false]

theorem pushdataArm_ne_done (min : Bool) (k bound : Nat) (lenFirst : Bool) (tl : Bytes) :
    pushdataArm min k bound lenFirst tl ≠ .done := by
  unfold pushdataArm
  intro h
  split at h
  · cases h
  · simp only at h
    split at h
    · cases h
    · split at h <;> cases h

theorem pushdataArm_item {min : Bool} {k bound : Nat} {lenFirst : Bool} {tl : Bytes} {i : Instr} {rest : Bytes}
    (h : pushdataArm min k bound lenFirst tl = .item i rest) :
    ∃ lf d, tl = lf ++ d ++ rest ∧ lf.length = k ∧ d.length = leNat lf ∧ i = .push d ∧
      (min = true → bound ≤ d.length) := by
  unfold pushdataArm at h
  split at h
  · cases h
  · rename_i hk
    simp only at h
    split at h
    · cases h
    · rename_i hm
      split at h
      · cases h
      · rename_i hl
        cases h
        refine ⟨tl.take k, (tl.drop k).take (leNat (tl.take k)), ?_, ?_, ?_, rfl, fun hmin => ?_⟩
        · rw [List.append_assoc, Nat.add_comm, ← List.drop_drop, List.take_append_drop, List.take_append_drop]
        · rw [List.length_take]
          omega
        · simp only [List.length_take, List.length_drop]
          omega
        · simp only [List.length_take, List.length_drop]
          have : ¬ leNat (tl.take k) < bound := fun c => hm ⟨hmin, c⟩
          omega

theorem pushdataArm_enc (min : Bool) {k bound : Nat} (lenFirst : Bool) (d rest : Bytes) (hk : d.length < 256 ^ k)
    (hb : bound ≤ d.length) :
    pushdataArm min k bound lenFirst (leBytes k d.length ++ (d ++ rest)) = .item (.push d) rest := by
  have hl := leBytes_length k d.length
  have h1 : ¬ (leBytes k d.length ++ (d ++ rest)).length < k := by simp [hl]
  have h2 : ¬ (leBytes k d.length ++ (d ++ rest)).length < d.length + k := by
    simp [hl]
    omega
  have h3 : ¬ d.length < bound := by omega
  simp only [pushdataArm, h1, if_false, List.take_left' hl, leNat_leBytes k _ hk, h2, h3, and_false,
    List.drop_left' hl, List.take_left' rfl]
  rw [Nat.add_comm, ← List.drop_drop, List.drop_left' hl, List.drop_left' rfl]

theorem next_direct_item {min : Bool} {b : UInt8} (hb : b ≤ opPushbytes75) {tl : Bytes} {i : Instr} {rest : Bytes}
    (h : next min (b :: tl) = .item i rest) :
    i = .push (tl.take b.toNat) ∧ rest = tl.drop b.toNat ∧ b.toNat ≤ tl.length := by
  rw [next_direct hb] at h
  split at h
  · cases h
  · split at h
    · cases h
    · cases h
      exact ⟨rfl, rfl, by omega⟩

theorem next_enc (min : Bool) (i : Instr) (rest : Bytes) (hwf : i.wf) (hmin : min = true → i.bip62) :
    next min (encInstr i ++ rest) = .item i rest := by
  cases i with
  | op c => exact next_op hwf min rest
  | push d =>
    rcases pushHeader_cases (n := d.length) hwf with ⟨h1, e⟩ | ⟨op, k, bound, hp, h1, h2, e⟩
    · obtain ⟨hb, c0⟩ := ofNat_direct h1
      have hm : (min && d.length == 1 && smallNumByte ((d ++ rest).getD 0 0)) = false := by
        cases min with
        | false => rfl
        | true =>
          by_cases h1' : d.length = 1
          · match d, h1' with
            | [b], _ => simp [hmin rfl b rfl]
          · simp [h1']
      have hl : ¬ (d ++ rest).length < d.length := by simp
      simp only [encInstr, e, Option.getD_some, List.cons_append, List.nil_append]
      rw [next_direct c0, hb, if_neg hl, hm, List.take_left' rfl, List.drop_left' rfl]
      rfl
    · simp only [encInstr, e, Option.getD_some, List.cons_append, List.append_assoc]
      rw [next_pushdata hp]
      exact pushdataArm_enc min _ d rest h2 h1

theorem serialize_append (xs ys : List Instr) : serialize (xs ++ ys) = serialize xs ++ serialize ys := by
  induction xs with
  | nil => rfl
  | cons x xs ih => simp [serialize, ih]

theorem serialize_singleton (i : Instr) : serialize [i] = encInstr i := by simp [serialize]

theorem length_le_serialize (is : List Instr) : is.length ≤ (serialize is).length := by
  induction is with
  | nil => exact Nat.le_refl _
  | cons i is ih =>
    have := List.length_pos_iff.mpr (encInstr_ne_nil i)
    simp only [serialize, List.length_append, List.length_cons]
    omega

theorem collect_serialize_append (min : Bool) (is : List Instr) (tail : Bytes)
    (h : ∀ i ∈ is, i.wf ∧ (min = true → i.bip62)) (f : Nat) :
    collect min (f + is.length) (serialize is ++ tail) = (is ++ (collect min f tail).1, (collect min f tail).2) := by
  induction is with
  | nil => rfl
  | cons i is ih =>
    obtain ⟨⟨hw, hm⟩, h'⟩ := List.forall_mem_cons.mp h
    have hn := next_enc min i (serialize is ++ tail) hw hm
    simp only [serialize, List.append_assoc, List.length_cons, ← Nat.add_assoc, collect, hn, ih h', List.cons_append]

theorem collect_serialize_nil (min : Bool) (is : List Instr) (h : ∀ i ∈ is, i.wf ∧ (min = true → i.bip62)) :
    collect min (serialize is).length (serialize is) = (is, none) := by
  have := collect_serialize_append min is [] h ((serialize is).length - is.length)
  rw [Nat.sub_add_cancel (length_le_serialize is), List.append_nil] at this
  rw [this]
  cases (serialize is).length - is.length <;> simp [collect, next]

theorem next_small_push (b : UInt8) (rest : Bytes) (hb : smallNumByte b = true) :
    next true (encInstr (.push [b]) ++ rest) = .fail .nonMinimal := by
  have c0 : (1 : UInt8) ≤ opPushbytes75 := by decide
  have e : pushHeader 1 = some [1] := by decide
  simp [encInstr, e, next, c0, hb]

/-- the one canonical encoding that `instructions_minimal` refuses: the first one-byte small-number push stops it
    with `NonMinimalPush` -/
theorem collect_serialize_small (pre post : List Instr) (b : UInt8) (hb : smallNumByte b = true)
    (h : ∀ i ∈ pre, i.wf ∧ i.bip62) :
    collect true (serialize (pre ++ .push [b] :: post)).length (serialize (pre ++ .push [b] :: post)) =
      (pre, some .nonMinimal) := by
  -- one call of `next` for each instruction of `pre` and one more: the fuel suffices
  have hl := length_le_serialize (pre ++ .push [b] :: post)
  rw [List.length_append, List.length_cons] at hl
  generalize (serialize (pre ++ .push [b] :: post)).length = f at hl ⊢
  obtain ⟨g, rfl⟩ : ∃ g, f = g + 1 + pre.length := ⟨f - pre.length - 1, by omega⟩
  rw [serialize_append, collect_serialize_append true pre _ (fun i hi => ⟨(h i hi).1, fun _ => (h i hi).2⟩)]
  simp [collect, serialize, next_small_push b _ hb]

private theorem readUint_ok_inv {tl : Bytes} {k n : Nat} (h : readUint tl k = .ok n) :
    n = leNat (tl.take k) ∧ k ≤ tl.length := by
  unfold readUint at h
  split at h
  · cases h
  · split at h
    · cases h
    · cases h
      exact ⟨rfl, by omega⟩

theorem next_op_shape {min : Bool} {s : Bytes} {c : UInt8} {rest : Bytes}
    (h : next min s = .item (.op c) rest) : s = c :: rest := by
  cases s with
  | nil => cases h
  | cons b tl =>
    rcases opcode_kind b with hb | ⟨k, bound, hp⟩ | hb
    · cases (next_direct_item hb h).1
    · rw [next_pushdata hp] at h
      obtain ⟨_, _, _, _, _, hi, _⟩ := pushdataArm_item h
      cases hi
    · rw [next_op hb] at h
      cases h
      rfl

/-- The builder's encoding of a yielded item is at most as long as what was read (`push_slice` chooses the shortest
    header the iterator accepts), and under minimality enforcement it is what was read. -/
theorem next_sound {min : Bool} {s : Bytes} {i : Instr} {rest : Bytes} (h : next min s = .item i rest) :
    i.wf ∧ (encInstr i ++ rest).length ≤ s.length ∧ (min = true → s = encInstr i ++ rest ∧ i.bip62) := by
  cases s with
  | nil => cases h
  | cons b tl =>
    rcases opcode_kind b with hb | ⟨k, bound, hp⟩ | hb
    · obtain ⟨rfl, rfl, hl⟩ := next_direct_item hb h
      have h75 : b.toNat ≤ 75 := UInt8.le_iff_toNat_le.mp hb
      have hlen : (tl.take b.toNat).length = b.toNat := by
        rw [List.length_take]
        omega
      have enc : encInstr (.push (tl.take b.toNat)) ++ tl.drop b.toNat = b :: tl := by
        simp [encInstr, hlen, pushHeader_small (show b.toNat < 76 by omega)]
      refine ⟨?_, Nat.le_of_eq (congrArg _ enc), fun hmin => ⟨enc.symm, fun x hx => ?_⟩⟩
      · show (tl.take b.toNat).length < 2 ^ 32
        omega
      · -- a one-byte push of a small number would have been refused
        rw [← enc, hx, hmin] at h
        cases hs : smallNumByte x with
        | false => rfl
        | true =>
          rw [next_small_push x _ hs] at h
          cases h
    · -- the header written for `d` is the one read when the length is not below `bound`
      rw [next_pushdata hp] at h
      obtain ⟨lf, d, rfl, rfl, hd', rfl, hm⟩ := pushdataArm_item h
      have hlt : d.length < 256 ^ lf.length := hd' ▸ leNat_lt rfl
      obtain ⟨hd, ehd, hl⟩ := pushHeader_length_le hp hlt
      have enc : encInstr (.push d) = hd ++ d := by
        rw [encInstr, ehd]
        rfl
      refine ⟨pushHeader_some_lt ehd, ?_, fun hmin => ⟨?_, fun x hx => ?_⟩⟩
      · simp only [enc, List.length_append, List.length_cons]
        omega
      · have := pushHeader_pushdata hp (hm hmin) hlt
        rw [ehd, hd', leBytes_leNat rfl] at this
        rw [enc, Option.some.inj this]
        simp
      · have : d.length = 1 := by
          rw [hx]
          rfl
        have := hm hmin
        have := hp.facts.2.2.1
        omega
    · rw [next_op hb] at h
      cases h
      exact ⟨hb, Nat.le_refl _, fun _ => ⟨rfl, trivial⟩⟩

theorem next_done {min : Bool} {s : Bytes} (h : next min s = .done) : s = [] := by
  cases s with
  | nil => rfl
  | cons b tl =>
    exfalso
    rcases opcode_kind b with hb | ⟨k, bound, hp⟩ | hb
    · rw [next_direct hb] at h
      repeat' split at h
      all_goals cases h
    · rw [next_pushdata hp] at h
      exact pushdataArm_ne_done _ _ _ _ _ h
    · rw [next_op hb] at h
      cases h

/-- a script that iterates without error under minimality enforcement is the canonical encoding of what it yields -/
theorem collect_min_sound (f : Nat) : ∀ (s : Bytes) (is : List Instr), s.length ≤ f →
    collect true f s = (is, none) → s = serialize is ∧ ∀ i ∈ is, i.wf ∧ i.bip62 := by
  induction f with
  | zero =>
    intro s is hl h
    have : s = [] := List.eq_nil_of_length_eq_zero (by omega)
    subst this
    simp only [collect, Prod.mk.injEq] at h
    obtain ⟨rfl, _⟩ := h
    simp [serialize]
  | succ f ih =>
    intro s is hl h
    simp only [collect] at h
    cases hn : next true s with
    | done =>
      rw [hn] at h
      simp only [Prod.mk.injEq] at h
      obtain ⟨rfl, _⟩ := h
      simp [serialize, next_done hn]
    | fail e =>
      rw [hn] at h
      simp at h
    | item i rest =>
      rw [hn] at h
      simp only [Prod.mk.injEq] at h
      obtain ⟨rfl, h2⟩ := h
      obtain ⟨hw, -, hm⟩ := next_sound hn
      obtain ⟨e, hb⟩ := hm rfl
      have hlen := List.length_pos_iff.mpr (encInstr_ne_nil i)
      have hl' : rest.length ≤ f := by
        rw [e, List.length_append] at hl
        omega
      obtain ⟨e', hw'⟩ := ih rest (collect true f rest).1 hl' (by rw [← h2])
      refine ⟨by rw [serialize, ← e', ← e], fun j hj => ?_⟩
      rcases List.mem_cons.mp hj with rfl | hj
      · exact ⟨hw, hb⟩
      · exact hw' j hj

end EV.Proofs.ScriptIter
