/-
  EV.Proofs.SegwitDecode — what the segwit string decoders accept, stage by stage (one `iff` each, up to
  `segwitNew_eq_ok_iff`), that they return `ok` or `err` on every string, and the length of what they accept
  (`symbols_within_bound`).
-/
import EV.Proofs.Polymod
import EV.Proofs.Alphabet
import EV.Proofs.Res
namespace EV.Bech32
open Code

theorem splitLast_none_of_no_sep (d : Text) (h : ∀ c ∈ d, c ≠ 49) : splitLast d = none := by
  induction d with
  | nil => rfl
  | cons c d ih =>
    obtain ⟨hc, hd⟩ := List.forall_mem_cons.mp h
    simp only [splitLast, ih hd]
    simp [hc]

theorem splitLast_append (h d : Text) (hd : ∀ c ∈ d, c ≠ 49) : splitLast (h ++ 49 :: d) = some (h, d) := by
  induction h with
  | nil => simp [splitLast, splitLast_none_of_no_sep d hd]
  | cons c h ih => simp [splitLast, ih]

theorem sep_cases (s : Text) : (∀ c ∈ s, c ≠ 49) ∨ ∃ h d, s = h ++ 49 :: d ∧ ∀ c ∈ d, c ≠ 49 := by
  induction s with
  | nil => exact .inl nofun
  | cons c cs ih =>
    rcases ih with hn | ⟨h, d, rfl, hd⟩
    · by_cases hc : c = 49
      · exact .inr ⟨[], cs, by rw [hc]; rfl, hn⟩
      · exact .inl (List.forall_mem_cons.mpr ⟨hc, hn⟩)
    · exact .inr ⟨c :: h, d, rfl, hd⟩

theorem splitLast_eq_some_iff (s h d : Text) :
    splitLast s = some (h, d) ↔ s = h ++ 49 :: d ∧ ∀ c ∈ d, c ≠ 49 := by
  refine ⟨fun hs => ?_, fun ⟨e, hd⟩ => e ▸ splitLast_append h d hd⟩
  rcases sep_cases s with hn | ⟨h', d', rfl, hd'⟩
  · rw [splitLast_none_of_no_sep s hn] at hs
    cases hs
  · rw [splitLast_append h' d' hd'] at hs
    cases hs
    exact ⟨rfl, hd'⟩

theorem sep_split_inj (h d h' d' : Text) (hd : ∀ c ∈ d, c ≠ 49) (hd' : ∀ c ∈ d', c ≠ 49)
    (e : h ++ 49 :: d = h' ++ 49 :: d') : h = h' ∧ d = d' := by
  have := splitLast_append h d hd
  rw [e, splitLast_append h' d' hd'] at this
  exact Prod.mk.inj (Option.some.inj this.symm)

theorem fromChar_sep : fromChar 49 = none := by decide

theorem ne_sep_of_fromChar (c : Nat) (h : (fromChar c).isSome = true) : c ≠ 49 := by
  rintro rfl
  simp [fromChar_sep] at h

theorem no_sep_of_alphabet (d : Text) (h : ∀ c ∈ d, (fromChar c).isSome = true) : ∀ c ∈ d, c ≠ 49 :=
  fun c hc => ne_sep_of_fromChar c (h c hc)

theorem map_sym_lt (d : Text) : ∀ x ∈ d.map sym, x < 32 := by
  intro x hx
  simp only [List.mem_map] at hx
  obtain ⟨c, _, rfl⟩ := hx
  exact sym_lt c

theorem hrpExpand_lt (h : Text) (hh : ∀ b ∈ h, b < 128) : ∀ x ∈ hrpExpand h, x < 32 := by
  intro x hx
  simp only [hrpExpand, List.mem_append, List.mem_map, List.mem_cons] at hx
  rcases hx with ⟨b, hb, rfl⟩ | rfl | ⟨b, _, rfl⟩
  · have := hh b hb
    unfold lowerByte isUpper
    split <;> omega
  · decide
  · exact Nat.mod_lt _ (by decide)

theorem hrpExpand_length (h : Text) : (hrpExpand h).length = 2 * h.length + 1 := by
  simp [hrpExpand]
  omega

theorem hrpParse_lt (h : Text) (hp : hrpParse h = true) : ∀ b ∈ h, b < 128 := by
  unfold hrpParse at hp
  simp only [Bool.and_eq_true, List.all_eq_true, decide_eq_true_eq] at hp
  intro b hb
  have := hp.1.2 b hb
  omega

/-- `UncheckedHrpstring::new` -/
theorem uncheckedNew_eq_some_iff (s h d : Text) :
    uncheckedNew s = some (h, d) ↔ s = h ++ 49 :: d ∧ hrpParse h = true ∧
      (∀ c ∈ d, (fromChar c).isSome = true) ∧ (s.any isUpper && s.any isLower) = false := by
  unfold uncheckedNew checkCharacters
  constructor
  · intro hu
    cases hs : splitLast s with
    | none => simp [hs] at hu
    | some p =>
      obtain ⟨h', d'⟩ := p
      simp only [hs] at hu
      split at hu
      · cases hu
      · rename_i h2 d2 hcc
        simp only [Option.ite_none_right_eq_some, Option.some.injEq, Prod.mk.injEq, Bool.and_eq_true,
          List.all_eq_true, Bool.not_eq_true'] at hu hcc
        obtain ⟨hp, rfl, rfl⟩ := hu
        obtain ⟨⟨hal, hmix⟩, rfl, rfl⟩ := hcc
        exact ⟨((splitLast_eq_some_iff s _ _).mp hs).1, hp, hal, hmix⟩
  · rintro ⟨rfl, hp, hal, hmix⟩
    rw [splitLast_append h d (no_sep_of_alphabet d hal), hmix]
    simp only [Bool.not_false, Bool.and_true, List.all_eq_true.mpr hal, hp, if_true]

theorem uncheckedNew_split (h d : Text) (hd : ∀ c ∈ d, (fromChar c).isSome = true) (h2 d2 : Text)
    (hs : uncheckedNew (h ++ 49 :: d) = some (h2, d2)) : h2 = h ∧ d2 = d := by
  obtain ⟨e, _, hal, _⟩ := (uncheckedNew_eq_some_iff _ _ _).mp hs
  obtain ⟨rfl, rfl⟩ := sep_split_inj _ _ _ _ (no_sep_of_alphabet d hd) (no_sep_of_alphabet d2 hal) e
  exact ⟨rfl, rfl⟩

theorem verify_eq_true_iff (v : Variant) (hrp : Text) (syms : List Nat) :
    verify v hrp syms = true ↔ v.code.polymod (hrpExpand hrp ++ syms) = v.target :=
  beq_iff_eq

theorem verify_eq_false_iff (v : Variant) (hrp : Text) (syms : List Nat) :
    verify v hrp syms = false ↔ v.code.polymod (hrpExpand hrp ++ syms) ≠ v.target :=
  beq_eq_false_iff_ne

theorem validateChecksum_iff (f : Flavor) (v : Variant) (n : Nat) (hrp data : Text) :
    validateChecksum f v n hrp data = true ↔ (f.checkCodeLength = true → n ≤ v.codeLength) ∧
      v.code.len ≤ data.length ∧ verify v hrp (data.map sym) = true := by
  unfold validateChecksum
  simp only [Bool.if_false_left, Bool.and_eq_true, Bool.not_eq_true', decide_eq_false_iff_not, Nat.not_lt,
    decide_eq_true_eq, not_and, gt_iff_lt]

/-- `segwit::MAX_STRING_LENGTH` -/
theorem tooLong_crate (n : Nat) : crateFlavor.tooLong n = false ↔ n ≤ 90 := by
  simp only [Flavor.tooLong, crateFlavor, Ref.segwitMaxStringLength, decide_eq_false_iff_not, Nat.not_lt]

/-- `validate_witness_program_length` -/
theorem validateLength_iff (f : Flavor) (ver n : Nat) :
    validateLength f ver n = true ↔ f.minBytes ≤ n ∧ n ≤ f.maxBytes ∧ (ver = 0 → n = f.v0LenA ∨ n = f.v0LenB) := by
  unfold validateLength
  simp only [Bool.if_false_left, Bool.and_eq_true, Bool.not_eq_true', decide_eq_false_iff_not, Nat.not_lt,
    decide_eq_true_eq, bne_iff_ne, Bool.and_true, gt_iff_lt, ne_eq, not_and, Decidable.not_not,
    Decidable.or_iff_not_imp_left, and_imp]

/- The two decoders are chains of guards `if c then .err e else …`; `Res.guard_eq_ok` and
   `Res.guard_ne_panic` read them off one guard at a time. -/

theorem validateSegwit_eq_ok_iff (f : Flavor) (n : Nat) (hrp ascii : Text) (r : Seg) :
    validateSegwit f n hrp ascii = .ok r ↔ f.tooLong n = false ∧ r.hrp = hrp ∧
      ascii.map sym = r.version :: r.fes ∧ validatePadding r.fes = true ∧
      validateLength f r.version (r.fes.length * 5 / 8) = true := by
  obtain ⟨rh, rv, rf⟩ := r
  cases ascii with
  | nil => simp [validateSegwit]
  | cons c0 rest =>
    simp only [validateSegwit, Res.guard_eq_ok, Bool.not_eq_true, Bool.not_eq_true', Bool.not_eq_false,
      Res.ok.injEq, Seg.mk.injEq, List.length_map, List.map_cons, List.cons.injEq]
    constructor
    · rintro ⟨h1, h2, h3, rfl, rfl, rfl⟩
      exact ⟨h1, rfl, ⟨rfl, rfl⟩, h2, by simpa using h3⟩
    · rintro ⟨h1, rfl, ⟨rfl, rfl⟩, h2, h3⟩
      exact ⟨h1, h2, by simpa using h3, rfl, rfl, rfl⟩

/-- cutting `n` elements off the end, seen from the mapped list -/
theorem map_take_sub_iff {α β} (g : α → β) (d : List α) (n : Nat) (p : List β) :
    n ≤ d.length ∧ (d.take (d.length - n)).map g = p ↔ ∃ ck, d.map g = p ++ ck ∧ ck.length = n := by
  constructor
  · rintro ⟨hn, rfl⟩
    exact ⟨(d.drop (d.length - n)).map g, by rw [← List.map_append, List.take_append_drop],
      by rw [List.length_map, List.length_drop]; omega⟩
  · rintro ⟨ck, e, rfl⟩
    have hl : d.length = p.length + ck.length := by rw [← List.length_map (f := g), e, List.length_append]
    exact ⟨by omega, by rw [List.map_take, e, hl, Nat.add_sub_cancel, List.take_left' rfl]⟩

/-- in terms of the symbols `d.map sym` of the data part: the witness version, the payload symbols, and the
    checksum symbols of the variant the version selects (`validate_checksum`, `validate_segwit`) -/
theorem segwitNew_eq_ok_iff (f : Flavor) (s : Text) (r : Seg) :
    segwitNew f s = .ok r ↔ ∃ d ck, uncheckedNew s = some (r.hrp, d) ∧
      d.map sym = r.version :: r.fes ++ ck ∧ ck.length = (f.variant r.version).code.len ∧
      f.tooLong s.length = false ∧ r.version ≤ 16 ∧
      (f.checkCodeLength = true → s.length ≤ (f.variant r.version).codeLength) ∧
      verify (f.variant r.version) r.hrp (d.map sym) = true ∧
      validatePadding r.fes = true ∧ validateLength f r.version (r.fes.length * 5 / 8) = true := by
  obtain ⟨rh, rv, rf⟩ := r
  unfold segwitNew
  rw [Res.guard_eq_ok]
  cases hun : uncheckedNew s with
  | none => simp
  | some p =>
    obtain ⟨hrp, _ | ⟨c0, rest⟩⟩ := p
    · simp
    · simp only [Res.guard_eq_ok, Bool.not_eq_true', Bool.not_eq_false, Nat.not_lt, validateChecksum_iff,
        validateSegwit_eq_ok_iff, Option.some.injEq, Prod.mk.injEq]
      -- the prefix the decoder cuts off is `version :: fes`, so the first symbol is the version
      constructor
      · rintro ⟨htl, hv, ⟨hcl, hlen, hver⟩, _, rfl, htake, hpad, hvl⟩
        obtain ⟨ck, e, hck⟩ := (map_take_sub_iff sym _ _ _).mp ⟨hlen, htake⟩
        obtain rfl : sym c0 = rv := (List.cons.inj e).1
        exact ⟨_, ck, ⟨rfl, rfl⟩, e, hck, Bool.eq_false_iff.mpr htl, hv, hcl, hver, hpad, hvl⟩
      · rintro ⟨_, ck, ⟨rfl, rfl⟩, e, hck, htl, hv, hcl, hver, hpad, hvl⟩
        obtain rfl : sym c0 = rv := (List.cons.inj e).1
        obtain ⟨hlen, htake⟩ := (map_take_sub_iff sym _ _ _).mpr ⟨ck, e, hck⟩
        exact ⟨Bool.eq_false_iff.mp htl, hv, ⟨hcl, hlen, hver⟩, htl, rfl, htake, hpad, hvl⟩

theorem validateSegwit_not_panic (f : Flavor) (n : Nat) (hrp ascii : Text) (site : String) :
    validateSegwit f n hrp ascii ≠ .panic site := by
  cases ascii with
  | nil => nofun
  | cons c0 rest => exact Res.guard_ne_panic (Res.guard_ne_panic (Res.guard_ne_panic nofun))

theorem segwitNew_not_panic (f : Flavor) (s : Text) (site : String) : segwitNew f s ≠ .panic site := by
  unfold segwitNew
  refine Res.guard_ne_panic ?_
  cases uncheckedNew s with
  | none => nofun
  | some p =>
    obtain ⟨hrp, _ | ⟨c0, rest⟩⟩ := p
    · nofun
    · exact Res.guard_ne_panic (Res.guard_ne_panic (validateSegwit_not_panic _ _ _ _ _))

theorem segwitNew_err_of_not_ok (f : Flavor) (s : Text) (h : ∀ r, segwitNew f s ≠ .ok r) :
    ∃ k, segwitNew f s = .err k :=
  (Res.Post.self (segwitNew_not_panic f s)).err_of_not h

/-- the crate's decoder accepts at most 90 characters (`90 + h.length` symbols at most), the repo's at most 73
    payload bytes (118 symbols, with version, 12 checksum symbols and the expanded hrp `132 + 2 * h.length`:
    `4` is the longest hrp for which this is within 140) -/
theorem symbols_within_bound (f : Flavor) (hf : IsFlavor f) (h d : Text) (r : Seg)
    (hok : segwitNew f (h ++ 49 :: d) = .ok r) (hh : h.length ≤ 4)
    (hd : ∀ c ∈ d, (fromChar c).isSome = true) :
    (hrpExpand h ++ d.map sym).length ≤ f.switchBound := by
  obtain ⟨d0, ck, hun, e, hck, htl, _, _, _, _, hvl⟩ := (segwitNew_eq_ok_iff f _ r).mp hok
  obtain ⟨_, rfl⟩ := uncheckedNew_split h d hd _ _ hun
  have hmax := ((validateLength_iff _ _ _).mp hvl).2.1
  have hl := congrArg List.length e
  rw [variant_code f hf] at hck
  simp only [List.length_append, hrpExpand_length, List.length_map, List.length_cons, hck] at htl hl ⊢
  rcases hf with rfl | rfl
  · rw [tooLong_crate] at htl
    rw [switchBound_crate]
    omega
  · rw [switchBound_blech]
    rw [show blechFlavor.v0.code.len = 12 by decide] at hl
    rw [show blechFlavor.maxBytes = 73 from rfl] at hmax
    omega

end EV.Bech32
