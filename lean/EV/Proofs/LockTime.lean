/-
  EV.Proofs.LockTime — first, EV.Model.LockTime alone: the constructors and the order of `LockTime`, `Height`,
  `Time` (src/locktime.rs) as tests against the threshold, and the predicates and constructors of `Sequence`
  (src/transaction.rs) as bit tests and divisions by 512.  Then what the bridge from the BIP370 selection
  (`EV.locktimeOf`) to `LockTime::is_satisfied_by` needs: `unitReq`, `bridge_core`, and the typed selection
  `locktimeTyped`.  The statements with docstrings are in EV/Props/C08.lean.
-/
import EV.Model.LockTime
import EV.Proofs.PsetLockKind
import EV.Proofs.NatBits
import EV.Proofs.Res
namespace EV.Proofs.LockTime
open EV EV.Lock EV.Proofs.PsetLocktime EV.Proofs.PsetLockKind

theorem threshold_eq : Gen.lockTimeThreshold = 500000000 := by decide

theorem disableMask_eq : Sequence.lockTimeDisableFlagMask = 2^31 := by decide

theorem typeMask_eq : Sequence.lockTypeMask = 2^22 := by decide

theorem floorGran_eq : Gen.sequenceFloorGranularity = 512 := by decide

theorem ceilGran_eq : Gen.sequenceCeilGranularity = 512 := by decide

theorem seqMax_eq : Sequence.max = ⟨0xffffffff⟩ := by decide

theorem seqMinNoRbf_eq : Sequence.minNoRbf = ⟨0xfffffffe⟩ := by decide

theorem zero_eq : LockTime.zero = .blocks ⟨0⟩ := by decide

/-- a checked constructor: `if c { Ok(a) } else { Err(e) }` -/
theorem check_eq_ok {α} {c : Prop} [Decidable c] {a b : α} {e : String} :
    (if c then Res.ok a else .err e) = .ok b ↔ c ∧ a = b := by
  rw [← ite_not, Res.guard_eq_ok, Decidable.not_not, Res.ok.injEq]

theorem heightFromConsensus_eq (n : Nat) :
    Height.fromConsensus n = if n < Gen.lockTimeThreshold then .ok ⟨n⟩ else .err "Conversion(invalid_height)" := by
  simp only [Height.fromConsensus, Lock.isBlockHeight, decide_eq_true_eq]

theorem timeFromConsensus_eq (n : Nat) :
    Time.fromConsensus n = if Gen.lockTimeThreshold ≤ n then .ok ⟨n⟩ else .err "Conversion(invalid_time)" := by
  simp only [Time.fromConsensus, Lock.isBlockTime, decide_eq_true_eq, ge_iff_le]

theorem fromConsensus_eq (n : Nat) :
    LockTime.fromConsensus n = .ok (if n < Gen.lockTimeThreshold then .blocks ⟨n⟩ else .seconds ⟨n⟩) := by
  unfold LockTime.fromConsensus Lock.isBlockHeight
  rw [heightFromConsensus_eq, timeFromConsensus_eq]
  by_cases h : n < Gen.lockTimeThreshold
  · rw [if_pos (decide_eq_true h), if_pos h, if_pos h]
  · rw [if_neg (mt of_decide_eq_true h), if_neg h, if_pos (Nat.le_of_not_lt h)]

theorem fromConsensus_ok (n : Nat) (l : LockTime) (h : LockTime.fromConsensus n = .ok l) :
    l = if n < Gen.lockTimeThreshold then .blocks ⟨n⟩ else .seconds ⟨n⟩ := by
  rw [fromConsensus_eq] at h
  cases h
  rfl

theorem fromConsensus_toConsensus (l : LockTime) (hv : l.Valid) :
    LockTime.fromConsensus l.toConsensusU32 = .ok l := by
  rw [fromConsensus_eq]
  cases l with
  | blocks h => exact congrArg Res.ok (if_pos hv)
  | seconds t => exact congrArg Res.ok (if_neg (Nat.not_lt.mpr hv.1))

theorem fromConsensus_valid (n : Nat) (h32 : n < 2^32) (l : LockTime) (h : LockTime.fromConsensus n = .ok l) :
    l.Valid := by
  rw [fromConsensus_ok n l h]
  split
  next hlt => exact hlt
  next hge => exact ⟨Nat.le_of_not_lt hge, h32⟩

theorem valid_lt_u32 (l : LockTime) (hv : l.Valid) : l.toConsensusU32 < 2^32 := by
  cases l with
  | blocks h => exact Nat.lt_trans hv (by decide)
  | seconds t => exact hv.2

theorem fromHeight_eq (n : Nat) :
    LockTime.fromHeight n = if n < Gen.lockTimeThreshold then .ok (.blocks ⟨n⟩) else .err "Conversion(invalid_height)" := by
  rw [LockTime.fromHeight, heightFromConsensus_eq]
  by_cases h : n < Gen.lockTimeThreshold
  · rw [if_pos h, if_pos h]
  · rw [if_neg h, if_neg h]

theorem fromTime_eq (n : Nat) :
    LockTime.fromTime n = if Gen.lockTimeThreshold ≤ n then .ok (.seconds ⟨n⟩) else .err "Conversion(invalid_time)" := by
  rw [LockTime.fromTime, timeFromConsensus_eq]
  by_cases h : Gen.lockTimeThreshold ≤ n
  · rw [if_pos h, if_pos h]
  · rw [if_neg h, if_neg h]

/-- the derived `Ord` of a `u32` newtype is the comparison of the numbers -/
theorem cmpNat_eq_compare (a b : Nat) : cmpNat a b = compare a b := rfl

theorem cmpNat_eq (a b : Nat) : cmpNat a b = .eq ↔ a = b :=
  cmpNat_eq_compare a b ▸ Nat.compare_eq_eq

theorem cmpNat_lt (a b : Nat) : cmpNat a b = .lt ↔ a < b :=
  cmpNat_eq_compare a b ▸ Nat.compare_eq_lt

theorem cmpNat_gt (a b : Nat) : cmpNat a b = .gt ↔ b < a :=
  cmpNat_eq_compare a b ▸ Nat.compare_eq_gt

theorem cmpNat_le (a b : Nat) : (cmpNat a b = .lt ∨ cmpNat a b = .eq) ↔ a ≤ b := by
  rw [cmpNat_lt, cmpNat_eq]
  exact Nat.le_iff_lt_or_eq.symm

/-- `a <= b` of `PartialOrd for LockTime` -/
theorem le_iff (a b : LockTime) :
    a.le b = true ↔ a.isSameUnit b = true ∧ a.toConsensusU32 ≤ b.toConsensusU32 := by
  cases a <;> cases b <;>
    simp [LockTime.le, LockTime.partialCmp, LockTime.isSameUnit, LockTime.toConsensusU32, Height.cmp, Time.cmp,
      Height.toConsensusU32, Time.toConsensusU32, cmpNat_le]

theorem partialCmp_none_iff (a b : LockTime) : a.partialCmp b = none ↔ a.isSameUnit b = false := by
  cases a <;> cases b <;> simp [LockTime.partialCmp, LockTime.isSameUnit]

theorem isSatisfiedBy_eq (l : LockTime) (H : Height) (T : Time) :
    l.isSatisfiedBy H T = match l with
      | .blocks n => decide (n.n ≤ H.n)
      | .seconds n => decide (n.n ≤ T.n) := by
  cases l <;> rfl

-- the masks of `Sequence` are single bits, so its predicates are bit tests
theorem isRelativeLockTime_eq (s : Sequence) : s.isRelativeLockTime = !s.n.testBit 31 := by
  rw [Sequence.isRelativeLockTime, disableMask_eq, NatBits.and_two_pow_eq_zero]

theorem isHeightLocked_eq (s : Sequence) : s.isHeightLocked = (!s.n.testBit 31 && !s.n.testBit 22) := by
  rw [Sequence.isHeightLocked, isRelativeLockTime_eq, typeMask_eq, NatBits.and_two_pow_eq_zero]

theorem isTimeLocked_eq (s : Sequence) : s.isTimeLocked = (!s.n.testBit 31 && s.n.testBit 22) := by
  rw [Sequence.isTimeLocked, isRelativeLockTime_eq, typeMask_eq, NatBits.and_two_pow_pos]

theorem from512_n (i : Nat) (hi : i < 2^16) : (Sequence.from512SecondIntervals i).n = i + 2^22 := by
  simp only [Sequence.from512SecondIntervals, typeMask_eq]
  exact Nat.or_two_pow_eq_add_of_lt (Nat.lt_trans hi (by decide))

theorem from512_mod (i : Nat) (hi : i < 2^16) : (Sequence.from512SecondIntervals i).n % 2^16 = i := by
  simp only [Sequence.from512SecondIntervals, typeMask_eq, Nat.or_mod_two_pow]
  have h1 : (2:Nat)^22 % 2^16 = 0 := by decide
  rw [h1, Nat.or_zero]
  exact Nat.mod_eq_of_lt hi

theorem from512_bits (i : Nat) (hi : i < 2^16) :
    (Sequence.from512SecondIntervals i).n.testBit 31 = false ∧ (Sequence.from512SecondIntervals i).n.testBit 22 = true := by
  simp only [Sequence.from512SecondIntervals, typeMask_eq, Nat.testBit_or, Nat.testBit_two_pow]
  constructor
  · rw [NatBits.testBit_false_of_lt hi (by decide : 16 ≤ 31)]
    decide
  · simp

theorem fromHeight_bits (h : Nat) (hh : h < 2^16) :
    (Sequence.fromHeight h).n.testBit 31 = false ∧ (Sequence.fromHeight h).n.testBit 22 = false := by
  simp only [Sequence.fromHeight]
  exact ⟨NatBits.testBit_false_of_lt hh (by decide), NatBits.testBit_false_of_lt hh (by decide)⟩

/-- `u16::try_from(x).map(from_512_second_intervals)` or `IntegerOverflow` -/
theorem intervals_eq (x : Nat) :
    (match Sequence.u16TryFrom x with
      | some interval => Res.ok (Sequence.from512SecondIntervals interval)
      | none => .err "IntegerOverflow") =
    if x < 2^16 then .ok (Sequence.from512SecondIntervals x) else .err "IntegerOverflow" := by
  unfold Sequence.u16TryFrom
  by_cases h : x < 2^16
  · rw [if_pos h, if_pos h]
  · rw [if_neg h, if_neg h]

theorem fromSecondsFloor_eq (s : Nat) :
    Sequence.fromSecondsFloor s =
      if s / 512 < 2^16 then .ok (Sequence.from512SecondIntervals (s / 512)) else .err "IntegerOverflow" := by
  rw [Sequence.fromSecondsFloor, floorGran_eq]
  exact intervals_eq _

/-- `u32::div_ceil` by 512 as a single division -/
theorem divCeil_512 (s : Nat) : Sequence.divCeil s 512 = (s + 511) / 512 := by
  unfold Sequence.divCeil
  split <;> omega

theorem fromSecondsCeil_eq (s : Nat) :
    Sequence.fromSecondsCeil s =
      if (s + 511) / 512 < 2^16 then .ok (Sequence.from512SecondIntervals ((s + 511) / 512))
      else .err "IntegerOverflow" := by
  rw [Sequence.fromSecondsCeil, ceilGran_eq, divCeil_512]
  exact intervals_eq _

theorem floor_lt_iff (s : Nat) : s / 512 < 2^16 ↔ s < 2^16 * 512 :=
  Nat.div_lt_iff_lt_mul (by decide)

theorem ceil_lt_iff (s : Nat) : (s + 511) / 512 < 2^16 ↔ s ≤ (2^16 - 1) * 512 := by
  rw [Nat.div_lt_iff_lt_mul (by decide)]
  omega

theorem floor_bracket (s : Nat) : s / 512 * 512 ≤ s ∧ s < (s / 512 + 1) * 512 :=
  ⟨Nat.div_mul_le_self s 512, Nat.succ_mul _ _ ▸ Nat.lt_div_mul_add (by decide)⟩

theorem ceil_bracket (s : Nat) : s ≤ (s + 511) / 512 * 512 ∧ (s + 511) / 512 * 512 < s + 512 := by
  omega

theorem floor_ceil (s : Nat) :
    s / 512 ≤ (s + 511) / 512 ∧ (s + 511) / 512 ≤ s / 512 + 1 ∧ (s / 512 = (s + 511) / 512 ↔ s % 512 = 0) := by
  omega

/-- the requirement an input states in the unit of `l` -/
def unitReq : LockTime → LockReq → Option Nat
  | .blocks _ => (·.2)
  | .seconds _ => (·.1)

theorem unitReq_congr {q l : LockTime} (hu : q.isSameUnit l = true) : unitReq q = unitReq l := by
  cases q <;> cases l <;> cases hu <;> rfl

theorem mem_reqLocks (r : LockReq) (q : LockTime) : q ∈ reqLocks r ↔ unitReq q r = some q.toConsensusU32 := by
  obtain ⟨a, b⟩ := r
  rcases q with ⟨⟨x⟩⟩ | ⟨⟨x⟩⟩ <;> cases a <;> cases b <;>
    simp [reqLocks, unitReq, LockTime.ofTime, LockTime.ofHeight, LockTime.toConsensusU32, Height.toConsensusU32,
      Time.toConsensusU32, eq_comm]

theorem exists_mem_reqLocks {r : LockReq} {l : LockTime} (h : (unitReq l r).isSome = true) :
    ∃ q ∈ reqLocks r, q.isSameUnit l = true := by
  obtain ⟨x, hx⟩ := Option.isSome_iff_exists.mp h
  cases l
  · exact ⟨.blocks ⟨x⟩, (mem_reqLocks r _).mpr hx, rfl⟩
  · exact ⟨.seconds ⟨x⟩, (mem_reqLocks r _).mpr hx, rfl⟩

/-- a lock time `l` of the kind `locktime_kind` gives has the unit of the selected `n` -/
theorem bridge_core {fb : Option Nat} {reqs : List LockReq} {n : Nat}
    (hc : ∃ r ∈ reqs, constraining r = true) (h : locktimeOf fb reqs = .ok n) (l : LockTime)
    (hkind : l.isBlockHeight = true ↔ ∀ r ∈ reqs, constraining r = true → r.2.isSome = true) :
    (∀ r ∈ reqs, constraining r = true → (unitReq l r).isSome = true) ∧ Greatest (unitReq l) reqs n := by
  rcases ok_constrained hc h with ⟨hall, hg⟩ | ⟨hnall, hallT, hg⟩
  · cases l with
    | blocks _ => exact ⟨hall, hg⟩
    | seconds _ => exact absurd (hkind.mpr hall) Bool.false_ne_true
  · cases l with
    | blocks _ => exact absurd (hkind.mp rfl) hnall
    | seconds _ => exact ⟨hallT, hg⟩

theorem toConsensus_blocks (h : Height) : (LockTime.blocks h).toConsensusU32 = h.n := rfl

theorem toConsensus_seconds (t : Time) : (LockTime.seconds t).toConsensusU32 = t.n := rfl

/-- typed requirements whose payloads are values of their types -/
def TypedValid (reqs : List TypedReq) : Prop :=
  ∀ r ∈ reqs, (∀ t, r.1 = some t → t.Valid) ∧ (∀ h, r.2 = some h → h.Valid)

theorem wellTyped_erase (reqs : List TypedReq) (hv : TypedValid reqs) : WellTyped (reqs.map TypedReq.erase) := by
  intro r hr
  obtain ⟨r', hr', rfl⟩ := List.mem_map.mp hr
  obtain ⟨h1, h2⟩ := hv r' hr'
  constructor
  · intro t ht
    obtain ⟨t', ht', rfl⟩ := Option.map_eq_some_iff.mp ht
    exact (h1 t' ht').1
  · intro h hh
    obtain ⟨h', hh', rfl⟩ := Option.map_eq_some_iff.mp hh
    exact h2 h' hh'

theorem zero_valid : LockTime.zero.Valid := by decide

/-- the value arms of the typed final `match`; the arm tells the unit -/
theorem lockFinalTyped_ok {fb : Option LockTime} {st : LockState × LockState} {l : LockTime}
    (h : lockFinalTyped fb st = .ok l) :
    l = fb.getD LockTime.zero ∨ (∃ x, st.2 = .minimum x ∧ l = .blocks ⟨x⟩) ∨ (∃ x, st.1 = .minimum x ∧ l = .seconds ⟨x⟩) := by
  obtain ⟨a, b⟩ := st
  cases a <;> cases b <;> cases h <;> simp [LockTime.ofHeight, LockTime.ofTime]

theorem locktimeTyped_valid (fb : Option LockTime) (reqs : List TypedReq) (hfb : ∀ l, fb = some l → l.Valid)
    (hv : TypedValid reqs) (l : LockTime) (h : locktimeTyped fb reqs = .ok l) : l.Valid := by
  rw [locktimeTyped, lockFold_eq, List.filterMap_map, List.filterMap_map] at h
  rcases lockFinalTyped_ok h with rfl | ⟨x, hx, rfl⟩ | ⟨x, hx, rfl⟩
  · cases fb with
    | none => exact zero_valid
    | some l => exact hfb l rfl
  · obtain ⟨r, hr, hrx⟩ := List.mem_filterMap.mp (mem_of_kind_eq_minimum hx)
    -- `TypedReq.erase` maps `(·.n)` over each component: `hrx` is `r.2.map (·.n) = some x`
    obtain ⟨t, ht, rfl⟩ := Option.map_eq_some_iff.mp hrx
    exact (hv r hr).2 t ht
  · obtain ⟨r, hr, hrx⟩ := List.mem_filterMap.mp (mem_of_kind_eq_minimum hx)
    obtain ⟨t, ht, rfl⟩ := Option.map_eq_some_iff.mp hrx
    exact (hv r hr).1 t ht

end EV.Proofs.LockTime
