/-
  Whitespace between the tokens of a JSON text is insignificant for the lexer of EV.Model.JsonText: a text rendered
  from a token list with arbitrary whitespace gaps lexes back to exactly that token list.
-/
import EV.Model.JsonText
namespace EV.JsonText
open EV

/-- the bytes a token is written with (a string between its quotes, a literal as it stands) -/
def tokText : Tok → Bytes
  | .lbrace => [0x7b] | .rbrace => [0x7d] | .lbrack => [0x5b] | .rbrack => [0x5d]
  | .colon => [0x3a] | .comma => [0x2c]
  | .str raw => 0x22 :: (raw ++ [0x22])
  | .lit t => t

/-- scanning a raw string body never meets an unescaped quote and does not end inside an escape -/
def rawOk : Bool → Bytes → Bool
  | esc, [] => !esc
  | true, _ :: t => rawOk false t
  | false, b :: t => if b = 0x5c then rawOk true t else if b = 0x22 then false else rawOk false t

/-- the token is one the lexer can produce -/
def TokOk : Tok → Prop
  | .str raw => rawOk false raw = true
  | .lit t => t ≠ [] ∧ ∀ b ∈ t, isLitByte b = true
  | _ => True

def isLitTok : Tok → Bool | .lit _ => true | _ => false

def allWs (g : Bytes) : Prop := ∀ b ∈ g, isWs b = true

/-- `g₁ t₁ g₂ t₂ … gₙ tₙ trail` -/
def render : List (Bytes × Tok) → Bytes → Bytes
  | [], trail => trail
  | (g, t) :: rest, trail => g ++ (tokText t ++ render rest trail)

/-- the text ends a run of literal bytes -/
def StartsDelim (bs : Bytes) : Prop := bs = [] ∨ ∃ b t, bs = b :: t ∧ isLitByte b = false

theorem lexGo_idle_cons (b : UInt8) (t : Bytes) :
    lexGo .idle (b :: t) =
      if isWs b then lexGo .idle t
      else match punct b with
        | some p => consTok p (lexGo .idle t)
        | none => if b = 0x22 then lexGo (.inStr [] false) t else lexGo (.inLit [b]) t := rfl

theorem lexGo_inLit_cons (acc : Bytes) (b : UInt8) (t : Bytes) :
    lexGo (.inLit acc) (b :: t) =
      if isWs b then consTok (.lit acc) (lexGo .idle t)
      else match punct b with
        | some p => consTok (.lit acc) (consTok p (lexGo .idle t))
        | none => if b = 0x22 then consTok (.lit acc) (lexGo (.inStr [] false) t) else lexGo (.inLit (acc ++ [b])) t := rfl

theorem lexGo_inStr_cons (acc : Bytes) (b : UInt8) (t : Bytes) :
    lexGo (.inStr acc false) (b :: t) =
      if b = 0x5c then lexGo (.inStr (acc ++ [b]) true) t
      else if b = 0x22 then consTok (.str acc) (lexGo .idle t)
      else lexGo (.inStr (acc ++ [b]) false) t := rfl

theorem lexGo_inStr_esc (acc : Bytes) (b : UInt8) (t : Bytes) :
    lexGo (.inStr acc true) (b :: t) = lexGo (.inStr (acc ++ [b]) false) t := rfl

theorem lex_ws (g rest : Bytes) (h : allWs g) : lexGo .idle (g ++ rest) = lexGo .idle rest := by
  induction g with
  | nil => rfl
  | cons b t ih =>
    obtain ⟨hb, ht⟩ := List.forall_mem_cons.mp h
    rw [List.cons_append, lexGo_idle_cons, hb, if_pos rfl, ih ht]

theorem punct_ws {b : UInt8} (h : isWs b = true) : punct b = none := by
  simp only [isWs, Bool.or_eq_true, beq_iff_eq] at h
  rcases h with ((rfl | rfl) | rfl) | rfl <;> rfl

theorem lexGo_idle_punct (b : UInt8) (p : Tok) (rest : Bytes) (hp : punct b = some p) :
    lexGo .idle (b :: rest) = consTok p (lexGo .idle rest) := by
  have hw : ¬ isWs b = true := fun h => by
    rw [punct_ws h] at hp
    cases hp
  rw [lexGo_idle_cons, if_neg hw, hp]

theorem lexGo_idle_lit (c : UInt8) (t : Bytes) (h : isLitByte c = true) : lexGo .idle (c :: t) = lexGo (.inLit [c]) t := by
  obtain ⟨hw, hp, hq⟩ : isWs c = false ∧ punct c = none ∧ c ≠ 0x22 := by simpa [isLitByte, and_assoc] using h
  simp only [lexGo_idle_cons, hw, Bool.false_eq_true, if_false, hp, hq]

theorem lexGo_inLit_step (acc : Bytes) (b : UInt8) (t : Bytes) :
    lexGo (.inLit acc) (b :: t) =
      if isLitByte b then lexGo (.inLit (acc ++ [b])) t else consTok (.lit acc) (lexGo .idle (b :: t)) := by
  rw [lexGo_inLit_cons, lexGo_idle_cons, isLitByte]
  cases isWs b
  · cases punct b
    · by_cases hq : b = 0x22 <;> simp [hq]
    · simp
  · simp

theorem lex_lit (text : Bytes) : ∀ (acc rest : Bytes), (∀ b ∈ text, isLitByte b = true) → StartsDelim rest →
    lexGo (.inLit acc) (text ++ rest) = consTok (.lit (acc ++ text)) (lexGo .idle rest) := by
  induction text with
  | nil =>
    intro acc rest _ hd
    rw [List.nil_append, List.append_nil]
    rcases hd with rfl | ⟨b, t, rfl, hb⟩
    · rfl
    · rw [lexGo_inLit_step, hb, if_neg Bool.false_ne_true]
  | cons c text ih =>
    intro acc rest hl hd
    rw [List.cons_append, lexGo_inLit_step, hl c List.mem_cons_self, if_pos rfl,
      ih (acc ++ [c]) rest (fun x hx => hl x (List.mem_cons_of_mem _ hx)) hd, List.append_assoc]
    rfl

/-- `esc`: the previous byte was an unescaped backslash -/
theorem lex_str (esc : Bool) (raw acc rest : Bytes) (h : rawOk esc raw = true) :
    lexGo (.inStr acc esc) (raw ++ 0x22 :: rest) = consTok (.str (acc ++ raw)) (lexGo .idle rest) := by
  fun_induction rawOk esc raw generalizing acc with
  | case1 esc =>
    obtain rfl : esc = false := by simpa using h
    rw [List.nil_append, lexGo_inStr_cons, if_neg (by decide), if_pos rfl, List.append_nil]
  | case2 b t ih =>
    rw [List.cons_append, lexGo_inStr_esc, ih _ h, List.append_assoc]
    rfl
  | case3 t ih =>
    rw [List.cons_append, lexGo_inStr_cons, if_pos rfl, ih _ h, List.append_assoc]
    rfl
  | case4 t => cases h
  | case5 b t hb hq ih =>
    rw [List.cons_append, lexGo_inStr_cons, if_neg hb, if_neg hq, ih _ h, List.append_assoc]
    rfl

theorem lex_tok (t : Tok) (rest : Bytes) (ht : TokOk t) (hd : isLitTok t = true → StartsDelim rest) :
    lexGo .idle (tokText t ++ rest) = consTok t (lexGo .idle rest) := by
  cases t with
  | lbrace | rbrace | lbrack | rbrack | colon | comma => exact lexGo_idle_punct _ _ _ (by decide)
  | str raw =>
    rw [tokText, List.cons_append, List.append_assoc]
    -- the opening quote is consumed by computation: `lexGo .idle (0x22 :: s)` is `lexGo (.inStr [] false) s`
    exact lex_str false raw [] rest ht
  | lit text =>
    obtain ⟨hne, hl⟩ := ht
    cases text with
    | nil => exact absurd rfl hne
    | cons c text =>
      rw [tokText, List.cons_append, lexGo_idle_lit c _ (hl c List.mem_cons_self),
        lex_lit text [c] rest (fun x hx => hl x (List.mem_cons_of_mem _ hx)) (hd rfl)]
      rfl

theorem startsDelim_ws {b : UInt8} (rest : Bytes) (hb : isWs b = true) : StartsDelim (b :: rest) :=
  Or.inr ⟨b, rest, rfl, by simp [isLitByte, hb]⟩

theorem startsDelim_tokText (t : Tok) (rest : Bytes) (h : isLitTok t = false) : StartsDelim (tokText t ++ rest) := by
  cases t with
  | lit _ => cases h
  | str raw => exact Or.inr ⟨0x22, _, rfl, by decide⟩
  | lbrace | rbrace | lbrack | rbrack | colon | comma => exact Or.inr ⟨_, _, rfl, by decide⟩

theorem startsDelim_trail (trail : Bytes) (h : allWs trail) : StartsDelim trail := by
  cases trail with
  | nil => exact Or.inl rfl
  | cons b t => exact startsDelim_ws t (h b List.mem_cons_self)

/-- two literals are never adjacent without whitespace between them (in a JSON document they are never adjacent at all) -/
def GapsOk : List (Bytes × Tok) → Prop
  | [] => True
  | [(g, t)] => allWs g ∧ TokOk t
  | (g, t) :: (g', t') :: rest =>
    allWs g ∧ TokOk t ∧ (isLitTok t = true → isLitTok t' = true → g' ≠ []) ∧ GapsOk ((g', t') :: rest)

theorem GapsOk.head {g : Bytes} {t : Tok} : ∀ {rest : List (Bytes × Tok)}, GapsOk ((g, t) :: rest) → allWs g ∧ TokOk t
  | [], h => h
  | _ :: _, h => ⟨h.1, h.2.1⟩

theorem GapsOk.sep {g g' : Bytes} {t t' : Tok} {rest : List (Bytes × Tok)} (h : GapsOk ((g, t) :: (g', t') :: rest)) :
    isLitTok t = true → isLitTok t' = true → g' ≠ [] := h.2.2.1

theorem GapsOk.tail {p : Bytes × Tok} : ∀ {rest : List (Bytes × Tok)}, GapsOk (p :: rest) → GapsOk rest
  | [], _ => trivial
  | _ :: _, h => h.2.2.2

/-- what follows a literal ends its run: the next gap, else the next token, which is no literal, else the trail -/
theorem startsDelim_render {g : Bytes} {t : Tok} {trail : Bytes} (ht : allWs trail) :
    ∀ {rest : List (Bytes × Tok)}, GapsOk ((g, t) :: rest) → isLitTok t = true → StartsDelim (render rest trail)
  | [], _, _ => startsDelim_trail trail ht
  | ([], t') :: _, h, hl => startsDelim_tokText t' _ (Bool.eq_false_iff.2 fun h' => h.sep hl h' rfl)
  | (b :: _, _) :: _, h, _ => startsDelim_ws _ (h.tail.head.1 b List.mem_cons_self)

theorem lex_render {trail : Bytes} (ht : allWs trail) : ∀ l : List (Bytes × Tok), GapsOk l →
    lex (render l trail) = some (l.map Prod.snd)
  | [], _ => by
    rw [lex, render, ← List.append_nil trail, lex_ws trail [] ht]
    rfl
  | (g, t) :: rest, h => by
    have ih := lex_render ht rest h.tail
    simp only [lex] at ih ⊢
    simp only [render, lex_ws g _ h.head.1, lex_tok t _ h.head.2 (startsDelim_render ht h), ih, consTok,
      Option.map_some, List.map_cons]

end EV.JsonText
