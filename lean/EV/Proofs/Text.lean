/-
  EV.Proofs.Text — `FromStr` after `Display` for the textual forms of C20 (EV.Model.Text): hex; integers in any radix, by
  induction along the printed digits (`showBase_rec`); hash newtypes, blinding factors, `OutPoint`; the Schnorr sighash
  names (a finite table, evaluated) and `PsbtSighashType`; base64 on one group of four symbols (`b64Dec_group`).
-/
import EV.Model.Text
import EV.Proofs.OrdMap
namespace EV.Text
open EV

theorem nib_digit (n : Nat) (h : n < 16) : Hex.nib (Hex.digit n) = some n :=
  (by decide : ∀ n : Fin 16, Hex.nib (Hex.digit n.val) = some n.val) ⟨n, h⟩

theorem digit_ne {n : Nat} {c : Char} (hn : n < 16) (hc : Hex.nib c = none) : Hex.digit n ≠ c := by
  rintro rfl
  rw [nib_digit n hn] at hc
  cases hc

theorem digit_ne_zero {n : Nat} (hn : n < 16) (h0 : n ≠ 0) : Hex.digit n ≠ '0' :=
  fun e => h0 (Option.some.inj ((nib_digit n hn).symm.trans (congrArg Hex.nib e)))

/-- `d`: the lower-case or the upper-case alphabet -/
theorem decodeChars_digits (d : Nat → Char) (hd : ∀ n : Fin 16, Hex.nib (d n.val) = some n.val) (bs : Bytes) :
    Hex.decodeChars (bs.flatMap fun b => [d (b.toNat / 16), d (b.toNat % 16)]) = some bs := by
  induction bs with
  | nil => rfl
  | cons b rest ih =>
    have := b.toNat_lt
    rw [List.flatMap_cons, List.cons_append, List.cons_append, List.nil_append, Hex.decodeChars,
      hd ⟨b.toNat / 16, by omega⟩, hd ⟨b.toNat % 16, Nat.mod_lt _ (by decide)⟩, ih]
    simp only [Nat.div_add_mod', UInt8.ofNat_toNat]

theorem decodeChars_hexStr (bs : Bytes) : Hex.decodeChars (hexStr bs) = some bs :=
  decodeChars_digits Hex.digit (fun n => nib_digit n.val n.isLt) bs

theorem hexStr_injective {a b : Bytes} (h : hexStr a = hexStr b) : a = b :=
  Option.some.inj ((decodeChars_hexStr a).symm.trans ((congrArg Hex.decodeChars h).trans (decodeChars_hexStr b)))

theorem decodeChars_length (cs : Str) (b : Bytes) (h : Hex.decodeChars cs = some b) : cs.length = 2 * b.length := by
  fun_induction Hex.decodeChars cs generalizing b with
  | case1 => cases h; rfl
  | case2 => cases h
  | case3 x y rest _ _ r hr _ _ ih =>
    cases h
    rw [List.length_cons, List.length_cons, List.length_cons, ih r hr, Nat.mul_succ]
  | case4 => cases h

theorem hexStr_length (bs : Bytes) : (hexStr bs).length = 2 * bs.length :=
  decodeChars_length _ bs (decodeChars_hexStr bs)

theorem mem_hexStr {bs : Bytes} {c : Char} (h : c ∈ hexStr bs) : ∃ m, m < 16 ∧ c = Hex.digit m := by
  simp only [hexStr, List.mem_flatMap, Hex.ofByte, List.mem_cons, List.not_mem_nil, or_false] at h
  obtain ⟨b, _, rfl | rfl⟩ := h
  · exact ⟨b.toNat / 16, by have := b.toNat_lt; omega, rfl⟩
  · exact ⟨b.toNat % 16, Nat.mod_lt _ (by decide), rfl⟩

theorem not_mem_hexStr {c : Char} (hc : Hex.nib c = none) (bs : Bytes) : c ∉ hexStr bs := by
  intro h
  obtain ⟨m, hm, rfl⟩ := mem_hexStr h
  exact digit_ne hm hc rfl

theorem unhex_hexStr (bs : Bytes) : unhex (hexStr bs) = .ok bs := by
  simp [unhex, decodeChars_hexStr]

theorem unhexN_hexStr (n : Nat) (bs : Bytes) (h : bs.length = n) : unhexN n (hexStr bs) = .ok bs := by
  simp [unhexN, hexStr_length, h, unhex_hexStr]

theorem showBase_eq (b n : Nat) : showBase b n = (digitsRev b (n + 1) n).reverse := rfl

/-- Induction along the printed digits of `n`: one digit below the base, else the digits of `n / b` followed by the last
    one. The fuel of `digitsRev` plays no role once it exceeds `n`. -/
theorem showBase_rec {b : Nat} (hb : 2 ≤ b) {P : Nat → Str → Prop}
    (small : ∀ n, n < b → P n [Hex.digit n])
    (step : ∀ n s, b ≤ n → P (n / b) s → P n (s ++ [Hex.digit (n % b)])) (n : Nat) : P n (showBase b n) := by
  rw [showBase_eq]
  suffices ∀ f n, n < f → P n (digitsRev b f n).reverse from this (n + 1) n (Nat.lt_succ_self n)
  intro f
  induction f with
  | zero => intro n h; omega
  | succ f ih =>
    intro n hf
    rw [digitsRev, List.reverse_cons]
    by_cases hn : n < b
    · rw [if_pos (Nat.div_eq_of_lt hn), Nat.mod_eq_of_lt hn]
      exact small n hn
    · have hpos : 0 < n / b := Nat.div_pos (by omega) (by omega)
      have hlt : n / b < n := Nat.div_lt_self (by omega) (by omega)
      rw [if_neg (by omega)]
      exact step n _ (by omega) (ih _ (by omega))

theorem digitsRev_ne_nil (b f n : Nat) : digitsRev b (f+1) n ≠ [] := by simp [digitsRev]

theorem showBase_ne_nil (b n : Nat) : showBase b n ≠ [] := by
  rw [showBase_eq, Ne, List.reverse_eq_nil_iff]
  exact digitsRev_ne_nil b n n

theorem mem_showBase {b : Nat} (hb : 2 ≤ b) {n : Nat} {c : Char} (h : c ∈ showBase b n) : ∃ m, m < b ∧ c = Hex.digit m := by
  refine showBase_rec hb (P := fun _ s => ∀ c ∈ s, ∃ m, m < b ∧ c = Hex.digit m) ?_ ?_ n c h
  · intro n hn c hc
    exact ⟨n, hn, by simpa using hc⟩
  · intro n s _ ih c hc
    rcases List.mem_append.mp hc with hc | hc
    · exact ih c hc
    · exact ⟨n % b, Nat.mod_lt _ (by omega), by simpa using hc⟩

theorem not_mem_showBase {b : Nat} (hb2 : 2 ≤ b) (hb : b ≤ 16) {c : Char} (hc : Hex.nib c = none) (n : Nat) :
    c ∉ showBase b n := by
  intro h
  obtain ⟨m, hm, rfl⟩ := mem_showBase hb2 h
  exact digit_ne (by omega) hc rfl

theorem head_showBase (b : Nat) (hb : 2 ≤ b) (n : Nat) (hpos : 0 < n) :
    ∃ m, 0 < m ∧ m < b ∧ (showBase b n).head? = some (Hex.digit m) := by
  refine showBase_rec hb (P := fun n s => 0 < n → ∃ m, 0 < m ∧ m < b ∧ s.head? = some (Hex.digit m)) ?_ ?_ n hpos
  · intro n hn h0
    exact ⟨n, h0, hn, rfl⟩
  · intro n s hbn ih _
    obtain ⟨m, h0, hm, hs⟩ := ih (Nat.div_pos hbn (by omega))
    refine ⟨m, h0, hm, ?_⟩
    rw [List.head?_append, hs]
    rfl

theorem length_showBase (b : Nat) (hb : 2 ≤ b) (n k : Nat) (hk : 0 < k) (hn : n < b ^ k) :
    (showBase b n).length ≤ k := by
  refine showBase_rec hb (P := fun n s => ∀ k, 0 < k → n < b ^ k → s.length ≤ k) ?_ ?_ n k hk hn
  · intro n _ k hk _
    exact hk
  · intro n s hbn ih k _ hn
    match k with
    | 1 => rw [Nat.pow_one] at hn; omega
    | k+2 =>
      have := ih (k+1) (by omega) (Nat.div_lt_of_lt_mul (by rwa [Nat.pow_succ, Nat.mul_comm] at hn))
      simpa using this

theorem digitVal_digit (b n : Nat) (hb : b ≤ 16) (h : n < b) : digitVal b (Hex.digit n) = some n := by
  simp [digitVal, nib_digit n (by omega), h]

theorem parseDigits_append (b B : Nat) : ∀ (xs ys : Str) (acc : Nat),
    parseDigits b B acc (xs ++ ys) = (parseDigits b B acc xs).bind fun a => parseDigits b B a ys := by
  intro xs
  induction xs with
  | nil => intro ys acc; rfl
  | cons c cs ih =>
    intro ys acc
    simp only [List.cons_append, parseDigits]
    cases digitVal b c with
    | none => rfl
    | some d =>
      simp only
      split
      · rfl
      · split
        · rfl
        · exact ih ys _

/-- one more digit, when neither `checked_mul` nor `checked_add` overflows -/
theorem parseDigits_digit (b B acc d : Nat) (hb : b ≤ 16) (hd : d < b) (h : acc * b + d < B) :
    parseDigits b B acc [Hex.digit d] = .ok (acc * b + d) := by
  simp only [parseDigits, digitVal_digit b d hb hd]
  rw [if_neg (by omega), if_neg (by omega)]

theorem parseDigits_showBase (b B n : Nat) (hb2 : 2 ≤ b) (hb : b ≤ 16) (hn : n < B) :
    parseDigits b B 0 (showBase b n) = .ok n := by
  refine showBase_rec hb2 (P := fun n s => n < B → parseDigits b B 0 s = .ok n) ?_ ?_ n hn
  · intro n hnb hnB
    simpa using parseDigits_digit b B 0 n hb hnb (by omega)
  · intro n s hbn ih hnB
    have hdm : n / b * b + n % b = n := by rw [Nat.mul_comm]; exact Nat.div_add_mod n b
    have hq : n / b < B := Nat.lt_of_le_of_lt (Nat.div_le_self n b) hnB
    rw [parseDigits_append, ih hq]
    simpa [Res.bind, hdm] using parseDigits_digit b B (n / b) (n % b) hb (Nat.mod_lt _ (by omega)) (by omega)

theorem parseUInt_of_head (b B : Nat) (cs : Str) (hne : cs ≠ [])
    (hc : ∀ c, cs.head? = some c → c ≠ '+' ∧ c ≠ '-') : parseUInt b B cs = parseDigits b B 0 cs := by
  match cs, hne, hc with
  | [c], _, hc =>
    have := hc c rfl
    simp [parseUInt, this.1, this.2]
  | c :: d :: rest, _, hc =>
    have := hc c rfl
    simp [parseUInt, this.1]

/-- `from_str_radix` after printing in base `b` -/
theorem parseUInt_showBase (b B n : Nat) (hb2 : 2 ≤ b) (hb : b ≤ 16) (hn : n < B) :
    parseUInt b B (showBase b n) = .ok n := by
  rw [parseUInt_of_head b B _ (showBase_ne_nil b n)]
  · exact parseDigits_showBase b B n hb2 hb hn
  · intro c hc
    have hm := List.mem_of_mem_head? hc
    exact ⟨fun e => not_mem_showBase hb2 hb (c := '+') rfl n (e ▸ hm),
      fun e => not_mem_showBase hb2 hb (c := '-') rfl n (e ▸ hm)⟩

theorem parseU32_showNat (n : Nat) (h : n < 2^32) : parseU32 (showNat n) = .ok n :=
  parseUInt_showBase 10 (2^32) n (by decide) (by decide) h

theorem hashParse_ok_iff (k : HashKind) (s : Str) (a : Bytes) :
    hashParse k s = .ok a ↔ s.length = 2 * k.len ∧ Hex.decodeChars s = some (if k.rev then a.reverse else a) := by
  simp only [hashParse, unhexN, unhex]
  by_cases hl : s.length = 2 * k.len
  · cases hd : Hex.decodeChars s with
    | none => simp [hl]
    | some b =>
      cases k.rev
      · simp [hl]
      · simp [hl, List.reverse_eq_iff]
  · simp [hl]

theorem hashParse_hashShow (k : HashKind) (b : Bytes) (h : b.length = k.len) :
    hashParse k (hashShow k b) = .ok b :=
  (hashParse_ok_iff k _ b).2 ⟨by simp [hashShow, hexStr_length, apply_ite List.length, h], decodeChars_hexStr _⟩

theorem bfParse_bfShow (tw : Bytes → Bool) (b : Bytes) (h : b.length = 32) (ht : tw b = true) :
    bfParse tw (bfShow b) = .ok b := by
  simp [bfParse, bfShow, unhexN_hexStr 32 b.reverse (by simp [h]), ht]

theorem splitColon_append (a r : Str) (ha : ':' ∉ a) : splitColon (a ++ ':' :: r) = some (a, r) := by
  induction a with
  | nil => simp [splitColon]
  | cons c cs ih =>
    rw [List.mem_cons, not_or] at ha
    simp [splitColon, Ne.symm ha.1, ih ha.2]

theorem outPointPrefix_eq : Gen.outPointDisplayPrefix = Gen.outPointParsePrefix := rfl

theorem outPointPrefix_length : Gen.outPointParsePrefix.toList.length = Gen.outPointParseCut := by decide

theorem voutParse_showNat (n : Nat) (h : n < 2^32) : voutParse (showNat n) = .ok n := by
  unfold voutParse
  rw [if_neg, parseU32_showNat n h]
  rintro ⟨hl, hh⟩
  rcases Nat.eq_zero_or_pos n with rfl | hpos
  · exact absurd hl (by decide)
  · obtain ⟨m, hm0, hmb, hhd⟩ := head_showBase 10 (by decide) n hpos
    rw [showNat, hhd] at hh
    rcases hh with hh | hh
    · exact digit_ne_zero (by omega) (by omega) (Option.some.inj hh)
    · exact digit_ne (by omega) rfl (Option.some.inj hh)

theorem btcOutPointParse_show (o : OutPoint) (ht : o.txid.length = 32) (hv : o.vout < 2^32) :
    btcOutPointParse (hashShow kTxid o.txid ++ ':' :: showNat o.vout) = .ok o := by
  have hhexlen : (hashShow kTxid o.txid).length = 64 := by
    simp [hashShow, kTxid, hexStr_length, ht]
  have hcont : (showNat o.vout).contains ':' = false := by
    rw [Bool.eq_false_iff, Ne, List.contains_iff_mem]
    exact not_mem_showBase (by decide) (by decide) rfl _
  -- the parser's bound is met exactly: 64 hex digits, the colon and the at most 10 decimal digits of a `u32` make 75
  have hlen : ¬ (hashShow kTxid o.txid ++ ':' :: showNat o.vout).length > 75 := by
    have hlen10 : (showNat o.vout).length ≤ 10 :=
      length_showBase 10 (by decide) o.vout 10 (by decide) (Nat.lt_trans hv (by decide))
    simp only [List.length_append, List.length_cons, hhexlen]
    omega
  have hne1 : hashShow kTxid o.txid ≠ [] := by
    intro h; rw [h] at hhexlen; simp at hhexlen
  have hne2 : showNat o.vout ≠ [] := showBase_ne_nil 10 _
  unfold btcOutPointParse
  rw [if_neg hlen, splitColon_append (hashShow kTxid o.txid) _ (not_mem_hexStr rfl _)]
  simp only [hcont, Bool.false_eq_true, if_false, hne1, hne2, or_self]
  rw [hashParse_hashShow kTxid o.txid (by simp [kTxid, ht]), voutParse_showNat _ hv]

/-- behind the prefix that `Display` writes, `FromStr` is `bitcoin::OutPoint::from_str` on the rest -/
theorem outPointParse_prefixed (s : Str) :
    outPointParse (Gen.outPointDisplayPrefix.toList ++ s) = btcOutPointParse s := by
  have hlen : ¬ ((Gen.outPointParsePrefix.toList ++ s).length < Gen.outPointParseCut) := by
    rw [← outPointPrefix_length, List.length_append]
    omega
  simp only [outPointParse, outPointPrefix_eq, List.prefix_append, List.isPrefixOf_iff_prefix.mpr, hlen, and_false,
    if_false, if_true]
  rw [← outPointPrefix_length, List.drop_left]

/-- `[elements]txid:vout`; the bare `txid:vout` is `btcOutPointParse_show` -/
theorem outPointParse_outPointShow (o : OutPoint) (ht : o.txid.length = 32) (hv : o.vout < 2^32) :
    outPointParse (outPointShow o) = .ok o := by
  rw [outPointShow, List.append_assoc, outPointParse_prefixed]
  exact btcOutPointParse_show o ht hv

/-- every `Display` string of a Schnorr sighash type is an arm of `FromStr` naming the same variant -/
theorem schnorrParse_schnorrShow (v : Nat) (s : String) (h : schnorrShow v = some s) : schnorrParse s = .ok v :=
  (by decide +kernel : ∀ p ∈ Gen.schnorrSighashDisplay, schnorrParse p.2 = .ok p.1) (v, s) (OrdMap.mem_of_lookup h)

theorem schnorrParse_zero_head (cs : Str) : ∃ e, schnorrParse (String.ofList ('0' :: cs)) = .err e := by
  -- `front?` decodes one character; `toList.head?` would have the kernel decode every name in full
  have hS : ∀ p ∈ Gen.schnorrSighashParse, p.1.front? = some 'S' := by decide +kernel
  unfold schnorrParse
  cases h : Gen.schnorrSighashParse.lookup (String.ofList ('0' :: cs)) with
  | none => exact ⟨_, rfl⟩
  | some v =>
    have := hS _ (OrdMap.mem_of_lookup h)
    simp [String.front?_eq] at this

theorem trim0x_of_not_mem {s : Str} (h : 'x' ∉ s) : trim0x s = s := by
  unfold trim0x
  split
  · exact absurd (by simp) h
  · rfl

theorem psbtParse_hex (n : Nat) (h : n < 2^32) :
    psbtParse (String.ofList ('0' :: 'x' :: showBase 16 n)) = .ok n := by
  unfold psbtParse
  obtain ⟨e, he⟩ := schnorrParse_zero_head ('x' :: showBase 16 n)
  rw [he]
  simp only [String.toList_ofList, trim0x]
  rw [trim0x_of_not_mem (not_mem_showBase (by decide) (by decide) rfl n),
    parseUInt_showBase 16 (2^32) n (by decide) (by decide) h]

theorem psbtParse_psbtShow (n : Nat) (h : n < 2^32) : psbtParse (psbtShow n) = .ok n := by
  -- the bytes `from_u8` names are the discriminants of the variants it returns, each of which has a `Display` arm
  have fromU8 : ∀ p ∈ Gen.schnorrSighashFromU8, p.1 = p.2 ∧ (schnorrShow p.2).isSome = true := by decide +kernel
  unfold psbtShow
  cases hty : psbtSchnorrTy n with
  | none => exact psbtParse_hex n h
  | some d =>
    simp only
    by_cases hr : d = Gen.schnorrSighashReserved
    · simp only [hr, if_true]; exact psbtParse_hex n h
    · simp only [hr, if_false]
      have hmem : (n, d) ∈ Gen.schnorrSighashFromU8 := by
        unfold psbtSchnorrTy at hty
        split at hty
        · cases hty
        · exact OrdMap.mem_of_lookup hty
      obtain ⟨hnd, hsome⟩ := fromU8 _ hmem
      simp only at hnd hsome
      cases hs : schnorrShow d with
      | none => rw [hs] at hsome; cases hsome
      | some s =>
        simp only
        unfold psbtParse
        rw [schnorrParse_schnorrShow d s hs]
        simp [hr, hnd]

theorem b64Val_b64Char (n : Nat) (h : n < 64) : b64Val (b64Char n) = some n :=
  (by decide +kernel : ∀ n : Fin 64, b64Val (b64Char n.val) = some n.val) ⟨n, h⟩

theorem b64Char_ne_pad (n : Nat) (h : n < 64) : b64Char n ≠ '=' :=
  fun e => nomatch (b64Val_b64Char n h).symm.trans (congrArg b64Val e)

/-- a two-digit number in mixed radix: `x < n` the more significant digit, `y < m` the less -/
theorem digit2 {n m x y : Nat} (hx : x < n) (hy : y < m) :
    x * m + y < n * m ∧ (x * m + y) / m = x ∧ (x * m + y) % m = y := by
  have hm : 0 < m := by omega
  refine ⟨?_, ?_, ?_⟩
  · calc x * m + y < (x + 1) * m := by rw [Nat.succ_mul]; omega
      _ ≤ n * m := Nat.mul_le_mul_right m hx
  · rw [Nat.add_comm, Nat.add_mul_div_right _ _ hm, Nat.div_eq_of_lt hy, Nat.zero_add]
  · rw [Nat.add_comm, Nat.add_mul_mod_self_right, Nat.mod_eq_of_lt hy]

/-- the four sextets of the bytes `a b c` are symbol values (`lt0` … `lt3`), and regrouped the way the decoder does
    they give the bytes back (`byte0` … `byte2`) -/
structure Sextets (a b c : Nat) : Prop where
  lt0 : a / 4 < 64
  lt1 : a % 4 * 16 + b / 16 < 64
  lt2 : b % 16 * 4 + c / 64 < 64
  lt3 : c % 64 < 64
  byte0 : a / 4 * 4 + (a % 4 * 16 + b / 16) / 16 = a
  byte1 : (a % 4 * 16 + b / 16) % 16 * 16 + (b % 16 * 4 + c / 64) / 4 = b
  byte2 : (b % 16 * 4 + c / 64) % 4 * 64 + c % 64 = c

/-- the middle two sextets are the two-digit numbers `(a % 4, b / 16)` and `(b % 16, c / 64)` -/
theorem sextets (a b c : Nat) (ha : a < 256) (hb : b < 256) (hc : c < 256) : Sextets a b c := by
  obtain ⟨s1, d1, m1⟩ := digit2 (Nat.mod_lt a (by decide : 0 < 4)) (Nat.div_lt_of_lt_mul (m := b) (n := 16) (k := 16) hb)
  obtain ⟨s2, d2, m2⟩ := digit2 (Nat.mod_lt b (by decide : 0 < 16)) (Nat.div_lt_of_lt_mul (m := c) (n := 64) (k := 4) hc)
  refine ⟨Nat.div_lt_of_lt_mul ha, s1, s2, Nat.mod_lt c (by decide), ?_, ?_, ?_⟩
  · rw [d1]
    exact Nat.div_add_mod' a 4
  · rw [m1, d2]
    exact Nat.div_add_mod' b 16
  · rw [m2]
    exact Nat.div_add_mod' c 64

theorem b64Dec_group (v0 v1 v2 v3 : Nat) (h0 : v0 < 64) (h1 : v1 < 64) (h2 : v2 < 64) (h3 : v3 < 64) (rest : Str) :
    b64Dec (b64Char v0 :: b64Char v1 :: b64Char v2 :: b64Char v3 :: rest) =
      (b64Dec rest).map fun r =>
        UInt8.ofNat (v0 * 4 + v1 / 16) :: UInt8.ofNat (v1 % 16 * 16 + v2 / 4) :: UInt8.ofNat (v2 % 4 * 64 + v3) :: r := by
  rw [b64Dec]
  simp only [b64Char_ne_pad _ h3, and_false, if_false, b64Val_b64Char, h0, h1, h2, h3]
  cases b64Dec rest <;> rfl

theorem b64Dec_pad1 (v0 v1 v2 : Nat) (h0 : v0 < 64) (h1 : v1 < 64) (h2 : v2 < 64) (hz : v2 % 4 = 0) :
    b64Dec [b64Char v0, b64Char v1, b64Char v2, '='] =
      .ok [UInt8.ofNat (v0 * 4 + v1 / 16), UInt8.ofNat (v1 % 16 * 16 + v2 / 4)] := by
  rw [b64Dec]
  simp only [b64Char_ne_pad _ h2, and_self, if_true, if_false, b64Val_b64Char, h0, h1, h2, hz]

theorem b64Dec_pad2 (v0 v1 : Nat) (h0 : v0 < 64) (h1 : v1 < 64) (hz : v1 % 16 = 0) :
    b64Dec [b64Char v0, b64Char v1, '=', '='] = .ok [UInt8.ofNat (v0 * 4 + v1 / 16)] := by
  rw [b64Dec]
  simp only [and_self, if_true, b64Val_b64Char, h0, h1, hz]

theorem psetParse_eq_bind {α} (de : Bytes → Res α) (cs : Str) : psetParse de cs = (b64Dec cs).bind de := by
  unfold psetParse
  cases b64Dec cs <;> rfl

end EV.Text
