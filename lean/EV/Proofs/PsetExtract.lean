/-
  EV.Proofs.PsetExtract — what `extract_tx` computes: each field of the extracted transaction is the
  stated function of the PSET fields; when and how extraction fails; it never panics.
  The nested matches of the model are read as `Res.bind` chains and the output loop as `seq`
  (all results in order, or the first failure).
-/
import EV.Model.Pset
import EV.Proofs.PsetLocktime
import EV.Proofs.Res
namespace EV.Proofs.PsetExtract
open EV EV.Proofs.PsetLocktime

/-- the `TxOut` that `extract_tx` builds from the fields of an output; its asset (value) is `.null` when the output has
    neither form of it, which is what `checkOut` then tests.  The statements of `Props.C12` name it by this namespace. -/
def _root_.EV.Proofs.BridgePsetSize.outOf (o : PsetOutput) : TxOut :=
  { asset := PsetOutput.pairAsset o.asset o.assetComm
    value := PsetInput.pairValue o.amount o.amountComm
    nonce := PsetOutput.nonceOf o.ecdhPubkey
    scriptPubkey := o.scriptPubkey
    witness := ⟨o.assetSurjectionProof, o.valueRangeproof⟩ }

open EV.Proofs.BridgePsetSize (outOf)

/-- the presence checks of `extract_tx` on an output: a missing asset is reported first, as `MissingOutputValue`,
    a missing value as `MissingOutputAsset` -/
def checkOut (t : TxOut) : Res TxOut :=
  if t.asset = .null then .err "MissingOutputValue"
  else if t.value = .null then .err "MissingOutputAsset"
  else .ok t

theorem extract_eq (o : PsetOutput) : o.extract = checkOut (outOf o) := by
  unfold PsetOutput.extract outOf checkOut
  cases o.assetComm <;> cases o.asset <;> cases o.amountComm <;> cases o.amount <;> rfl

theorem checkOut_eq_ok {t t' : TxOut} : checkOut t = .ok t' ↔ t.asset ≠ .null ∧ t.value ≠ .null ∧ t = t' := by
  rw [checkOut, Res.guard_eq_ok, Res.guard_eq_ok, Res.ok.injEq]

theorem checkOut_eq_err (t : TxOut) :
    (checkOut t = .err "MissingOutputValue" ↔ t.asset = .null) ∧
    (checkOut t = .err "MissingOutputAsset" ↔ t.asset ≠ .null ∧ t.value = .null) := by
  have hne : ∀ {α}, (Res.err "MissingOutputValue" : Res α) ≠ .err "MissingOutputAsset" :=
    fun h => absurd (Res.err.inj h) (by simp)
  unfold checkOut
  by_cases ha : t.asset = .null
  · rw [if_pos ha]
    exact ⟨iff_of_true rfl ha, iff_of_false hne fun h => h.1 ha⟩
  · rw [if_neg ha]
    by_cases hv : t.value = .null
    · rw [if_pos hv]
      exact ⟨iff_of_false hne.symm ha, iff_of_true rfl ⟨ha, hv⟩⟩
    · rw [if_neg hv]
      exact ⟨iff_of_false nofun ha, iff_of_false nofun fun h => hv h.2⟩

theorem extract_ok_iff (o : PsetOutput) (t : TxOut) :
    o.extract = .ok t ↔ (outOf o).asset ≠ .null ∧ (outOf o).value ≠ .null ∧ t = outOf o := by
  rw [extract_eq, checkOut_eq_ok, @eq_comm _ t]

-- in the namespace of `EV.Proofs.PsetRoundTrip`, where its instance for `from_txout` is
theorem _root_.EV.Proofs.PsetRoundTrip.extract_no_panic (o : PsetOutput) (s : String) : o.extract ≠ .panic s := by
  rw [extract_eq]
  exact Res.guard_ne_panic (Res.guard_ne_panic nofun)

theorem pairAsset_eq_null_iff {a g : Option Bytes} : PsetOutput.pairAsset a g = .null ↔ g = none ∧ a = none := by
  cases g <;> cases a <;> simp [PsetOutput.pairAsset]

theorem pairValue_eq_null_iff {a : Option Nat} {c : Option Bytes} :
    PsetInput.pairValue a c = .null ↔ a = none ∧ c = none := by
  cases c <;> cases a <;> simp [PsetInput.pairValue]

theorem extractOutputs_eq : ∀ l : List PsetOutput, Pset.extractOutputs l = Res.seq (l.map PsetOutput.extract)
  | [] => rfl
  | o :: l => by
    rw [Pset.extractOutputs, extractOutputs_eq l, List.map_cons, Res.seq]
    cases o.extract <;> try rfl
    cases Res.seq (l.map PsetOutput.extract) <;> rfl

theorem extractOutputs_ok_iff (l : List PsetOutput) (ts : List TxOut) :
    Pset.extractOutputs l = .ok ts ↔ l.map PsetOutput.extract = ts.map Res.ok := by
  rw [extractOutputs_eq, Res.seq_eq_ok]

theorem extract_eq_outOf (o : PsetOutput) (t : TxOut) (h : o.extract = .ok t) : t = outOf o :=
  ((extract_ok_iff o t).mp h).2.2

theorem outputs_eq_map_outOf : ∀ (l : List PsetOutput) (ts : List TxOut),
    l.map PsetOutput.extract = ts.map Res.ok → ts = l.map outOf
  | [], [], _ => rfl
  | [], _ :: _, h => by cases h
  | _ :: _, [], h => by cases h
  | o :: l, t :: ts, h => by
    simp only [List.map_cons, List.cons.injEq] at h
    rw [List.map_cons, extract_eq_outOf o t h.1, outputs_eq_map_outOf l ts h.2]

theorem extractOutputs_no_panic (l : List PsetOutput) (s : String) : Pset.extractOutputs l ≠ .panic s := by
  rw [extractOutputs_eq]
  refine Res.seq_ne_panic (fun r hr => ?_) s
  obtain ⟨o, _, rfl⟩ := List.mem_map.mp hr
  exact PsetRoundTrip.extract_no_panic o

theorem sanityCheck_eq_ok (p : Pset) (u : Unit) :
    p.sanityCheck = .ok u ↔ p.global.inputCount = p.inputs.length ∧ p.global.outputCount = p.outputs.length := by
  unfold Pset.sanityCheck Pset.nInputs Pset.nOutputs
  rw [Res.guard_eq_ok, Res.guard_eq_ok, Classical.not_not, Classical.not_not]
  exact and_congr_right fun _ => and_iff_left rfl

theorem sanityCheck_no_panic (p : Pset) (s : String) : p.sanityCheck ≠ .panic s :=
  Res.guard_ne_panic (Res.guard_ne_panic nofun)

/-- `extract_tx` as a chain of `?`: `sanity_check`, `locktime`, the output loop -/
theorem extractTx_eq (p : Pset) :
    p.extractTx =
      p.sanityCheck.bind fun _ => p.locktime.bind fun lt => (Pset.extractOutputs p.outputs).bind fun outs =>
        .ok { version := p.global.txVersion, lockTime := lt, input := p.inputs.map PsetInput.toTxIn, output := outs } := by
  unfold Pset.extractTx
  cases p.sanityCheck <;> try rfl
  cases p.locktime <;> try rfl
  cases Pset.extractOutputs p.outputs <;> rfl

theorem extractTx_ok_iff (p : Pset) (t : Tx) :
    p.extractTx = .ok t ↔
      (p.global.inputCount = p.inputs.length ∧ p.global.outputCount = p.outputs.length ∧
       t.version = p.global.txVersion ∧ p.locktime = .ok t.lockTime ∧
       t.input = p.inputs.map PsetInput.toTxIn ∧ p.outputs.map PsetOutput.extract = t.output.map Res.ok) := by
  simp only [extractTx_eq, Res.bind_eq_ok, sanityCheck_eq_ok, extractOutputs_ok_iff, Res.ok.injEq]
  constructor
  · rintro ⟨_, ⟨h1, h2⟩, lt, hl, outs, ho, rfl⟩
    exact ⟨h1, h2, rfl, hl, rfl, ho⟩
  · rintro ⟨h1, h2, hv, hl, hi, ho⟩
    refine ⟨(), ⟨h1, h2⟩, t.lockTime, hl, t.output, ho, ?_⟩
    rw [← hv, ← hi]

/-- a successful `extract_tx` in the form its users read: the outputs as the `outOf` of the PSET's outputs -/
structure Extracted (p : Pset) (t : Tx) : Prop where
  version : t.version = p.global.txVersion
  lockTime : p.locktime = .ok t.lockTime
  input : t.input = p.inputs.map PsetInput.toTxIn
  output : t.output = p.outputs.map outOf

theorem extractTx_ok {p : Pset} {t : Tx} (h : p.extractTx = .ok t) : Extracted p t := by
  obtain ⟨_, _, hv, hl, hi, ho⟩ := (extractTx_ok_iff p t).mp h
  exact ⟨hv, hl, hi, outputs_eq_map_outOf _ _ ho⟩

theorem extractTx_no_panic (p : Pset) (s : String) : p.extractTx ≠ .panic s := by
  rw [extractTx_eq]
  exact Res.bind_ne_panic (sanityCheck_no_panic p) (fun _ => Res.bind_ne_panic (locktimeOf_no_panic _ _)
    fun _ => Res.bind_ne_panic (extractOutputs_no_panic _) fun _ _ h => by cases h) s

end EV.Proofs.PsetExtract
