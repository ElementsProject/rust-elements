/-
  The issuance ids of C11 (EV.Model.Issuance; leaf constants from src/issuance.rs).  Every id is `H.comb` of an entropy
  and a leaf constant, and both `issuance_ids` (of `TxIn`, of the PSET input) derive the same entropy, `entropyOf`.
  Each `_inj`/`_commits` lemma is one step "equal ids, hence equal data or a collision".  Last, the hypotheses `IndexOk`
  and `IssuanceOk` under which TxIn, PSET input and extracted TxIn agree (the agreement is in EV.Proofs.IssuanceBridge).
-/
import EV.Model.Issuance
import EV.Proofs.FastMerkle
import EV.Proofs.CodecTx
namespace EV.Proofs.Issuance
open EV EV.Codec EV.Issuance EV.Proofs.CodecPrim EV.Proofs.CodecTx

variable (H : Hashes)

theorem assetLeaf_eq : assetLeaf = List.replicate 32 0 := by decide

theorem tokenLeaf_eq (c : Bool) : tokenLeaf c = (if c then 2 else 1) :: List.replicate 31 0 := by
  cases c <;> decide

theorem assetLeaf_ne_tokenLeaf (c : Bool) : assetLeaf ≠ tokenLeaf c := by cases c <;> decide

theorem tokenLeaf_inj : ∀ c c' : Bool, tokenLeaf c = tokenLeaf c' → c = c' := by decide

theorem fmr_two (a b : Bytes) : H.fmr [a, b] = some (H.comb a b) :=
  Proofs.FastMerkle.fast_two H.comb _ a b

theorem entropy_eq (o : OutPoint) (c : Bytes) :
    generateAssetEntropy H o c = some (H.comb (H.sha256d (o.txid ++ encLe 4 o.vout)) c) := by
  simp only [generateAssetEntropy, fmr_two, OutPoint.enc]

theorem fromEntropy_eq (e : Bytes) : fromEntropy H e = some (H.comb e assetLeaf) := by
  simp only [fromEntropy, fmr_two]

theorem token_eq (e : Bytes) (c : Bool) : reissuanceTokenFromEntropy H e c = some (H.comb e (tokenLeaf c)) := by
  simp only [reissuanceTokenFromEntropy, fmr_two]

theorem idsOfEntropy_some (e : Bytes) (c : Bool) :
    idsOfEntropy H (some e) c = some (H.comb e assetLeaf, H.comb e (tokenLeaf c)) := by
  simp only [idsOfEntropy, fromEntropy_eq, token_eq]

/-- the entropy `TxIn::issuance_ids` / `Input::issuance_ids` derive -/
def entropyOf (o : OutPoint) (nonce entropy : Bytes) : Bytes :=
  if nonce = zero32 then H.comb (H.sha256d (o.txid ++ encLe 4 o.vout)) entropy else entropy

theorem idsOfEntropy_entropyOf (o : OutPoint) (nonce entropy : Bytes) (c : Bool) :
    idsOfEntropy H (if nonce = zero32 then generateAssetEntropy H o entropy else some entropy) c =
      some (H.comb (entropyOf H o nonce entropy) assetLeaf, H.comb (entropyOf H o nonce entropy) (tokenLeaf c)) := by
  rw [entropy_eq, ← apply_ite some, idsOfEntropy_some, entropyOf]

theorem txin_ids_eq (i : TxIn) :
    i.issuanceIds H =
      some (H.comb (entropyOf H i.previousOutput i.assetIssuance.nonce i.assetIssuance.entropy) assetLeaf,
            H.comb (entropyOf H i.previousOutput i.assetIssuance.nonce i.assetIssuance.entropy)
              (tokenLeaf i.assetIssuance.amount.isConf)) :=
  idsOfEntropy_entropyOf H _ _ _ _

theorem pset_ids_eq (p : IssPsetInput) :
    p.issuanceIds H =
      some (H.comb (entropyOf H ⟨p.previousTxid, IssPsetInput.plainIndex p.previousOutputIndex⟩
                (p.issuanceBlindingNonce.getD zero32) (p.issuanceAssetEntropy.getD zero32)) assetLeaf,
            H.comb (entropyOf H ⟨p.previousTxid, IssPsetInput.plainIndex p.previousOutputIndex⟩
                (p.issuanceBlindingNonce.getD zero32) (p.issuanceAssetEntropy.getD zero32))
              (tokenLeaf p.issuanceValueComm.isSome)) :=
  idsOfEntropy_entropyOf H _ _ _ _

/-- a collision of the two-to-one compression function (what C11's `Collision2` unfolds to) -/
def Coll2 (g : Bytes → Bytes → Bytes) : Prop := ∃ a b c d, (a, b) ≠ (c, d) ∧ g a b = g c d

theorem entropy_inj (o o' : OutPoint) (c c' : Bytes) (h : generateAssetEntropy H o c = generateAssetEntropy H o' c') :
    (H.sha256d o.enc = H.sha256d o'.enc ∧ c = c') ∨ Coll2 H.comb := by
  simp only [generateAssetEntropy, fmr_two, Option.some.injEq] at h
  exact FastMerkle.comb_inj h

theorem outpoint_commits (o o' : OutPoint) (ho : o.wf) (ho' : o'.wf) (h : H.sha256d o.enc = H.sha256d o'.enc) :
    o = o' ∨ ∃ x y, x ≠ y ∧ H.sha256d x = H.sha256d y :=
  (eq_or_collision h).imp_left (enc_injective_of_complete outpoint_lawful o o' ho ho')

theorem assetId_commits (e e' : Bytes) (h : fromEntropy H e = fromEntropy H e') : e = e' ∨ Coll2 H.comb := by
  rw [fromEntropy_eq, fromEntropy_eq] at h
  exact (FastMerkle.comb_inj (Option.some.inj h)).imp_left And.left

theorem newIssuance_entropy (o o' : OutPoint) (c c' : Bytes) (h : newIssuance H o c = newIssuance H o' c') :
    generateAssetEntropy H o c = generateAssetEntropy H o' c' ∨ Coll2 H.comb := by
  simp only [newIssuance, entropy_eq] at h
  exact (assetId_commits H _ _ h).imp_left fun he => by rw [entropy_eq, entropy_eq, he]

theorem tokenId_commits (e e' : Bytes) (c c' : Bool)
    (h : reissuanceTokenFromEntropy H e c = reissuanceTokenFromEntropy H e' c') : (e = e' ∧ c = c') ∨ Coll2 H.comb := by
  rw [token_eq, token_eq] at h
  exact (FastMerkle.comb_inj (Option.some.inj h)).imp_left (And.imp_right (tokenLeaf_inj c c'))

theorem asset_ne_token (e e' : Bytes) (c : Bool)
    (h : fromEntropy H e = reissuanceTokenFromEntropy H e' c) : Coll2 H.comb := by
  rw [fromEntropy_eq, token_eq] at h
  exact (FastMerkle.comb_inj (Option.some.inj h)).elim (fun e => absurd e.2 (assetLeaf_ne_tokenLeaf c)) id

/-- a real index (below 2^30; 2^30-1 with both flags is not representable), or the coinbase index.  It is
    `CodecTx.WordOk` without the condition that the coinbase index carries no flags: `plainIndex` of the word gives the
    index back there whatever the flags. -/
def IndexOk (v : Nat) (p q : Bool) : Prop :=
  (v < 2^30 ∧ ¬ (v = 2^30 - 1 ∧ p = true ∧ q = true)) ∨ v = 0xffffffff

theorem plainIndex_of_lt {idx : Nat} (h : idx < 2^30) : IssPsetInput.plainIndex idx = idx := by
  unfold IssPsetInput.plainIndex
  split
  · rfl
  · exact Nat.mod_eq_of_lt h

/-- the in-memory issuance of an input *without* issuance is the all-default one -/
def IssuanceOk (i : TxIn) : Prop :=
  i.hasIssuance = true ∨ (i.assetIssuance.nonce = zero32 ∧ i.assetIssuance.entropy = zero32)

theorem amounts_null_of_not_hasIssuance (t : TxIn) (h : t.hasIssuance = false) :
    t.assetIssuance.amount = .null ∧ t.assetIssuance.inflationKeys = .null := by
  simp only [TxIn.hasIssuance, AssetIssuance.isNull, Bool.not_eq_false', Bool.and_eq_true] at h
  exact ⟨(value_isNull_iff _).1 h.1, (value_isNull_iff _).1 h.2⟩

/-- what `from_txin` carries over is the input's issuance -/
theorem issuance_of_ok (t : TxIn) (h : IssuanceOk t) :
    (if t.hasIssuance then t.assetIssuance else AssetIssuance.null) = t.assetIssuance := by
  cases hq : t.hasIssuance
  · obtain ⟨hn, he⟩ := h.resolve_left (hq ▸ Bool.false_ne_true)
    obtain ⟨ha, hk⟩ := amounts_null_of_not_hasIssuance t hq
    generalize t.assetIssuance = ai at hn he ha hk ⊢
    obtain ⟨n, e, a, k⟩ := ai
    cases hn
    cases he
    cases ha
    cases hk
    rfl
  · rfl

theorem valueOf_split (v : Value) :
    IssPsetInput.valueOf (match v with | .explicit x => some x | _ => none) (match v with | .conf c => some c | _ => none) = v := by
  cases v <;> rfl

theorem valueOf_isConf (a : Option Nat) (c : Option Bytes) : (IssPsetInput.valueOf a c).isConf = c.isSome := by
  cases a <;> cases c <;> rfl

/-- the input `extract_tx` builds from a PSET input has that PSET input's ids -/
theorem ids_extractIn (p : IssPsetInput) : (IssPsetInput.extractIn p).issuanceIds H = p.issuanceIds H := by
  rw [txin_ids_eq, pset_ids_eq]
  simp only [IssPsetInput.extractIn, IssPsetInput.assetIssuance, valueOf_isConf]

end EV.Proofs.Issuance
