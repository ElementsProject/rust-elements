/-
  EV.Proofs.SerdeDerive — the generic round trip of derived impls (EV.Model.SerdeDerive): maps, struct visitors
  (`visit_map` by key, `visit_seq` by position), hooks, enums, and the interpreter itself by induction on the fuel
  (`dRoundtrip`, given a law for every leaf codec); then that law for each of /repo's own leaves (`std_allLaw`).
-/
import EV.Model.SerdeDerive
import EV.Proofs.SerdeUtils
import EV.Proofs.OrdMap
namespace EV.Serde
open EV EV.Text EV.Gen

@[simp] theorem resMap_ok {α β} (g : α → β) (a : α) : resMap g (.ok a) = .ok (g a) := rfl

/-! ### the untyped `visit_map` / `visit_seq` loops

  The lemmas `amInsert_new` … `collectPairs_rt` of EV.Proofs.SerdeUtils again, for the loops of the interpreter and of the
  fields with a `btreemap_*` hook. These compare keys by `DVal.beq`: "pairwise distinct" is `KeysDistinct` here and
  `Nodup` there. -/

theorem dInsert_new (acc : List (DVal × DVal)) (k v : DVal) (h : ∀ e ∈ acc, DVal.beq e.1 k = false) :
    dInsert acc k v = acc ++ [(k, v)] := by
  induction acc with
  | nil => rfl
  | cons a r ih =>
    obtain ⟨k', v'⟩ := a
    obtain ⟨h1, hr⟩ := List.forall_mem_cons.mp h
    simp [dInsert, h1, ih hr]

theorem dCollectMap_acc (f : Fmt) (tk tv : DVal → SVal) (pk pv : SVal → Res DVal) (m acc : List (DVal × DVal))
    (hd : KeysDistinct (acc ++ m))
    (hk : ∀ e ∈ m, pk (lossy f (tk e.1)) = .ok e.1) (hv : ∀ e ∈ m, pv (lossy f (tv e.2)) = .ok e.2) :
    dCollectMap pk pv (lossyM f (m.map fun e => (tk e.1, tv e.2))) acc = .ok (acc ++ m) := by
  induction m generalizing acc with
  | nil => simp [lossyM, dCollectMap]
  | cons e r ih =>
    obtain ⟨k, v⟩ := e
    have hnew : ∀ x ∈ acc, DVal.beq x.1 k = false := fun x hx =>
      (List.pairwise_append.mp hd).2.2 x hx (k, v) List.mem_cons_self
    obtain ⟨hk0, hk⟩ := List.forall_mem_cons.mp hk
    obtain ⟨hv0, hv⟩ := List.forall_mem_cons.mp hv
    simp only [List.map_cons, lossyM, dCollectMap, hk0, hv0, dInsert_new acc k v hnew]
    have := ih (acc ++ [(k, v)]) (by simpa [List.append_assoc] using hd) hk hv
    simpa [List.append_assoc] using this

theorem dCollectMap_rt (f : Fmt) (tk tv : DVal → SVal) (pk pv : SVal → Res DVal) (m : List (DVal × DVal))
    (hd : KeysDistinct m)
    (hk : ∀ e ∈ m, pk (lossy f (tk e.1)) = .ok e.1) (hv : ∀ e ∈ m, pv (lossy f (tv e.2)) = .ok e.2) :
    dCollectMap pk pv (lossyM f (m.map fun e => (tk e.1, tv e.2))) [] = .ok m := by
  simpa using dCollectMap_acc f tk tv pk pv m [] hd hk hv

theorem dCollectPairs_eq_map (pk pv : SVal → Res DVal) (l : List (SVal × SVal)) (acc : List (DVal × DVal)) :
    dCollectPairs pk pv (l.map fun p => .seq [p.1, p.2]) acc = dCollectMap pk pv l acc := by
  induction l generalizing acc with
  | nil => rfl
  | cons p r ih =>
    obtain ⟨a, b⟩ := p
    simp only [List.map_cons, dCollectPairs, dCollectMap]
    cases pk a with
    | ok k' =>
      cases pv b with
      | ok v' => exact ih _
      | _ => rfl
    | _ => rfl

/-- `g`: any encoding of the entries that the format shows as two-element arrays (tuples, tuple structs) -/
theorem dCollectPairs_rt (f : Fmt) (tk tv : DVal → SVal) (g : DVal × DVal → SVal) (pk pv : SVal → Res DVal)
    (m : List (DVal × DVal)) (hg : ∀ e, lossy f (g e) = .seq [lossy f (tk e.1), lossy f (tv e.2)])
    (hd : KeysDistinct m)
    (hk : ∀ e ∈ m, pk (lossy f (tk e.1)) = .ok e.1) (hv : ∀ e ∈ m, pv (lossy f (tv e.2)) = .ok e.2) :
    dCollectPairs pk pv (lossyL f (m.map g)) [] = .ok m := by
  have := dCollectPairs_eq_map pk pv (lossyM f (m.map fun e => (tk e.1, tv e.2))) []
  rw [dCollectMap_rt f tk tv pk pv m hd hk hv] at this
  simpa [lossyL_map, lossyM_map, hg, Function.comp_def] using this

theorem keyIdx_eq_idxOf? (keys : List String) (s : String) : keyIdx keys s = keys.idxOf? s := by
  induction keys with
  | nil => rfl
  | cons k r ih => simp [keyIdx, List.idxOf?_cons, ih]

theorem keyIdx_sound (keys : List String) (k : String) (j : Nat) (h : keyIdx keys k = some j) : keys[j]? = some k := by
  obtain ⟨hj, hk, _⟩ := List.idxOf?_eq_some_iff.mp (keyIdx_eq_idxOf? keys k ▸ h)
  rw [List.getElem?_eq_getElem hj, hk]

theorem keyIdx_complete (keys : List String) (k : String) (i : Nat) (hnd : keys.Nodup) (h : keys[i]? = some k) :
    keyIdx keys k = some i := by
  obtain ⟨hi, hk⟩ := List.getElem?_eq_some_iff.mp h
  rw [keyIdx_eq_idxOf?, List.idxOf?_eq_some_iff]
  exact ⟨hi, hk, fun j hj e => List.pairwise_iff_getElem.mp hnd j i _ hi hj (e.trans hk.symm)⟩

theorem slotOf_cons_ne (flat : Bool) (keys : List String) (i : Nat) (p : SVal → Res DVal) {k k' : String}
    (hi : keys[i]? = some k) (hk : k' ≠ k) (s : SVal) (r : List (SVal × SVal)) (acc : Option DVal) :
    slotOf flat keys i p ((.str k', s) :: r) acc = slotOf flat keys i p r acc := by
  simp only [slotOf, fieldIdx]
  cases hj : keyIdx keys k' with
  | none => rfl
  | some j =>
    have hne : j ≠ i := fun e => hk (Option.some.inj ((keyIdx_sound keys k' j hj).symm.trans (e ▸ hi)))
    simp only [hne, if_false]

theorem slotOf_skip (flat : Bool) (keys : List String) (i : Nat) (p : SVal → Res DVal) (fm : Fmt) (k : String)
    (hi : keys[i]? = some k) (rest : List (String × SVal)) : ∀ (pre : List (String × SVal)) (acc : Option DVal),
    k ∉ pre.map Prod.fst → slotOf flat keys i p (lossyF fm (pre ++ rest)) acc = slotOf flat keys i p (lossyF fm rest) acc
  | [], _, _ => rfl
  | (k', s) :: r, acc, hk => by
    rw [List.map_cons, List.mem_cons, not_or] at hk
    rw [List.cons_append, lossyF, slotOf_cons_ne flat keys i p hi (Ne.symm hk.1),
      slotOf_skip flat keys i p fm k hi rest r acc hk.2]

theorem slotOf_hit (flat : Bool) (keys : List String) (i : Nat) (p : SVal → Res DVal) (fm : Fmt) (k : String)
    (hnd : keys.Nodup) (hi : keys[i]? = some k) (s : SVal) (a : DVal) (hp : p (lossy fm s) = .ok a)
    (es : List (String × SVal)) (hes : (es.map Prod.fst).Nodup) (hm : (k, s) ∈ es) :
    slotOf flat keys i p (lossyF fm es) Option.none = .ok (some a) := by
  obtain ⟨pre, post, rfl⟩ := List.append_of_mem hm
  obtain ⟨h1, h2⟩ := key_not_mem_of_nodup hes
  rw [slotOf_skip flat keys i p fm k hi _ pre _ h1, lossyF]
  simp only [slotOf, fieldIdx, keyIdx_complete keys k i hnd hi, if_true, Option.isSome_none, Bool.false_eq_true,
    if_false, hp]
  simpa [lossyF, slotOf] using slotOf_skip flat keys i p fm k hi [] post (some a) h2

/-- every field round-trips on its value, the lists matching in length -/
def pairsOk (rcS : RecS) (rcD : RecD) (h : Bool) (fm : Fmt) : List SerdeField → List DVal → Prop
  | [], [] => True
  | f :: fs, v :: vs => fieldOfS rcD f h (lossy fm (fieldToS rcS f h v)) = .ok v ∧ pairsOk rcS rcD h fm fs vs
  | _, _ => False

theorem zipFields_keys (rcS : RecS) (h : Bool) : ∀ (fields : List SerdeField) (vs : List DVal),
    fields.length = vs.length → (zipFields rcS h fields vs).map Prod.fst = fields.map (·.key)
  | [], _, _ => rfl
  | _ :: _, [], hl => nomatch hl
  | f :: fs, _ :: vs, hl => congrArg (f.key :: ·) (zipFields_keys rcS h fs vs (Nat.succ.inj hl))

theorem pairsOk_length (rcS : RecS) (rcD : RecD) (h : Bool) (fm : Fmt) : ∀ fields vs,
    pairsOk rcS rcD h fm fields vs → fields.length = vs.length
  | [], [], _ => rfl
  | [], _ :: _, hp => hp.elim
  | _ :: _, [], hp => hp.elim
  | _ :: fs, _ :: vs, hp => congrArg (· + 1) (pairsOk_length rcS rcD h fm fs vs hp.2)

/-- `visit_seq`: the fields by position -/
theorem seqFields_rt (rcS : RecS) (rcD : RecD) (h : Bool) (fm : Fmt) : ∀ fields vs,
    pairsOk rcS rcD h fm fields vs →
    seqFields rcD h fields ((zipFields rcS h fields vs).map fun e => lossy fm e.2) = .ok vs
  | [], [], _ => rfl
  | [], _ :: _, hp => hp.elim
  | _ :: _, [], hp => hp.elim
  | f :: fs, v :: vs, hp => by simp [zipFields, seqFields, hp.1, seqFields_rt rcS rcD h fm fs vs hp.2]

/-- `visit_map`: the fields by key; `fs` are the fields from position `i` on -/
theorem mapFields_rt (rcS : RecS) (rcD : RecD) (flat h : Bool) (fm : Fmt) (keys : List String) (es : List (String × SVal))
    (hnd : keys.Nodup) (hes : es.map Prod.fst = keys) :
    ∀ (fs : List SerdeField) (vs : List DVal) (i : Nat),
      keys.drop i = fs.map (·.key) →
      zipFields rcS h fs vs ⊆ es →
      pairsOk rcS rcD h fm fs vs →
      mapFields rcD flat keys h (lossyF fm es) i fs = .ok vs
  | [], [], _, _, _, _ => rfl
  | [], _ :: _, _, _, _, hp => hp.elim
  | _ :: _, [], _, _, _, hp => hp.elim
  | f :: fs, v :: vs, i, hk, hsub, hp => by
    obtain ⟨hm, hsub⟩ := List.cons_subset.mp hsub
    have hi : keys[i]? = some f.key := by rw [← List.head?_drop, hk]; rfl
    have hslot := slotOf_hit flat keys i (fieldOfS rcD f h) fm f.key hnd hi _ v hp.1 es (hes ▸ hnd) hm
    have hrest := mapFields_rt rcS rcD flat h fm keys es hnd hes fs vs (i + 1) (by rw [← List.tail_drop, hk]; rfl)
      hsub hp.2
    simp only [mapFields, hslot, hrest]

theorem lossyM_strKeys (fm : Fmt) (es : List (String × SVal)) :
    lossyM fm (es.map fun e => (SVal.str e.1, e.2)) = lossyF fm es := by
  induction es with
  | nil => rfl
  | cons e r ih => obtain ⟨k, s⟩ := e; simp [lossyM, lossyF, lossy, ih]

theorem lossy_structToS (rcS : RecS) (nm : String) (fields : List SerdeField) (flat h : Bool) (fm : Fmt) (vs : List DVal) :
    lossy fm (structToS rcS nm fields flat h vs) = .map (lossyF fm (zipFields rcS h fields vs)) := by
  cases flat with
  | true => simp [structToS, lossy, lossyM_strKeys]
  | false => simp [structToS, lossy]

theorem structOfS_rt (rcS : RecS) (rcD : RecD) (nm : String) (fields : List SerdeField) (flat h : Bool) (fm : Fmt)
    (vs : List DVal) (hnd : (fields.map (·.key)).Nodup) (hp : pairsOk rcS rcD h fm fields vs) :
    structOfS rcD fields flat h (lossy fm (structToS rcS nm fields flat h vs)) = .ok (.record vs) := by
  rw [lossy_structToS]
  have hl := pairsOk_length rcS rcD h fm fields vs hp
  have := mapFields_rt rcS rcD flat h fm (fields.map (·.key)) (zipFields rcS h fields vs) hnd
    (zipFields_keys rcS h fields vs hl) fields vs 0 rfl (List.Subset.refl _) hp
  simp [structOfS, this]

theorem bytesValues_rt (fm : Fmt) (t : Bytes → SVal) (p : SVal → Res Bytes) (hp : ∀ b, p (lossy fm (t b)) = .ok b)
    (l : List (DVal × DVal)) (hb : allBytes l) :
    ∀ e ∈ l, resMap DVal.bytes (p (lossy fm (t (bytesOf e.2)))) = .ok e.2 := by
  intro e he
  obtain ⟨b, hb'⟩ := hb e he
  rw [hb', bytesOf, hp, resMap_ok]

theorem fieldOfS_rt (rcS : RecS) (rcD : RecD) (wt : SerdeTy → DVal → Prop) (h : Bool) (fm : Fmt)
    (hrec : ∀ t x, wt t x → rcD t h (lossy fm (rcS t h x)) = .ok x)
    (f : SerdeField) (v : DVal) (hw : fieldWT wt f v) :
    fieldOfS rcD f h (lossy fm (fieldToS rcS f h v)) = .ok v := by
  -- `fieldWT`, `fieldToS` and `fieldOfS` branch on the hook in the same order; with the hook a literal each of them
  -- reduces to its branch
  obtain ⟨key, ty, hook⟩ := f
  by_cases h0 : hook = ""
  · subst h0
    simp only [fieldWT, fieldToS, fieldOfS, ↓reduceIte] at hw ⊢
    exact hrec _ _ hw
  by_cases h1 : hook = "hex_bytes"
  · subst h1
    simp only [fieldWT, String.reduceEq, ↓reduceIte] at hw
    obtain ⟨b, rfl⟩ := hw
    simp [fieldToS, fieldOfS, bytesOf, hexBytes_rt]
  by_cases h2 : hook = "serde_fallback_locktime"
  · subst h2
    simp only [fieldWT, String.reduceEq, ↓reduceIte] at hw
    rcases hw with rfl | ⟨n, rfl, hn⟩
    · simp [fieldToS, fieldOfS, lossy]
    · simp [fieldToS, fieldOfS, lossy, ofNum, hn]
  by_cases h3 : hook = "serde_parity"
  · subst h3
    simp only [fieldWT, String.reduceEq, ↓reduceIte] at hw
    obtain ⟨p, rfl, hp⟩ := hw
    simp [fieldToS, fieldOfS, lossy, ofNum, show p < 256 by omega, hp]
  -- the three `btreemap_*` hooks: the field is a map
  simp only [fieldWT, h0, h1, h2, h3, if_false] at hw
  cases ty with
  | map k vt =>
    cases v with
    | map l =>
      simp only at hw
      by_cases h4 : hook = "btreemap_byte_values"
      · subst h4
        simp only [true_or, if_true] at hw
        obtain ⟨hk, hb, hd⟩ := hw
        simp only [fieldToS, fieldOfS, String.reduceEq, ↓reduceIte, lossy]
        rw [dCollectMap_rt fm (rcS k h) (fun x => if h then sStr (hexStr (bytesOf x)) else sVecU8 (bytesOf x)) _ _ l hd
          (fun e he => hrec k e.1 (hk e he))
          -- `by exact`: elaborated once the goal has fixed the value codec; unifying it from here is slow
          (by exact bytesValues_rt fm _ _ (byteValues_ofVal_rt h fm) l hb)]
        rfl
      by_cases h5 : hook = "btreemap_as_seq"
      · subst h5
        simp only [String.reduceEq, or_self, if_false, if_true] at hw
        obtain ⟨hkv, hd⟩ := hw
        cases h with
        | true =>
          simp only [fieldToS, fieldOfS, String.reduceEq, ↓reduceIte, lossy]
          rw [dCollectPairs_rt fm (rcS k true) (rcS vt true) _ _ _ l (fun e => by simp [lossy, lossyL]) hd
            (fun e he => hrec k e.1 (hkv e he).1) (fun e he => hrec vt e.2 (hkv e he).2)]
          rfl
        | false =>
          simp only [fieldToS, fieldOfS, String.reduceEq, ↓reduceIte, Bool.false_eq_true, lossy]
          rw [dCollectMap_rt fm (rcS k false) (rcS vt false) _ _ l hd
            (fun e he => hrec k e.1 (hkv e he).1) (fun e he => hrec vt e.2 (hkv e he).2)]
          rfl
      by_cases h6 : hook = "btreemap_as_seq_byte_values"
      · subst h6
        simp only [or_true, if_true] at hw
        obtain ⟨hk, hb, hd⟩ := hw
        cases h with
        | true =>
          simp only [fieldToS, fieldOfS, String.reduceEq, ↓reduceIte, lossy]
          rw [dCollectPairs_rt fm (rcS k true) (fun x => HexBytes.toS true (bytesOf x)) _ _ _ l
            (fun e => by simp [lossy, lossyL]) hd (fun e he => hrec k e.1 (hk e he))
            (by exact bytesValues_rt fm _ _ (hexBytes_rt true fm) l hb)]
          rfl
        | false =>
          simp only [fieldToS, fieldOfS, String.reduceEq, ↓reduceIte, Bool.false_eq_true, lossy]
          rw [dCollectMap_rt fm (rcS k false) (fun x => sVecU8 (bytesOf x)) _ _ l hd (fun e he => hrec k e.1 (hk e he))
            (by exact bytesValues_rt fm _ _ (ofVecU8_rt fm) l hb)]
          rfl
      · simp [h4, h5, h6] at hw
    | _ => exact hw.elim
  | _ => exact hw.elim

theorem pairsOk_of_fieldsWT (rcS : RecS) (rcD : RecD) (wt : SerdeTy → DVal → Prop) (h : Bool) (fm : Fmt)
    (hrec : ∀ t x, wt t x → rcD t h (lossy fm (rcS t h x)) = .ok x) :
    ∀ fields vs, fieldsWT wt fields vs → pairsOk rcS rcD h fm fields vs
  | [], [], _ => trivial
  | [], _ :: _, hw => hw.elim
  | _ :: _, [], hw => hw.elim
  | f :: fs, v :: vs, hw => ⟨fieldOfS_rt rcS rcD wt h fm hrec f v hw.1, pairsOk_of_fieldsWT rcS rcD wt h fm hrec fs vs hw.2⟩

theorem lookup_shapeOk (tbl : Table) (hok : tableOk tbl = true) (nm : String) (sh : SerdeShape)
    (hl : tbl.lookup nm = some sh) : shapeOk sh = true := by
  have hm := OrdMap.mem_of_lookup hl
  simp only [tableOk, List.all_eq_true] at hok
  exact hok (nm, sh) hm

-- elaborated, the `match` below takes `hs` along as a second discriminant, so this does not rewrite the `match` inside
-- `dOfS`: for that see `dOfS_opt_of_ne`
theorem match_ne_unit {α} (s : SVal) (a : α) (g : SVal → α) (hs : s ≠ .unit) :
    (match s with | .unit => a | s => g s) = g s := by
  cases s <;> first | rfl | exact absurd rfl hs

/-- `Option<T>` reads anything but null as a `T` -/
theorem dOfS_opt_of_ne (env : Env) (tbl : Table) (n : Nat) (t : SerdeTy) (h : Bool) (s : SVal) (hs : s ≠ .unit) :
    dOfS env tbl (n+1) (.opt t) h s = resMap .some (dOfS env tbl n t h s) := by
  cases s <;> first | rfl | exact absurd rfl hs

section
variable (env : Env) (tbl : Table) (okLeaf : String → DVal → Prop) (h : Bool) (fm : Fmt)

/-- proved together with what `Option<T>` needs of `T`: a value of a type that `nonNullTy` accepts never serializes
    to null -/
theorem dRoundtrip (htbl : tableOk tbl = true)
    (hleaf : ∀ nm L, tbl.lookup nm = Option.none → env nm = some L → LeafLaw L (okLeaf nm) h fm)
    (henv : ∀ nm v, tbl.lookup nm = Option.none → okLeaf nm v → ∃ L, env nm = some L) :
    ∀ n ty v, dWT okLeaf tbl n ty v →
      dOfS env tbl n ty h (lossy fm (dToS env tbl n ty h v)) = .ok v ∧
      (nonNullTy tbl n ty = true → lossy fm (dToS env tbl n ty h v) ≠ .unit) := by
  intro n
  induction n with
  | zero => intro ty v hw; simp [dWT] at hw
  | succ n ih =>
    intro ty v hw
    cases ty with
    | u8 | u16 | u32 | u64 | usize =>
      simp only [dWT] at hw
      obtain ⟨x, rfl, hx⟩ := hw
      simp [dToS, lossy, dOfS, ofNum, hx]
    | bool =>
      simp only [dWT] at hw
      obtain ⟨b, rfl⟩ := hw
      simp [dToS, lossy, dOfS, ofBool]
    | opt t =>
      simp only [dWT] at hw
      rcases hw with rfl | ⟨x, rfl, hx, hnn⟩
      · simp [dToS, lossy, dOfS, nonNullTy]
      · have hne := (ih t x hx).2 hnn
        refine ⟨?_, by simp [nonNullTy]⟩
        -- `Some x` is written as `x` is
        simp only [dToS, lossy]
        rw [dOfS_opt_of_ne env tbl n t h _ hne, (ih t x hx).1]
        rfl
    | vec t =>
      simp only [dWT] at hw
      by_cases ht : t = .u8
      · simp only [ht, if_true] at hw
        obtain ⟨b, rfl⟩ := hw
        exact ⟨by simp [dToS, dOfS, ht, ofVecU8_rt], by simp [dToS, ht, sVecU8, lossy]⟩
      · simp only [ht, if_false] at hw
        obtain ⟨l, rfl, hl⟩ := hw
        exact ⟨by simp [dToS, dOfS, ht, ofSeq_rt fm _ (dOfS env tbl n t h) l fun a ha => (ih t a (hl a ha)).1],
          by simp [dToS, ht, lossy]⟩
    | arr k =>
      simp only [dWT] at hw
      obtain ⟨b, rfl, hb⟩ := hw
      exact ⟨by simp [dToS, dOfS, ofArr_rt fm k b hb], by simp [dToS, sArr, lossy]⟩
    | map k vt =>
      simp only [dWT] at hw
      obtain ⟨l, rfl, hkv, hd⟩ := hw
      simp [dToS, dOfS, lossy, dCollectMap_rt fm (dToS env tbl n k h) (dToS env tbl n vt h) _ _ l hd
        (fun e he => (ih k e.1 (hkv e he).1).1) (fun e he => (ih vt e.2 (hkv e he).2).1)]
    | pair a b =>
      simp only [dWT] at hw
      obtain ⟨x, y, rfl, hx, hy⟩ := hw
      simp [dToS, dOfS, lossy, lossyL, (ih a x hx).1, (ih b y hy).1]
    | named nm =>
      simp only [dWT] at hw
      cases hl : tbl.lookup nm with
      | none =>
        rw [hl] at hw
        simp only at hw
        obtain ⟨L, hL⟩ := henv nm v hl hw
        simp only [dToS, dOfS, hl, hL]
        exact ⟨(hleaf nm L hl hL).rt v hw, fun _ => (hleaf nm L hl hL).nonnull v hw⟩
      | some sh =>
        rw [hl] at hw
        have hsh := lookup_shapeOk tbl htbl nm sh hl
        cases sh with
        | struct fields flat =>
          simp only at hw
          obtain ⟨vs, rfl, hf⟩ := hw
          simp only [shapeOk, decide_eq_true_eq] at hsh
          simp only [dToS, dOfS, hl]
          refine ⟨structOfS_rt (dToS env tbl n) (dOfS env tbl n) nm fields flat h fm vs hsh
            (pairsOk_of_fieldsWT _ _ (dWT okLeaf tbl n) h fm (fun t x hx => (ih t x hx).1) fields vs hf), fun _ => ?_⟩
          rw [lossy_structToS]
          exact nofun
        | newtype t =>
          simp only at hw
          simp only [dToS, dOfS, nonNullTy, hl, lossy]
          exact ih t v hw
        | enum vars =>
          simp only at hw
          obtain ⟨i, p, rfl, vt, hvi, hp⟩ := hw
          simp only [shapeOk, decide_eq_true_eq] at hsh
          have hname : (vars.map (·.1))[i]? = some vt.1 := by simp [List.getElem?_map, hvi]
          have hidx := keyIdx_complete (vars.map (·.1)) vt.1 i hsh hname
          have hrt := (ih vt.2 p hp).1
          simp only [dToS, dOfS, hl, hvi]
          cases fm <;> simp [lossy, enumOfS, variantIdx, hidx, hvi, hrt]
end

/-- for a leaf that reads with a typed parser `p` and wraps the result in a constructor `C` of `DVal` -/
theorem leafLaw_of {α} {Q : α → Prop} {h : Bool} {fm : Fmt} (C : α → DVal) {t : Bool → DVal → SVal}
    {p : Bool → SVal → Res α} (hrt : ∀ x, Q x → p h (lossy fm (t h (C x))) = .ok x)
    (hnn : ∀ x, lossy fm (t h (C x)) ≠ .unit) :
    LeafLaw ⟨t, fun h s => resMap C (p h s)⟩ (fun v => ∃ x, v = C x ∧ Q x) h fm where
  rt := by
    rintro v ⟨x, rfl, hx⟩
    exact congrArg (resMap C) (hrt x hx)
  nonnull := by
    rintro v ⟨x, rfl, -⟩
    exact hnn x

/- `omit hc`: the three codecs that write no byte string -/
section
variable (P : Prims) (h : Bool) (fm : Fmt) (hc : compatible h fm)
include hc

theorem law_tx : LeafLaw (txLeaf P) (fun v => ∃ t, v = .tx t ∧ Tx.ok P t) h fm :=
  leafLaw_of .tx (tx_rt P h fm hc) fun t => by simp [Tx.toS, lossy]

theorem law_txout : LeafLaw (txOutLeaf P) (fun v => ∃ o, v = .txout o ∧ TxOut.ok P o) h fm :=
  leafLaw_of .txout (txOut_rt P h fm hc) fun o => by simp [TxOut.toS, lossy]

omit hc in
theorem law_script : LeafLaw scriptLeaf isBytes h fm where
  rt := by rintro v ⟨b, rfl⟩; simp [scriptLeaf, bytesOf, ofScript_rt]
  nonnull := by rintro v ⟨b, rfl⟩; simp [scriptLeaf, sScript, lossy_sStr]

theorem law_hash (k : HashKind) : LeafLaw (hashLeaf k) (isBytesLen k.len) h fm :=
  leafLaw_of .bytes (ofHash_rt k h fm hc) (lossy_sHash_ne h fm k)

/-- never null: `BlindingFactor.toS` unfolds to what `sHash` writes for 32 bytes displayed backward, `⟨32, true⟩`, a kind
    for which the model has no name -/
theorem law_bf : LeafLaw (bfLeaf P) (fun v => ∃ b, v = .bytes b ∧ BlindingFactor.ok P b) h fm :=
  leafLaw_of .bytes (blindingFactor_rt P h fm hc) (lossy_sHash_ne h fm ⟨32, true⟩)

omit hc in
theorem law_psbtsh : LeafLaw psbtSighashLeaf (fun v => ∃ n, v = .nat n ∧ n < 2^32) h fm :=
  leafLaw_of .nat (fun n hn => string_rt fm psbtParse _ n (psbtParse_psbtShow n hn))
    fun n => by simp [stringToS, lossy]

omit hc in
theorem law_schnorrsh : LeafLaw schnorrSighashLeaf (fun v => ∃ n, v = .nat n ∧ (schnorrShow n).isSome = true) h fm :=
  leafLaw_of .nat
    (fun n hn => by
      obtain ⟨str, hs⟩ := Option.isSome_iff_exists.mp hn
      simp [hs, string_rt fm schnorrParse str n (schnorrParse_schnorrShow n str hs)])
    fun n => by simp [stringToS, lossy]

theorem law_point (valid : Bytes → Bool) : LeafLaw (pointLeaf valid) (fun v => ∃ b, v = .bytes b ∧ b.length = 33 ∧ valid b = true) h fm :=
  leafLaw_of .bytes (fun b hb => ofPoint_rt valid h fm hc b hb.1 hb.2) (lossy_sHexOrBytes_ne h fm)

theorem law_tweak : LeafLaw (tweakLeaf P) (fun v => ∃ b, v = .bytes b ∧ b.length = 32 ∧ P.tweak b = true) h fm :=
  leafLaw_of .bytes (fun b hb => ofTweak_rt P h fm hc b hb.1 hb.2) (lossy_sHexOrBytes_ne h fm)

theorem law_proof (valid : Bytes → Bool) : LeafLaw (proofLeaf valid) (fun v => ∃ b, v = .bytes b ∧ valid b = true) h fm :=
  leafLaw_of .bytes (ofProof_rt valid h fm hc) (lossy_sHexOrBytes_ne h fm)
end

theorem leafLaw_false (L : Leaf) (h : Bool) (fm : Fmt) : LeafLaw L (fun _ => False) h fm := ⟨nofun, nofun⟩

/-- the two tables are aligned: the same names in the same order, and each leaf obeys the law on its predicate -/
def AllLaw (h : Bool) (fm : Fmt) : List (String × Leaf) → List (String × (DVal → Prop)) → Prop
  | [], [] => True
  | (n1, L) :: r1, (n2, p) :: r2 => n1 = n2 ∧ LeafLaw L p h fm ∧ AllLaw h fm r1 r2
  | _, _ => False

theorem allLaw_lookup (h : Bool) (fm : Fmt) : ∀ (l1 : List (String × Leaf)) (l2 : List (String × (DVal → Prop))),
    AllLaw h fm l1 l2 → ∀ k,
    (∀ L, l1.lookup k = some L → LeafLaw L (fun v => match l2.lookup k with | some p => p v | none => False) h fm) ∧
    (∀ v, (match l2.lookup k with | some p => p v | none => False) → ∃ L, l1.lookup k = some L)
  | [], [], _, _ => ⟨nofun, nofun⟩
  | [], _ :: _, hall, _ => hall.elim
  | (_, _) :: _, [], hall, _ => hall.elim
  | (n1, L) :: r1, (n2, p) :: r2, hall, k => by
    obtain ⟨rfl, hlaw, hrest⟩ := hall
    by_cases hk : k = n1
    · subst hk
      simp [List.lookup, hlaw]
    · have hk' : (k == n1) = false := by simpa using hk
      simp only [List.lookup, hk']
      exact allLaw_lookup h fm r1 r2 hrest k

theorem std_allLaw (P : Prims) (X : Deps) (D : DepsOk) (h : Bool) (fm : Fmt) (hc : compatible h fm)
    (hX : DepsLawful X D h fm) : AllLaw h fm (repoLeaves P ++ depLeaves X) (leafOks P D) := by
  -- the names agree entry by entry (`true_and`); what is left is one law per entry
  simp only [repoLeaves, depLeaves, leafOks, List.cons_append, List.nil_append, AllLaw, true_and, and_true]
  exact ⟨law_tx P h fm hc, law_txout P h fm hc, law_script h fm,
    -- `Txid`, `BlockHash`, `AssetId`
    law_hash h fm hc ⟨32, true⟩, law_hash h fm hc ⟨32, true⟩, law_hash h fm hc ⟨32, true⟩,
    -- `TapLeafHash`, `TapNodeHash`
    law_hash h fm hc ⟨32, false⟩, law_hash h fm hc ⟨32, false⟩,
    -- `ripemd160::Hash`, `sha256::Hash`, `hash160::Hash`, `sha256d::Hash`
    law_hash h fm hc ⟨20, false⟩, law_hash h fm hc ⟨32, false⟩, law_hash h fm hc ⟨20, false⟩, law_hash h fm hc ⟨32, true⟩,
    -- `AssetBlindingFactor`, `ValueBlindingFactor`
    law_bf P h fm hc, law_bf P h fm hc,
    -- `PsbtSighashType`, `SchnorrSighashType`
    law_psbtsh h fm, law_schnorrsh h fm,
    -- `PedersenCommitment`, `Generator`, `Tweak`
    law_point h fm hc P.commitment, law_point h fm hc P.generator, law_tweak P h fm hc,
    -- `RangeProof`, `SurjectionProof`
    law_proof h fm hc P.rangeproof, law_proof h fm hc P.surjproof,
    -- the third-party leaves, in the order of `depLeaves`
    hX.publicKey, hX.xOnly, hX.signature, hX.fingerprint, hX.derivationPath, hX.xpub, hX.btcTransaction⟩

/-- a hash newtype that reaches `serialize_map` as a key in a human-readable format is written as a string -/
theorem hashLeaf_str (k : HashKind) (v : DVal) : ∃ s, lossy .json ((hashLeaf k).toS true v) = .str s :=
  ⟨String.ofList (hashShow k (bytesOf v)), by simp [hashLeaf, sHash, lossy_sStr]⟩

theorem dWT_struct (ok : String → DVal → Prop) (tbl : Table) (n : Nat) (nm : String) (fields : List SerdeField) (flat : Bool)
    (vs : List DVal) (hl : tbl.lookup nm = some (.struct fields flat)) (hf : fieldsWT (dWT ok tbl n) fields vs) :
    dWT ok tbl (n+1) (.named nm) (.record vs) := by
  simp only [dWT, hl]; exact ⟨vs, rfl, hf⟩

theorem dWT_leaf (ok : String → DVal → Prop) (tbl : Table) (n : Nat) (nm : String) (v : DVal)
    (hl : tbl.lookup nm = Option.none) (hv : ok nm v) : dWT ok tbl (n+1) (.named nm) v := by
  simp only [dWT, hl]; exact hv

theorem fieldWT_plain (wt : SerdeTy → DVal → Prop) (key : String) (ty : SerdeTy) (v : DVal) (h : wt ty v) :
    fieldWT wt ⟨key, ty, ""⟩ v := by
  rw [fieldWT.eq_def, if_pos rfl]
  exact h

end EV.Serde
