/-
  The message schedule of EV.Model.Sha256K in the shape the kernel evaluates quickly, with the proof that nothing
  changes: `sha256F = sha256`, `sha256dF = sha256d`, `midstateF = midstate`.

  `Sha256K.sched` finds the words 2, 7, 15 and 16 places back by `List.getD` on the list built so far, and the
  kernel pays for every list cell such a lookup walks.  Here the newest 16 words are the 16 fields of a structure
  (`W16`) and a step shifts the fields.  That this is what `sched` computes is `sched_window`; its induction step
  holds by computation, because on a list whose first 16 cells are written out every `getD` reduces to one of them.
-/
import EV.Model.Sha256K
namespace EV.Sha256K

/-- the newest 16 words of the message schedule, oldest first -/
structure W16 where
  (w0 w1 w2 w3 w4 w5 w6 w7 w8 w9 w10 w11 w12 w13 w14 w15 : Nat)

def W16.next (s : W16) : W16 :=
  let s0 := xor3 (rotr s.w1 7) (rotr s.w1 18) (Nat.shiftRight s.w1 3)
  let s1 := xor3 (rotr s.w14 17) (rotr s.w14 19) (Nat.shiftRight s.w14 10)
  ⟨s.w1, s.w2, s.w3, s.w4, s.w5, s.w6, s.w7, s.w8, s.w9, s.w10, s.w11, s.w12, s.w13, s.w14, s.w15,
    Nat.mod (Nat.add (Nat.add (Nat.add s.w0 s0) s.w9) s1) M32⟩

def W16.more : Nat → W16 → List Nat
  | 0, _ => []
  | n + 1, s => s.next.w15 :: more n s.next

theorem sched_window (n : Nat) : ∀ (a0 a1 a2 a3 a4 a5 a6 a7 a8 a9 a10 a11 a12 a13 a14 a15 : Nat) (rest : List Nat),
    sched n (a15 :: a14 :: a13 :: a12 :: a11 :: a10 :: a9 :: a8 :: a7 :: a6 :: a5 :: a4 :: a3 :: a2 :: a1 :: a0 :: rest) =
      (W16.more n ⟨a0, a1, a2, a3, a4, a5, a6, a7, a8, a9, a10, a11, a12, a13, a14, a15⟩).reverse ++
        (a15 :: a14 :: a13 :: a12 :: a11 :: a10 :: a9 :: a8 :: a7 :: a6 :: a5 :: a4 :: a3 :: a2 :: a1 :: a0 :: rest) := by
  induction n with
  | zero =>
    intros
    rfl
  | succ n ih =>
    intro a0 a1 a2 a3 a4 a5 a6 a7 a8 a9 a10 a11 a12 a13 a14 a15 rest
    rw [W16.more, List.reverse_cons, List.append_assoc]
    -- the left side unfolds to `sched n (w :: a15 :: … :: a1 :: a0 :: rest)` with `w` the word `W16.next` makes
    exact ih a1 a2 a3 a4 a5 a6 a7 a8 a9 a10 a11 a12 a13 a14 a15 _ (a0 :: rest)

/-- the second arm is never taken on a 64-byte block; it makes `schedF_eq` hold of every list -/
def schedF (ws : List Nat) : List Nat :=
  match ws with
  | [a0, a1, a2, a3, a4, a5, a6, a7, a8, a9, a10, a11, a12, a13, a14, a15] =>
    ws ++ W16.more 48 ⟨a0, a1, a2, a3, a4, a5, a6, a7, a8, a9, a10, a11, a12, a13, a14, a15⟩
  | _ => (sched 48 ws.reverse).reverse

theorem schedF_eq (ws : List Nat) : schedF ws = (sched 48 ws.reverse).reverse := by
  unfold schedF
  split
  · simp only [List.reverse_cons, List.reverse_nil, List.nil_append, List.cons_append, sched_window,
      List.reverse_append, List.reverse_reverse]
  · rfl

def compressF (st : List Nat) (blk : Bytes) : List Nat :=
  List.zipWith add32 st (rounds (ofList st) kNat (schedF (words blk))).toList

theorem compressF_eq : compressF = compress := by
  funext st blk
  rw [compressF, schedF_eq]
  rfl

def blocksF : Nat → List Nat → Bytes → List Nat
  | 0, st, _ => st
  | _, st, [] => st
  | fuel + 1, st, b :: bs => blocksF fuel (compressF st ((b :: bs).take 64)) ((b :: bs).drop 64)

theorem blocksF_eq : ∀ fuel st bs, blocksF fuel st bs = blocks fuel st bs
  | 0, _, _ => rfl
  | _ + 1, _, [] => rfl
  | fuel + 1, st, b :: bs => by
    rw [blocksF, blocks, compressF_eq, blocksF_eq fuel]

def sha256F (msg : Bytes) : Bytes :=
  let padded := msg ++ Sha256.pad msg.length
  stateBytes (blocksF (padded.length / 64 + 1) ivNat padded)

theorem sha256F_eq : sha256F = sha256 := by
  funext msg
  rw [sha256F, sha256, blocksF_eq]

def sha256dF (msg : Bytes) : Bytes := sha256F (sha256F msg)

theorem sha256dF_eq : sha256dF = sha256d := by
  funext msg
  rw [sha256dF, sha256F_eq, sha256d]

def midstateF (l r : Bytes) : Bytes :=
  if (l ++ r).length = 64 then stateBytes (compressF ivNat (l ++ r)) else []

theorem midstateF_eq : midstateF = midstate := by
  funext l r
  rw [midstateF, midstate, compressF_eq]

end EV.Sha256K
