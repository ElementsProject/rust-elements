/-
  `Transaction::blind` over the algebraic model of the curve: the result balances, verifies, and can be
  unblinded.  The algebraic reading of the verifier that `EV.Proofs.BlindC05` builds on is here too:
  `AlgV`, `explicitOpenings`, `outCommit_eq_smul`.
-/
import EV.Proofs.BlindAlgebra
import EV.Proofs.BlindVerify
import EV.Proofs.BlindSelect

namespace EV.Blind
open EV

variable {A R M K RP SP : Type} [CommRing R] [AddCommGroup M] [Module R M]

/-- the blinder's primitives compute in the module; shared secrets are a function `kdf` of the ECDH point -/
structure AlgB (cv : Curve R M A) (kdf : M → K) (B : BPrims A R M K RP SP) : Prop where
  gen : ∀ a r, B.genBlinded a r = cv.gen a r
  commit : ∀ v r g, B.commit v r g = cv.pedersen v r g
  pub : ∀ r, B.pubOf r = r • cv.G
  ecdh : ∀ (pk : M) (r : R), B.ecdh pk r = kdf (r • pk)

structure AlgV (cv : Curve R M A) (V : VPrims A M RP SP) : Prop where
  gen : ∀ a, V.genUnblinded a = cv.tag a
  commit : ∀ v g, V.commitUnblinded v g = ((v : Nat) : R) • g
  sum : ∀ l r, V.sumEqual l r = true ↔ l.sum = r.sum

theorem AlgV.assetGen_explicit {cv : Curve R M A} {V : VPrims A M RP SP} (hV : AlgV cv V) {o : TxOut A M RP SP}
    {a : A} (ha : o.asset = .explicit a) : assetGen V o.asset = some (cv.tag a) := by
  rw [ha, assetGen, hV.gen]

/-- the openings (asset, value, 0, 0) of the fully explicit outputs among `outs`, in order -/
def explicitOpenings (outs : List (TxOut A M RP SP)) : List (Secrets A R) :=
  outs.filterMap (fun o =>
    match o.asset, o.value with
    | .explicit a, .explicit v => some ⟨a, v, 0, 0⟩
    | _, _ => none)

/-- what the input loop pushes for a spent output that `s` opens -/
def Curve.opening (cv : Curve R M A) (s : Secrets A R) : M × M := (cv.gen s.asset s.abf, cv.commit s)

omit [AddCommGroup M] [Module R M] in
theorem explicitOpenings_cons {o : TxOut A M RP SP} {a : A} {v : Nat} (ha : o.asset = .explicit a)
    (hv : o.value = .explicit v) (os : List (TxOut A M RP SP)) :
    (explicitOpenings (o :: os) : List (Secrets A R)) = ⟨a, v, 0, 0⟩ :: explicitOpenings os := by
  simp only [explicitOpenings, List.filterMap_cons, ha, hv]

section blind

omit [AddCommGroup M] [Module R M] in
theorem blind_balances_scalar (B : BPrims A R M K RP SP) (outputs : List (TxOut A M RP SP))
    (spent : List (Secrets A R)) (rands : Nat → Rand R) (entries : List (Entry A R M RP SP))
    (h : blind B outputs spent rands = .ok entries) :
    sumTerms (entries.map Entry.sec) = sumTerms spent := by
  obtain ⟨_, _, a, v, abf, pre, post, hsec⟩ := blind_spec B outputs spent rands entries h
  simp only [hsec, sumTerms_append, sumTerms_cons, term, lastVbf_eq]
  ring

omit [AddCommGroup M] [Module R M] in
theorem rel_amt [DecidableEq A] {B : BPrims A R M K RP SP} {spent : List (Secrets A R)}
    {outs : List (TxOut A M RP SP)} {entries : List (Entry A R M RP SP)}
    (h : Forall2 (Rel B spent) outs entries) (a : A) :
    amt a (entries.map Entry.sec) = amt a (explicitOpenings outs : List (Secrets A R)) := by
  induction h using Forall2.induction with
  | nil => rfl
  | cons hoe _ ih =>
    obtain ⟨a', v', ha, hv, hsa, hsv⟩ := hoe.explicit
    rw [List.map_cons, amt_cons, explicitOpenings_cons ha hv, amt_cons, ih, hsa, hsv]

theorem blind_balances_commit [DecidableEq A] (cv : Curve R M A) (B : BPrims A R M K RP SP)
    (outputs : List (TxOut A M RP SP)) (spent : List (Secrets A R)) (rands : Nat → Rand R)
    (entries : List (Entry A R M RP SP))
    (hbal : ∀ a, amt a spent = amt a (explicitOpenings outputs : List (Secrets A R)))
    (h : blind B outputs spent rands = .ok entries) :
    (spent.map cv.commit).sum = ((entries.map Entry.sec).map cv.commit).sum := by
  obtain ⟨_, hrel, _⟩ := blind_spec B outputs spent rands entries h
  apply cv.commit_balance
  · exact (blind_balances_scalar B outputs spent rands entries h).symm
  · intro a
    rw [hbal a, rel_amt hrel a]
end blind

/-- a zero is not committed to, and both sides are zero -/
theorem outCommit_eq_smul {cv : Curve R M A} {V : VPrims A M RP SP} (hV : AlgV cv V)
    {o : TxOut A M RP SP} {v : Nat} {g : M} (hv : o.value = .explicit v) (hg : assetGen V o.asset = some g) :
    (outCommit? V o).toList.sum = ((v : Nat) : R) • g := by
  by_cases h0 : v = 0
  · subst h0
    rw [outCommit?_explicit_zero V hv, Option.toList_none, List.sum_nil, Nat.cast_zero, zero_smul]
  · rw [outCommit?, valueCommit_explicit V hv h0 hg, hV.commit, Option.toList_some, List.sum_singleton]

section verifies
variable {cv : Curve R M A} {kdf : M → K} {B : BPrims A R M K RP SP} {V : VPrims A M RP SP}
  (hB : AlgB cv kdf B) (hV : AlgV cv V)
include hB hV

theorem rel_outCommit {spent : List (Secrets A R)} {o : TxOut A M RP SP} {e : Entry A R M RP SP}
    (h : Rel B spent o e) :
    (outCommit? V e.out).toList.sum = cv.commit e.sec := by
  induction h using Rel.elim with
  | unmarked _ ha hv =>
    rw [outCommit_eq_smul hV hv (hV.assetGen_explicit ha), cv.commit_eq]
    simp [Curve.tagPart, term]
  | marked _ _ _ _ hw =>
    obtain ⟨_, rp, sp, _, _, ho⟩ := withTxoutSecrets_ok_iff.1 hw
    rw [ho]
    simp [outCommit?, valueCommit, hB.commit, hB.gen, Curve.commit]

theorem rel_outCommits {spent : List (Secrets A R)}
    {outs : List (TxOut A M RP SP)} {entries : List (Entry A R M RP SP)}
    (h : Forall2 (Rel B spent) outs entries) :
    (outCommitsOf V (entries.map Entry.out)).sum = ((entries.map Entry.sec).map cv.commit).sum := by
  induction h using Forall2.induction with
  | nil => rfl
  | cons hoe _ ih =>
    simp only [List.map_cons, outCommitsOf_cons, List.sum_append, List.sum_cons, rel_outCommit hB hV hoe, ih]

/- completeness of the two proof systems -/
variable (hrange : ∀ c v vbf m spk k g rp, B.rangeProve c v vbf m spk k g = some rp →
    V.rangeVerify rp c spk g = true)
  (hsurj : ∀ a abf ins sp, B.surjProve a abf ins = some sp →
    V.surjVerify sp (B.genBlinded a abf) (ins.map (fun x => x.1)) = true)
include hrange hsurj

omit hV in
theorem rel_outOk {spent : List (Secrets A R)} {o : TxOut A M RP SP} {e : Entry A R M RP SP}
    (h : Rel B spent o e)
    (hzero : o.marked = false → o.value = .explicit 0 → isProvablyUnspendable o.script = true) :
    OutOk V (spent.map (fun s => cv.gen s.asset s.abf)) e.out := by
  induction h using Rel.elim with
  | unmarked hm ha hv => exact (outOk_explicit V _ o ⟨⟨_, ha⟩, _, hv⟩).2 (hzero hm)
  | marked _ _ _ _ hw =>
    obtain ⟨_, rp, sp, hsp, hrp, ho⟩ := withTxoutSecrets_ok_iff.1 hw
    have hdom : (surjInputs B spent).map (fun x => x.1) = spent.map (fun s => cv.gen s.asset s.abf) := by
      simp only [surjInputs, List.map_map, Function.comp_def, hB.gen]
    rw [ho, outOk_conf V _ rfl rfl]
    exact ⟨⟨rp, rfl, hrange _ _ _ _ _ _ _ _ hrp⟩, sp, rfl, hdom ▸ hsurj _ _ _ _ hsp⟩

/-- `htrue`: the caller supplies the true secrets of the spent outputs, i.e. the verifier's input loop yields
    exactly the generators and commitments that `spent` opens, in order (issuance pseudo-inputs included) -/
theorem blind_verifies' [DecidableEq A] (ins : List (TxIn A M)) (utxos outputs : List (TxOut A M RP SP)) (spent : List (Secrets A R))
    (rands : Nat → Rand R) (entries : List (Entry A R M RP SP))
    (hlen : utxos.length = ins.length)
    (htrue : inputPairs V 0 ins utxos = .ok (spent.map cv.opening))
    (hbal : ∀ a, amt a spent = amt a (explicitOpenings outputs : List (Secrets A R)))
    (hzero : ∀ o ∈ outputs, o.marked = false → o.value = .explicit 0 →
      isProvablyUnspendable o.script = true)
    (h : blind B outputs spent rands = .ok entries) :
    verify V ins (entries.map Entry.out) utxos = .ok := by
  obtain ⟨_, hrel, _⟩ := blind_spec B outputs spent rands entries h
  have hin := (inputPairs_ok_iff V 0 ins utxos _ hlen).1 htrue
  have hdom : domainOf V ins utxos = spent.map (fun s => cv.gen s.asset s.abf) := by
    rw [domainOf, ← hin.2, List.map_map]
    rfl
  have hinc : inCommitsOf V ins utxos = spent.map cv.commit := by
    rw [inCommitsOf, ← hin.2, List.map_map]
    rfl
  refine (verify_ok_iff' V ins _ utxos).2 ⟨hlen, hin.1, ?_, ?_⟩
  · intro o' ho'
    obtain ⟨e, he, rfl⟩ := List.mem_map.1 ho'
    obtain ⟨o, ho, hoe⟩ := hrel.exists_of_mem_right he
    rw [hdom]
    exact rel_outOk hB hrange hsurj hoe (hzero o ho)
  · rw [hV.sum, hinc, rel_outCommits hB hV hrel]
    exact blind_balances_commit cv B outputs spent rands entries hbal h
end verifies

section unblind
variable [DecidableEq M]

/-- unblinding inverts `with_txout_secrets`.  `hrew` is the assumed law of the range-proof system: rewinding
    a proof with the nonce key it was made with returns the committed value, its blinding factor and the
    embedded message. -/
theorem unblind_withTxoutSecrets (cv : Curve R M A) (kdf : M → K) (B : BPrims A R M K RP SP)
    (hB : AlgB cv kdf B)
    (hrew : ∀ c v vbf a abf spk k g rp, B.rangeProve c v vbf (a, abf) spk k g = some rp →
      B.rewind rp c k spk g = some (v, vbf, a, abf))
    (spent : List (Secrets A R)) (spk : Bytes) (sk esk : R) (sec : Secrets A R) (o : TxOut A M RP SP)
    (hw : withTxoutSecrets B spk (sk • cv.G) esk sec spent = .ok o) :
    unblind B o sk = .ok sec ∧ o.asset = .conf (cv.gen sec.asset sec.abf) ∧
    o.value = .conf (cv.commit sec) ∧ o.nonce = .conf (esk • cv.G) := by
  obtain ⟨_, rp, sp, _, hrp, rfl⟩ := withTxoutSecrets_ok_iff.1 hw
  have hk : B.ecdh (B.pubOf esk) sk = B.ecdh (sk • cv.G) esk := by
    rw [hB.ecdh, hB.ecdh, hB.pub, ecdh_symm]
  refine ⟨?_, by rw [hB.gen], ?_, by rw [hB.pub]⟩
  · simp only [unblind, hk, hrew _ _ _ _ _ _ _ _ _ hrp, if_true]
  · rw [hB.gen, hB.commit]
    rfl
end unblind

omit [AddCommGroup M] [Module R M] in
theorem blind_succeeds_balanced [DecidableEq A] (B : BPrims A R M K RP SP)
    (outputs : List (TxOut A M RP SP)) (spent : List (Secrets A R)) (rands : Nat → Rand R)
    (hrangeTotal : ∀ c v vbf m spk k g, 1 ≤ v → v < 2 ^ 63 → (B.rangeProve c v vbf m spk k g).isSome)
    (hsurjTotal : ∀ a abf, (∃ s ∈ spent, s.asset = a) → (B.surjProve a abf (surjInputs B spent)).isSome)
    (hbal : ∀ a, amt a spent = amt a (explicitOpenings outputs : List (Secrets A R)))
    (hexp : ∀ o ∈ outputs, o.allExplicit = true)
    (hpos : ∃ o ∈ outputs, o.marked = true)
    (hadr : ∀ o ∈ outputs, o.marked = true → addressable o.script = true)
    (hval : ∀ o ∈ outputs, o.marked = true → ∀ v, o.value = .explicit v → 1 ≤ v ∧ v < 2 ^ 63) :
    ∃ entries, blind B outputs spent rands = .ok entries := by
  apply blind_succeeds B outputs spent rands hexp ?_ hadr
  · intro o ho hm a v pk esk abf vbf ha hv hn
    obtain ⟨hv1, hv2⟩ := hval o ho hm v hv
    apply withTxoutSecrets_succeeds
    · -- `with_txout_secrets` refuses amounts below the range proof's minimum value, which is 1
      show ¬ (v < Gen.c04RangeproofMinValue)
      unfold Gen.c04RangeproofMinValue
      omega
    · -- the asset has a positive total among the outputs, hence among the spent outputs
      have hp : 0 < amt a (explicitOpenings outputs : List (Secrets A R)) :=
        (amt_pos_iff a _).2 ⟨⟨a, v, 0, 0⟩, List.mem_filterMap.2 ⟨o, ho, by simp only [ha, hv]⟩, rfl, hv1⟩
      rw [← hbal a, amt_pos_iff] at hp
      obtain ⟨s, hs, hsa, _⟩ := hp
      exact hsurjTotal a abf ⟨s, hs, hsa⟩
    · intro c k g
      exact hrangeTotal c v vbf _ _ k g hv1 hv2
  · obtain ⟨o, ho, hm⟩ := hpos
    exact List.length_pos_of_mem (List.mem_filter.2 ⟨ho, hm⟩)

end EV.Blind
