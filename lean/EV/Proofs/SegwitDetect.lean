/-
  EV.Proofs.SegwitDetect — what the finite tables give for the two decoders: one or two corrupted
  data characters are detected, whatever variant the corrupted string selects.
-/
import EV.Proofs.Detect
import EV.Proofs.PolymodFacts
import EV.Proofs.SegwitDecode
namespace EV.Bech32
open Code

theorem flavor_tables (f : Flavor) (hf : IsFlavor f) :
    f.v0.code.Table1 ∧ f.v0.code.Table2 (f.v0.target ^^^ f.vm.target) (f.switchBound - 1) := by
  rcases hf with rfl | rfl
  · exact ⟨bech32Code_table1, bech32Code_table2⟩
  · exact ⟨blech32Code_table1, blech32Code_table2⟩

/-- `w'` may select another variant (`ver'`) than `w` does (`ver`), hence the bound `f.switchBound` -/
theorem symbols_detect (f : Flavor) (hf : IsFlavor f) (ver ver' : Nat) (w w' : List Nat)
    (h : Corrupted w w') (hl : w.length ≤ f.switchBound)
    (hv : (f.variant ver).code.polymod w = (f.variant ver).target) :
    (f.variant ver').code.polymod w' ≠ (f.variant ver').target := by
  have ff := flavorFacts f hf
  obtain ⟨ht1, ht2⟩ := flavor_tables f hf
  rw [variant_code f hf] at hv ⊢
  have hne := residues_differ f.v0.code ff.good ff.lowBij ht1 w w' h (Nat.le_trans hl ff.bound_le)
  have hnc := residues_not_C_apart f.v0.code _ _ ht2 w w' h (by rwa [Nat.sub_add_cancel ff.bound_pos])
  intro hv'
  rcases variant_target_cases f ver ver' with e | e
  · exact hne (hv.trans (e.trans hv'.symm))
  · exact hnc (by rw [hv, hv', e])

theorem verify_detect (f : Flavor) (hf : IsFlavor f) (ver ver' : Nat) (hrp : Text)
    (hh : ∀ b ∈ hrp, b < 128) (syms syms' : List Nat) (h : Corrupted syms syms')
    (hl : (hrpExpand hrp ++ syms).length ≤ f.switchBound)
    (hver : verify (f.variant ver) hrp syms = true) : verify (f.variant ver') hrp syms' = false := by
  rw [verify_eq_true_iff] at hver
  rw [verify_eq_false_iff]
  exact symbols_detect f hf ver ver' _ _ (h.append_left _ (hrpExpand_lt hrp hh)) hl hver

/-- the data part `d` includes the witness-version character -/
theorem corrupted_data_rejected (f : Flavor) (hf : IsFlavor f) (h d d' : Text) (r : Seg)
    (hok : segwitNew f (h ++ 49 :: d) = .ok r) (hh : h.length ≤ 4)
    (hd : ∀ c ∈ d, (fromChar c).isSome = true) (hd' : ∀ c ∈ d', (fromChar c).isSome = true)
    (hlen : d'.length = d.length)
    (h1 : 1 ≤ diffCount (d.map sym) (d'.map sym)) (h2 : diffCount (d.map sym) (d'.map sym) ≤ 2) :
    ∃ k, segwitNew f (h ++ 49 :: d') = .err k := by
  refine segwitNew_err_of_not_ok _ _ fun r' hok' => ?_
  have htot := symbols_within_bound f hf h d r hok hh hd
  obtain ⟨_, _, hun, _, _, _, _, _, hver, _⟩ := (segwitNew_eq_ok_iff f _ r).mp hok
  obtain ⟨_, _, hun', _, _, _, _, _, hver', _⟩ := (segwitNew_eq_ok_iff f _ r').mp hok'
  have hp := ((uncheckedNew_eq_some_iff _ _ _).mp hun).2.1
  obtain ⟨rfl, rfl⟩ := uncheckedNew_split h d hd _ _ hun
  obtain ⟨e', rfl⟩ := uncheckedNew_split _ d' hd' _ _ hun'
  -- both strings verify, the second under whatever variant its own version symbol selects
  have := verify_detect f hf r.version r'.version r.hrp (hrpParse_lt _ hp) _ _
    ⟨by rw [List.length_map, List.length_map, hlen], map_sym_lt _, map_sym_lt _, h1, h2⟩ htot hver
  rw [← e', hver'] at this
  cases this

end EV.Bech32
