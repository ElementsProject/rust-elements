/-
  EV.Proofs.AddressOps — helper lemmas for the "conversions and constructors" section of property C06
  (`EV.Model.AddressOps`); the model's payload conversion is the one of `EV.Proofs.BridgeScriptAddress`.
-/
import EV.Model.AddressOps
import EV.Proofs.BridgeScriptAddress
namespace EV.Addr
open EV EV.Bech32 EV.Base58 EV.Proofs.BridgeScriptAddress

theorem natsOfBytes_eq (b : Bytes) : natsOfBytes b = toNats b := rfl

theorem bytesOfNats_eq (l : List Nat) : bytesOfNats l = ofNats l := rfl

theorem toScript_eq (p : Payload) : p.toScript = ofAddrPayload p := by cases p <;> rfl

theorem ofScript_eq (p : Script.Payload) : Payload.ofScript p = toAddrPayload p := by cases p <;> rfl

theorem scriptPubkey_toAddress (p : Gen.AddrParamsB) (pl : Script.Payload) (bl : Option (List Nat)) :
    scriptPubkey (toAddress p pl bl) = Script.scriptPubkey pl := by
  rw [scriptPubkey, toScript_eq, toAddress, of_to_payload]

theorem fromScript_eq (s : Bytes) (bl : Option (List Nat)) (p : Gen.AddrParamsB) :
    fromScript s bl p = (Script.fromScript s).map (toAddress p · bl) := by
  unfold fromScript
  cases Script.fromScript s with
  | none => rfl
  | some pl => exact congrArg (fun x => some (Address.mk p x bl)) (ofScript_eq pl)

/-- `Fe32::Q` = 0, `Fe32::P` = 1 (value of the bech32 characters `q`, `p`) -/
theorem version_consts :
    fe32OfChar Gen.p2wpkhVersionChar = 0 ∧ fe32OfChar Gen.p2wshVersionChar = 0 ∧
    fe32OfChar Gen.p2trVersionChar = 1 ∧ fe32OfChar Gen.p2trTweakedVersionChar = 1 := by decide

theorem paramsEq_iff (p q : Gen.AddrParamsB) :
    paramsEq p q = true ↔ (p.p2pkh = q.p2pkh ∧ p.p2sh = q.p2sh ∧ p.blinded = q.blinded ∧
      lower p.bechHrp = lower q.bechHrp ∧ lower p.blechHrp = lower q.blechHrp) := by
  simp only [paramsEq, Bool.and_eq_true, beq_iff_eq, and_assoc]

/-- on the network table field-wise equality is equality: no two built-in sets share even their p2pkh byte -/
theorem paramsEq_table (p q : Gen.AddrParamsB) (hp : p ∈ Gen.allParamsB) (hq : q ∈ Gen.allParamsB) :
    paramsEq p q = true ↔ p = q := by
  constructor
  · intro h
    have h1 := ((paramsEq_iff p q).1 h).1
    exact prefix_owner p hp q hq p.p2pkh (by simp [prefixBytes]) (by simp [prefixBytes, h1])
  · rintro rfl
    exact (paramsEq_iff p p).2 ⟨rfl, rfl, rfl, rfl, rfl⟩

theorem isLiquidParams_mem : Gen.isLiquidParams ∈ Gen.allParamsB := .head _

theorem findPrefix_display_wit (P : Prims) (p : Gen.AddrParamsB) (hnet : p ∈ Gen.allParamsB) (ver : Nat)
    (prog : List Nat) (bl : Option (List Nat)) (hver : ver ≤ 16) :
    findPrefix (display P ⟨p, .wit ver prog, bl⟩) = hrpOf bl.isSome p := by
  have := findPrefix_encode ((if bl.isSome then blechFlavor else crateFlavor).variant ver) (hrpOf bl.isSome p) ver
    (bytesToFes (bl.getD [] ++ prog)) false (by omega) (bytesToFes_lt _)
  rwa [map_cmap_false, map_cmap_false, lower_hrpOf _ p hnet, ← display_wit] at this

theorem p2trScript_eq (k : Bytes) (hk : k.length = 32) :
    Taproot.p2trScript k = Script.witnessScript Gen.opPushnum1 k ∧
    Taproot.p2trScript k = (Script.Payload.witnessProgram 1 k).pattern := by
  have e1 : Script.versionOpcode 1 = Gen.opPushnum1 := by decide
  have e2 : Gen.opPushnum1 = 0x51 := by decide
  constructor
  · simp only [Taproot.p2trScript, Script.witnessScript, hk, e2]
    rfl
  · simp only [Taproot.p2trScript, Script.Payload.pattern, Script.witnessScript, hk, e1, e2]
    rfl

/-- `p2tr` is `p2tr_tweaked` of the key `tap_tweak` returns -/
theorem p2tr_eq (E : Taproot.EC) (H : Taproot.TapHashes) (key : Bytes) (root : Option Bytes)
    (bl : Option (List Nat)) (p : Gen.AddrParamsB) :
    p2tr E H key root bl p = (Taproot.tapTweak E H key root).map fun qp => p2trTweaked qp.1 bl p := by
  unfold p2tr
  cases Taproot.tapTweak E H key root with
  | ok qp =>
    obtain ⟨q, par⟩ := qp
    simp only [Res.map, Res.bind, p2trTweaked, version_consts.2.2.1, version_consts.2.2.2]
  | err e => rfl
  | panic s => rfl

theorem nestedScript_eq (h : Bytes) : nestedScript 0 h = Script.scriptPubkey (.witnessProgram 0 h) := rfl

theorem nested_consts : Gen.p2shwpkhPushInt = 0 ∧ Gen.p2shwshPushInt = 0 := by decide

end EV.Addr
