/-
  EV.Proofs.AddrBase — the network table (`EV.Gen`), prefix matching (`find_prefix`, `match_prefix`) and the two
  dispatch loops of `Address::from_str`. Under `from_str` and `parse_with_params` alike a string whose prefix spells
  a network's hrp goes to `from_bech32` of that network (`parse_segwit`); one that matches no hrp goes to
  `from_base58` of the network that owns its version byte (`parse_base58`).
-/
import EV.Model.Address
import EV.Proofs.SegwitCodec
namespace EV.Addr
open EV.Bech32 EV.Base58

/-- `from_str` tries exactly the three networks -/
theorem order_eq_all : Gen.fromStrOrder = Gen.allParamsB := rfl

def prefixBytes (p : Gen.AddrParamsB) : List Nat := [p.p2pkh, p.p2sh, p.blinded]

def hrps (p : Gen.AddrParamsB) : List Text := [p.bechHrp, p.blechHrp]

instance (h : Text) : Decidable (HrpOk h) := by unfold HrpOk; exact inferInstance

theorem hrps_ok : ∀ h ∈ Gen.allParamsB.flatMap hrps, HrpOk h ∧ h.length ≤ 3 ∧ h.any isLower = true := by decide

/-- the hrp of a network's segwit addresses: the blech32 one for blinded addresses -/
def hrpOf : Bool → Gen.AddrParamsB → Text
  | true, p => p.blechHrp
  | false, p => p.bechHrp

theorem flavor_of (bl : Bool) : IsFlavor (if bl then blechFlavor else crateFlavor) := by
  cases bl
  · exact Or.inl rfl
  · exact Or.inr rfl

theorem hrpOf_mem (bl : Bool) (p : Gen.AddrParamsB) (hp : p ∈ Gen.allParamsB) :
    hrpOf bl p ∈ Gen.allParamsB.flatMap hrps :=
  List.mem_flatMap.2 ⟨p, hp, by cases bl <;> simp [hrpOf, hrps]⟩

theorem lower_hrpOf (bl : Bool) (p : Gen.AddrParamsB) (hp : p ∈ Gen.allParamsB) : lower (hrpOf bl p) = hrpOf bl p :=
  hrpOk_lower _ (hrps_ok _ (hrpOf_mem bl p hp)).1

theorem hrpOf_inj : ∀ p ∈ Gen.allParamsB, ∀ q ∈ Gen.allParamsB, ∀ bl bl', hrpOf bl p = hrpOf bl' q → bl = bl' ∧ p = q := by
  decide

theorem prefix_owner : ∀ p ∈ Gen.allParamsB, ∀ q ∈ Gen.allParamsB, ∀ b ∈ prefixBytes p, b ∈ prefixBytes q → p = q := by
  decide

theorem prefix_facts : ∀ p ∈ Gen.allParamsB,
    p.p2pkh ≠ p.blinded ∧ p.p2sh ≠ p.blinded ∧ p.p2sh ≠ p.p2pkh ∧
    p.p2pkh < 256 ∧ p.p2sh < 256 ∧ p.blinded < 256 := by
  decide

/-- the bytes of an ASCII string literal: it unfolds to `String.ofList` of its characters, and `toList` undoes
    `ofList` by a theorem, so that the UTF-8 codec is not run -/
theorem ascii_toList (l : List Nat) (h : ∀ n ∈ l, n < 128) :
    (String.ofList (l.map Char.ofNat)).toList.map Char.toNat = l := by
  have toNat_ofNat : ∀ n ∈ l, (Char.toNat ∘ Char.ofNat) n = n := by
    intro n hn
    have hv : n.isValidChar := Or.inl (Nat.lt_trans (h n hn) (by decide))
    simp only [Function.comp, Char.ofNat, dif_pos hv]
    rfl
  rw [String.toList_ofList, List.map_map]
  exact map_eq_self toNat_ofNat

theorem matchPrefix_eq (pre hrp X : Text) (h1 : lower pre = X) (h2 : pre.length = X.length) :
    matchPrefix pre hrp = (hrp.length == X.length && lower hrp == X) := by
  simp [matchPrefix, h1, h2]

theorem matchPrefix_iff (pre hrp : Text) :
    matchPrefix pre hrp = true ↔ lower hrp = lower pre := by
  simp only [matchPrefix, Bool.and_eq_true, beq_iff_eq]
  constructor
  · exact fun h => h.2
  · intro h
    refine ⟨?_, h⟩
    have := congrArg List.length h
    simpa [lower] using this

theorem matchPrefix_hrpOf (pre : Text) (bl : Bool) (p : Gen.AddrParamsB) (hp : p ∈ Gen.allParamsB) :
    matchPrefix pre (hrpOf bl p) = true ↔ lower pre = hrpOf bl p := by
  rw [matchPrefix_iff, lower_hrpOf bl p hp]
  exact eq_comm

theorem dispatchBech_cases (P : Prims) (s pre : Text) (nets : List Gen.AddrParamsB) :
    ((∀ p ∈ nets, ∀ bl, matchPrefix pre (hrpOf bl p) = false) ∧ dispatchBech P s pre nets = none) ∨
    ∃ p ∈ nets, ∃ bl, matchPrefix pre (hrpOf bl p) = true ∧
      dispatchBech P s pre nets = some (fromBech32 P s bl p) := by
  induction nets with
  | nil => exact Or.inl ⟨nofun, rfl⟩
  | cons n nets ih =>
    unfold dispatchBech
    split
    · next hm => exact Or.inr ⟨n, List.mem_cons_self, false, hm, rfl⟩
    · next h1 =>
      split
      · next hm => exact Or.inr ⟨n, List.mem_cons_self, true, hm, rfl⟩
      · next h2 =>
        rcases ih with ⟨hno, he⟩ | ⟨p, hp, hr⟩
        · refine Or.inl ⟨List.forall_mem_cons.2 ⟨?_, hno⟩, he⟩
          rintro (_ | _)
          · exact Bool.eq_false_iff.2 h1
          · exact Bool.eq_false_iff.2 h2
        · exact Or.inr ⟨p, List.mem_cons_of_mem _ hp, hr⟩

theorem dispatchBech_hit (P : Prims) (s pre : Text) (p : Gen.AddrParamsB) (hp : p ∈ Gen.allParamsB) (bl : Bool)
    (h : lower pre = hrpOf bl p) : dispatchBech P s pre Gen.fromStrOrder = some (fromBech32 P s bl p) := by
  rw [order_eq_all]
  rcases dispatchBech_cases P s pre Gen.allParamsB with ⟨hno, _⟩ | ⟨q, hq, bl', hm, he⟩
  · have := hno p hp bl
    rw [(matchPrefix_hrpOf pre bl p hp).2 h] at this
    cases this
  · obtain ⟨rfl, rfl⟩ := hrpOf_inj q hq p hp bl' bl (((matchPrefix_hrpOf pre bl' q hq).1 hm).symm.trans h)
    exact he

theorem dispatchBase58_cases (P : Prims) (data : List Nat) (b0 : Nat) (nets : List Gen.AddrParamsB) :
    ((∀ p ∈ nets, b0 ∉ prefixBytes p) ∧ dispatchBase58 P data b0 nets = .err "InvalidAddress") ∨
    ∃ p ∈ nets, b0 ∈ prefixBytes p ∧ dispatchBase58 P data b0 nets = fromBase58 P data p := by
  have test : ∀ n : Gen.AddrParamsB, (b0 = n.p2pkh || b0 = n.p2sh || b0 = n.blinded) = true ↔ b0 ∈ prefixBytes n :=
    fun n => by simp [prefixBytes, or_assoc]
  induction nets with
  | nil => exact Or.inl ⟨nofun, rfl⟩
  | cons n nets ih =>
    simp only [dispatchBase58, test]
    split
    · rename_i hm
      exact Or.inr ⟨n, List.mem_cons_self, hm, rfl⟩
    · rename_i hm
      rcases ih with ⟨hno, he⟩ | ⟨p, hp, hb, he⟩
      · exact Or.inl ⟨List.forall_mem_cons.2 ⟨hm, hno⟩, he⟩
      · exact Or.inr ⟨p, List.mem_cons_of_mem _ hp, hb, he⟩

theorem dispatchBase58_hit (P : Prims) (data : List Nat) (b0 : Nat) (p : Gen.AddrParamsB) (hp : p ∈ Gen.allParamsB)
    (hb : b0 ∈ prefixBytes p) : dispatchBase58 P data b0 Gen.fromStrOrder = fromBase58 P data p := by
  rw [order_eq_all]
  rcases dispatchBase58_cases P data b0 Gen.allParamsB with ⟨hno, _⟩ | ⟨q, hq, hbq, he⟩
  · exact absurd hb (hno p hp)
  · rw [he, prefix_owner q hq p hp b0 hbq hb]

theorem findPrefix_split (h d : Text) (hd : ∀ c ∈ d, c ≠ 49) : findPrefix (h ++ 49 :: d) = h := by
  simp [findPrefix, splitLast_append h d hd]

theorem head?_findPrefix (s : Text) (h : findPrefix s ≠ []) : (findPrefix s).head? = s.head? := by
  cases hs : splitLast s with
  | none => simp only [findPrefix, hs]
  | some hd =>
    obtain ⟨hh, d⟩ := hd
    simp only [findPrefix, hs] at h ⊢
    obtain ⟨rfl, _⟩ := (splitLast_eq_some_iff _ _ _).mp hs
    cases hh with
    | nil => exact absurd rfl h
    | cons a t => rfl

theorem parse_segwit (P : Prims) (s : Text) (p : Gen.AddrParamsB) (hp : p ∈ Gen.allParamsB) (bl : Bool)
    (h : lower (findPrefix s) = hrpOf bl p) (r : Res Address) (hr : fromBech32 P s bl p = r) :
    fromStr P s = r ∧ parseWithParams P s p = r := by
  subst hr
  constructor
  · simp only [fromStr, dispatchBech_hit P s _ p hp bl h]
  · have hyes : matchPrefix (findPrefix s) (hrpOf bl p) = true := (matchPrefix_hrpOf _ bl p hp).2 h
    cases bl with
    | true =>
      -- `hrpOf true p` is `p.blechHrp` by computation; `simp only` needs the hypothesis in that form
      have hyes : matchPrefix (findPrefix s) p.blechHrp = true := hyes
      simp only [parseWithParams, hyes, Bool.or_true, if_true]
    | false =>
      have hyes : matchPrefix (findPrefix s) p.bechHrp = true := hyes
      have hno : matchPrefix (findPrefix s) p.blechHrp = false := by
        cases hm : matchPrefix (findPrefix s) p.blechHrp with
        | false => rfl
        | true => cases (hrpOf_inj p hp p hp true false (((matchPrefix_hrpOf _ true p hp).1 hm).symm.trans h)).1
      simp only [parseWithParams, hyes, hno, Bool.or_false, if_true]

theorem parse_segwit_err (P : Prims) (s : Text) (p : Gen.AddrParamsB) (hp : p ∈ Gen.allParamsB) (bl : Bool)
    (h : lower (findPrefix s) = hrpOf bl p) (k : String)
    (herr : segwitNew (if bl then blechFlavor else crateFlavor) s = .err k) :
    fromStr P s = .err k ∧ parseWithParams P s p = .err k :=
  parse_segwit P s p hp bl h _ (by simp only [fromBech32, herr])

theorem parse_base58 (P : Prims) (s : Text) (p : Gen.AddrParamsB) (hp : p ∈ Gen.allParamsB)
    (hno : dispatchBech P s (findPrefix s) Gen.fromStrOrder = none) (hlen : ¬ s.length > 150) (b0 : Nat) (rest : List Nat)
    (hd : decodeCheck P.sha256d s = some (b0 :: rest)) (hb : b0 ∈ prefixBytes p)
    (r : Res Address) (hr : fromBase58 P (b0 :: rest) p = r) : fromStr P s = r ∧ parseWithParams P s p = r := by
  subst hr
  have hnm : ∀ bl, matchPrefix (findPrefix s) (hrpOf bl p) = false := by
    rcases dispatchBech_cases P s (findPrefix s) Gen.fromStrOrder with ⟨hnm, _⟩ | ⟨_, _, _, _, he⟩
    · exact hnm p hp
    · rw [hno] at he
      cases he
  have h1 : matchPrefix (findPrefix s) p.bechHrp = false := hnm false
  have h2 : matchPrefix (findPrefix s) p.blechHrp = false := hnm true
  constructor
  · simp only [fromStr, hno, hlen, if_false, hd]
    exact dispatchBase58_hit P _ b0 p hp hb
  · simp only [parseWithParams, h1, h2, Bool.or_self, Bool.false_eq_true, if_false, hlen, hd]

/-- `e`, `l`, `t` are the initials of the network hrps -/
theorem no_match_of_head (P : Prims) (c : Nat) (st : Text) (hc : lowerByte c ∉ [101, 108, 116]) :
    dispatchBech P (c :: st) (findPrefix (c :: st)) Gen.fromStrOrder = none := by
  have heads : ∀ p ∈ Gen.allParamsB, ∀ bl, ∃ x ∈ [101, 108, 116], (hrpOf bl p).head? = some x := by decide
  rcases dispatchBech_cases P (c :: st) (findPrefix (c :: st)) Gen.fromStrOrder with ⟨_, he⟩ | ⟨p, hp, bl, hm, _⟩
  · exact he
  · obtain ⟨x, hx, hhead⟩ := heads p hp bl
    rw [← (matchPrefix_hrpOf _ bl p hp).1 hm, lower, List.head?_map] at hhead
    have hne : findPrefix (c :: st) ≠ [] := by
      intro h0
      rw [h0] at hhead
      cases hhead
    rw [head?_findPrefix _ hne] at hhead
    exact absurd (Option.some.inj hhead ▸ hx) hc

end EV.Addr
