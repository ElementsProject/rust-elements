/-
  EV.Proofs.AddrCanonical — what a parse can return. `Route P s p a` says how `s` reached a payload decoder of
  network `p` (`from_bech32` behind a matching hrp, `from_base58` behind `decode_check`) and that the decoder
  returned `a`; both parsers succeed exactly along a route (`fromStr_post`, `parseWithParams_post`; conversely
  `parse_of_route`). Read off it: never a panic, a standard address whose display is the canonical form of the
  parsed string (`route_sound`), and at most one network per string (`routes_agree`).
-/
import EV.Proofs.AddrRoundtrip
namespace EV.Addr
open EV.Bech32 EV.Base58

/-- what `from_bech32` builds from a decoded string: the 33-byte blinding key, if any, is split off the payload -/
theorem fromBech32_post (P : Prims) (s : Text) (bl : Bool) (p : Gen.AddrParamsB) :
    (fromBech32 P s bl p).Post fun a =>
      ∃ seg, segwitNew (if bl then blechFlavor else crateFlavor) s = .ok seg ∧ ∃ prog key,
        a = ⟨p, .wit seg.version prog, key⟩ ∧ key.isSome = bl ∧ key.getD [] ++ prog = seg.bytes ∧ BlinderOk P key := by
  unfold fromBech32
  cases hs : segwitNew (if bl then blechFlavor else crateFlavor) s with
  | err k => exact .err trivial
  | panic site => exact absurd hs (segwitNew_not_panic _ _ _)
  | ok seg =>
    dsimp only
    cases bl with
    | false => exact .ok ⟨seg, rfl, _, none, rfl, rfl, rfl, trivial⟩
    | true =>
      rw [if_pos rfl]
      refine .guard fun hlen => .guard fun hpk => .ok ⟨seg, rfl, _, some _, rfl, rfl, List.take_append_drop 33 _, ?_⟩
      exact ⟨List.length_take_of_le (Nat.not_lt.1 hlen), by simpa using hpk,
        fun b hb => fesToBytes_lt _ b (List.mem_of_mem_take hb)⟩

/-- what `from_base58` builds from the decoded bytes: an address that prints as those bytes, standard if they are
    bytes -/
structure OfBytes (P : Prims) (p : Gen.AddrParamsB) (data : List Nat) (a : Address) : Prop where
  params : a.params = p
  bytes : base58Bytes a = some data
  std : bytesOk data → PayloadStd a.payload ∧ BlinderOk P a.blinder

theorem kindOf_post (p : Gen.AddrParamsB) (v : Nat) (h : List Nat) (bl : Option (List Nat)) :
    (kindOf p v h bl).Post fun a => ∃ pl, a = ⟨p, pl, bl⟩ ∧
      base58Bytes a = some (match bl with | some pk => p.blinded :: v :: (pk ++ h) | none => v :: h) ∧
      (h.length = 20 → bytesOk h → PayloadStd pl) := by
  unfold kindOf
  by_cases h1 : v = p.p2pkh
  · rw [if_pos h1]
    exact .ok ⟨.pkh h, rfl, h1 ▸ rfl, And.intro⟩
  by_cases h2 : v = p.p2sh
  · rw [if_neg h1, if_pos h2]
    exact .ok ⟨.sh h, rfl, h2 ▸ rfl, And.intro⟩
  · rw [if_neg h1, if_neg h2]
    exact .err trivial

theorem fromBase58_post (P : Prims) (data : List Nat) (p : Gen.AddrParamsB) :
    (fromBase58 P data p).Post (OfBytes P p data) := by
  cases data with
  | nil => exact .err trivial
  | cons b0 rest =>
    by_cases hb : b0 = p.blinded
    · subst hb
      cases rest with
      | nil =>
        rw [fromBase58, if_pos rfl]
        exact .err trivial
      | cons pre pkh =>
        rw [fromBase58_blinded]
        refine .guard fun hlen => .guard fun hpk => (kindOf_post p pre _ _).imp ?_
        rintro _ _ ⟨pl, rfl, hpl, hstd⟩
        have hlen : pkh.length = 53 := Classical.not_not.1 hlen
        refine ⟨rfl, ?_, fun hd => ?_⟩
        · exact hpl.trans (congrArg (fun l => some (p.blinded :: pre :: l)) (List.take_append_drop 33 pkh))
        · have hd : bytesOk pkh := fun b hb => hd b (List.mem_cons_of_mem _ (List.mem_cons_of_mem _ hb))
          exact ⟨hstd (by simp [hlen]) fun b hb => hd b (List.mem_of_mem_drop hb),
            by simp [hlen], by simpa using hpk, fun b hb => hd b (List.mem_of_mem_take hb)⟩
    · rw [fromBase58_plain P p b0 rest hb]
      refine .guard fun hlen => (kindOf_post p b0 rest none).imp ?_
      rintro _ _ ⟨pl, rfl, hpl, hstd⟩
      exact ⟨rfl, hpl, fun hd =>
        ⟨hstd (Classical.not_not.1 hlen) fun b hb => hd b (List.mem_cons_of_mem _ hb), trivial⟩⟩

theorem fromBase58_not_segwit (P : Prims) (data : List Nat) (p : Gen.AddrParamsB) (a : Address)
    (h : fromBase58 P data p = .ok a) : a.payload.isSegwit = false :=
  (not_segwit_iff a).2 ⟨data, ((fromBase58_post P data p).of_ok h).bytes⟩

/-- `s` reached a payload decoder of network `p`, which returned `a` -/
inductive Route (P : Prims) (s : Text) (p : Gen.AddrParamsB) (a : Address) : Prop where
  | segwit (bl : Bool) (hm : lower (findPrefix s) = hrpOf bl p) (h : fromBech32 P s bl p = .ok a)
  | base58 (data : List Nat) (hd : decodeCheck P.sha256d s = some data) (h : fromBase58 P data p = .ok a)

theorem Route.params {P : Prims} {s : Text} {p : Gen.AddrParamsB} {a : Address} (r : Route P s p a) : a.params = p := by
  cases r with
  | segwit bl _ h =>
    obtain ⟨_, _, _, _, rfl, _⟩ := (fromBech32_post P s bl p).of_ok h
    rfl
  | base58 data _ h => exact ((fromBase58_post P data p).of_ok h).params

/-- `parse_with_params` hands the string to one of the two payload decoders, or fails before -/
theorem parseWithParams_post (P : Prims) (s : Text) (p : Gen.AddrParamsB) :
    (parseWithParams P s p).Post fun a => p ∈ Gen.allParamsB → Route P s p a := by
  unfold parseWithParams
  dsimp only
  split
  · next hm =>
    cases hbl : matchPrefix (findPrefix s) p.blechHrp with
    | true =>
      exact (fromBech32_post P s true p).imp fun a ha _ hp => .segwit true ((matchPrefix_hrpOf _ true p hp).1 hbl) ha
    | false =>
      rw [hbl, Bool.or_false] at hm
      exact (fromBech32_post P s false p).imp fun a ha _ hp => .segwit false ((matchPrefix_hrpOf _ false p hp).1 hm) ha
  · refine .guard fun _ => ?_
    split
    · exact .err trivial
    · next data hdec => exact (fromBase58_post P data p).imp fun a ha _ _ => .base58 data hdec ha

/-- `from_str`: to a decoder of one of the three networks, the one its result names -/
theorem fromStr_post (P : Prims) (s : Text) :
    (fromStr P s).Post fun a => a.params ∈ Gen.allParamsB ∧ Route P s a.params a := by
  have of_route : ∀ p ∈ Gen.allParamsB, ∀ a, Route P s p a → a.params ∈ Gen.allParamsB ∧ Route P s a.params a :=
    fun p hp a r => r.params.symm ▸ ⟨hp, r⟩
  unfold fromStr
  rcases dispatchBech_cases P s (findPrefix s) Gen.fromStrOrder with ⟨_, he⟩ | ⟨p, hp, bl, hm, he⟩
  · rw [he]
    refine .guard fun _ => ?_
    split
    · exact .err trivial
    · next data hdec =>
      cases data with
      | nil => exact .err trivial
      | cons b0 rest =>
        show (dispatchBase58 P (b0 :: rest) b0 Gen.fromStrOrder).Post _
        rcases dispatchBase58_cases P (b0 :: rest) b0 Gen.fromStrOrder with ⟨_, he⟩ | ⟨p, hp, _, he⟩
        · rw [he]
          exact .err trivial
        · rw [he]
          exact (fromBase58_post P _ p).imp fun a ha _ => of_route p hp a (.base58 _ hdec ha)
  · rw [he]
    exact (fromBech32_post P s bl p).imp fun a ha _ =>
      of_route p hp a (.segwit bl ((matchPrefix_hrpOf _ bl p hp).1 hm) ha)

theorem encode_congr_lower (v : Variant) (h1 h2 : Text) (ver : Nat) (fes : List Nat) (h : lower h1 = lower h2) :
    Bech32.encode v h1 ver fes = Bech32.encode v h2 ver fes := by
  unfold Bech32.encode
  rw [← hrpExpand_lower h1, ← hrpExpand_lower h2, h]

theorem fromBech32_sound (P : Prims) (s : Text) (bl : Bool) (p : Gen.AddrParamsB) (hp : p ∈ Gen.allParamsB)
    (a : Address) (hm : lower (findPrefix s) = hrpOf bl p) (h : fromBech32 P s bl p = .ok a) :
    WF P a ∧ display P a = lower s ∧ a.payload.isSegwit = true := by
  obtain ⟨seg, hseg, prog, blr, rfl, rfl, hbytes, hkey⟩ := (fromBech32_post P s bl p).of_ok h
  obtain ⟨hlow, hver, hfes, hpad, hvl, d, hsd, hal, _⟩ := encode_of_segwitNew _ (flavor_of _) s seg hseg
  rw [hsd, findPrefix_split _ _ (no_sep_of_alphabet d hal)] at hm
  have hlt : bytesOk (blr.getD [] ++ prog) := hbytes ▸ fesToBytes_lt _
  -- the decoder's length test, read on the decoded bytes `key ++ prog`
  rw [← fesToBytes_length, ← Seg.bytes, ← hbytes, List.length_append, hkey.key.1, Nat.add_comm, validateLength_key] at hvl
  refine ⟨⟨hp, ⟨hver, hvl.1, hvl.2.1, hvl.2.2, fun b hb => hlt b (List.mem_append_right _ hb)⟩, hkey⟩, ?_, rfl⟩
  rw [display_wit, hbytes, Seg.bytes, bytesToFes_fesToBytes seg.fes hfes hpad, hlow]
  exact encode_congr_lower _ _ _ _ _ ((lower_hrpOf _ p hp).trans hm.symm)

theorem fromBase58_sound (P : Prims) (s : Text) (data : List Nat) (p : Gen.AddrParamsB) (hp : p ∈ Gen.allParamsB)
    (a : Address) (hd : decodeCheck P.sha256d s = some data) (h : fromBase58 P data p = .ok a) :
    WF P a ∧ a.params = p ∧ base58Bytes a = some data ∧ display P a = s := by
  obtain ⟨hpar, hbs, hstd⟩ := (fromBase58_post P data p).of_ok h
  obtain ⟨hpl, hbl⟩ := hstd (decodeCheck_lt _ _ _ hd)
  refine ⟨⟨hpar ▸ hp, hpl, hbl⟩, hpar, hbs, ?_⟩
  rw [display_base58 P a data hbs]
  exact encodeCheck_decodeCheck _ _ _ hd

theorem route_sound (P : Prims) (s : Text) (p : Gen.AddrParamsB) (hp : p ∈ Gen.allParamsB) (a : Address)
    (r : Route P s p a) :
    WF P a ∧ display P a = (if a.payload.isSegwit then lower s else s) := by
  cases r with
  | segwit bl hm h =>
    obtain ⟨hwf, hd, hs⟩ := fromBech32_sound P s bl p hp a hm h
    exact ⟨hwf, hd.trans (if_pos hs).symm⟩
  | base58 data hd h =>
    obtain ⟨hwf, _, _, hdisp⟩ := fromBase58_sound P s data p hp a hd h
    exact ⟨hwf, hdisp.trans (if_neg (Bool.eq_false_iff.1 (fromBase58_not_segwit P data p a h))).symm⟩

/-- what `from_str` accepts: the address is standard and its display is the string itself (base58 forms) or its
    lower-case form (segwit forms) -/
theorem fromStr_sound (P : Prims) (s : Text) (a : Address) (h : fromStr P s = .ok a) :
    WF P a ∧ display P a = (if a.payload.isSegwit then lower s else s) := by
  obtain ⟨hp, r⟩ := (fromStr_post P s).of_ok h
  exact route_sound P s a.params hp a r

/-- the same for `parse_with_params` of one of the three networks, which the result names -/
theorem parseWithParams_sound (P : Prims) (s : Text) (p : Gen.AddrParamsB) (hp : p ∈ Gen.allParamsB) (a : Address)
    (h : parseWithParams P s p = .ok a) :
    a.params = p ∧ WF P a ∧ display P a = (if a.payload.isSegwit then lower s else s) := by
  have r := (parseWithParams_post P s p).of_ok h hp
  exact ⟨r.params, route_sound P s p hp a r⟩

/-- the same string is accepted by a segwit decoder and is a valid base58check string: the second disjunct of C06's
    statements about one network, never taken by their proofs (`routes_agree`). It is not refutable for all `P`, the
    hash being a parameter: a printed segwit address whose characters avoid `0` and `l` is a base58 string, and a valid
    base58check string under the hash function that is constantly its last four bytes -/
def MixedForms (P : Prims) (s : Text) : Prop :=
  (∃ f seg, IsFlavor f ∧ segwitNew f s = .ok seg) ∧ (∃ data, decodeCheck P.sha256d s = some data)

/-- conversely both parsers accept along a route. For the base58 route: what `from_base58` accepts under a table
    network is the printed form of a standard address, which parses back (`base58_roundtrip`) -/
theorem parse_of_route (P : Prims) (s : Text) (p : Gen.AddrParamsB) (hp : p ∈ Gen.allParamsB) (a : Address)
    (r : Route P s p a) : fromStr P s = .ok a ∧ parseWithParams P s p = .ok a := by
  cases r with
  | segwit bl hm h => exact parse_segwit P s p hp bl hm _ h
  | base58 data hd h =>
    obtain ⟨hwf, hpar, hbs, hdisp⟩ := fromBase58_sound P s data p hp a hd h
    have := (base58_roundtrip P a hwf data hbs).2
    rwa [hdisp, hpar] at this

/-- `from_str` accepts exactly what `parse_with_params` of one of the three networks accepts, with the same result -/
theorem fromStr_ok_iff (P : Prims) (s : Text) (a : Address) :
    fromStr P s = .ok a ↔ a.params ∈ Gen.allParamsB ∧ parseWithParams P s a.params = .ok a := by
  constructor
  · intro h
    obtain ⟨hp, r⟩ := (fromStr_post P s).of_ok h
    exact ⟨hp, (parse_of_route P s _ hp a r).2⟩
  · rintro ⟨hp, h⟩
    exact (parse_of_route P s _ hp a ((parseWithParams_post P s _).of_ok h hp)).1

/-- a string parses under at most one network, and to one address: both results are `from_str`'s -/
theorem routes_agree (P : Prims) (s : Text) (p q : Gen.AddrParamsB) (hp : p ∈ Gen.allParamsB)
    (hq : q ∈ Gen.allParamsB) (a b : Address) (ha : parseWithParams P s p = .ok a)
    (hb : parseWithParams P s q = .ok b) : p = q ∧ a = b := by
  have ra := (parseWithParams_post P s p).of_ok ha hp
  have rb := (parseWithParams_post P s q).of_ok hb hq
  obtain rfl := Res.ok.inj ((parse_of_route P s p hp a ra).1.symm.trans (parse_of_route P s q hq b rb).1)
  exact ⟨ra.params.symm.trans rb.params, rfl⟩

end EV.Addr
