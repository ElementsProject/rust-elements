/-
  A concrete module in which every hypothesis of the C04/C05 theorems holds, so that none is vacuous:
    scalars `ℤ`, assets `Bool`, points `Option Bool → ℤ` (the free module on {G, tag false, tag true}),
    proofs that are the statement they prove.
-/
import Mathlib.Algebra.Module.Pi
import Mathlib.Algebra.BigOperators.Pi
import EV.Proofs.BlindC05

namespace EV.Blind.Inst
open EV EV.Blind

abbrev Pt := Option Bool → ℤ

/-- equality of points is decided classically (the instance is only used in statements) -/
noncomputable instance : DecidableEq Pt := Classical.decEq _

def cv : Curve ℤ Pt Bool := ⟨Pi.single none 1, fun b => Pi.single (some b) 1⟩

theorem indep : Indep cv := by
  intro S c r h
  constructor
  · intro a ha
    have := congrFun h (some a)
    simp only [cv, Pi.add_apply, Finset.sum_apply, Pi.smul_apply, Pi.single_apply, smul_eq_mul,
      Option.some.injEq, mul_ite, mul_one, mul_zero, Pi.zero_apply, reduceCtorEq, if_false, add_zero] at this
    rw [Finset.sum_ite_eq S a, if_pos ha] at this
    exact this
  · have := congrFun h none
    simpa [cv, Finset.sum_apply, Pi.single_apply] using this

theorem castInj (B : Nat) : CastInj ℤ B := fun _ _ _ _ h => by exact_mod_cast h

theorem noTorsion_G (B : Nat) : NoTorsion ℤ cv.G B := by
  intro k hk _ h
  have := congrFun h none
  simp [cv] at this
  omega

theorem noTorsion_tag (B : Nat) (a : Bool) : NoTorsion ℤ (cv.tag a) B :=
  indep.noTorsion_tag (castInj B) a

structure RPz where
  commitment : Pt
  script : Bytes
  generator : Pt
  key : Pt
  opening : Nat × ℤ × Bool × ℤ

noncomputable instance : DecidableEq RPz := Classical.decEq _

abbrev SPz := Pt × List Pt

noncomputable def Vz : VPrims Bool Pt RPz SPz where
  genUnblinded := cv.tag
  commitUnblinded := fun v g => (v : ℤ) • g
  rangeVerify := fun rp c spk g => decide (rp.commitment = c ∧ rp.script = spk ∧ rp.generator = g)
  surjVerify := fun sp g dom => decide (sp = (g, dom))
  sumEqual := fun l r => decide (l.sum = r.sum)

noncomputable def Bz : BPrims Bool ℤ Pt Pt RPz SPz where
  genBlinded := cv.gen
  commit := cv.pedersen
  pubOf := fun r => r • cv.G
  ecdh := fun pk r => r • pk
  rangeProve := fun c v vbf m spk k g =>
    if 1 ≤ v ∧ v < 2 ^ 63 then some ⟨c, spk, g, k, (v, vbf, m.1, m.2)⟩ else none
  surjProve := fun a abf ins =>
    if ins.any (fun x => x.2.1 = a) then some (cv.gen a abf, ins.map (fun x => x.1)) else none
  rewind := fun rp c k spk g =>
    if rp.commitment = c ∧ rp.script = spk ∧ rp.generator = g ∧ rp.key = k then some rp.opening else none

theorem algB : AlgB cv id Bz := ⟨fun _ _ => rfl, fun _ _ _ => rfl, fun _ => rfl, fun _ _ => rfl⟩

theorem algV : AlgV cv Vz := ⟨fun _ => rfl, fun _ _ => rfl, fun l r => by simp [Vz]⟩

theorem verify_10_9_1 : verify Vz [⟨.null, .null, false, false⟩]
    [⟨.explicit true, .explicit 9, .null, [1], none, none⟩, ⟨.explicit true, .explicit 1, .null, [], none, none⟩]
    [⟨.explicit true, .explicit 10, .null, [1], none, none⟩] = .ok := by
  rw [verify_ok_iff']
  refine ⟨rfl, ?_, ?_, ?_⟩
  · intro p hp
    obtain rfl := List.mem_singleton.1 hp
    exact ⟨⟨nofun, nofun, nofun⟩, nofun, nofun⟩
  · -- every clause of `OutOk` asks about a constructor these outputs do not have
    intro o ho
    rcases List.mem_pair.1 ho with rfl | rfl <;> exact ⟨nofun, nofun, fun _ _ _ => nofun, nofun, nofun⟩
  · rw [algV.sum]
    show (10 : ℤ) • cv.tag true + 0 = (9 : ℤ) • cv.tag true + ((1 : ℤ) • cv.tag true + 0)
    module

theorem range_complete : ∀ c v vbf m spk k g rp, Bz.rangeProve c v vbf m spk k g = some rp →
    Vz.rangeVerify rp c spk g = true := by
  intro c v vbf m spk k g rp h
  obtain ⟨_, ⟨⟩⟩ := Option.ite_none_right_eq_some.1 h
  exact decide_eq_true ⟨rfl, rfl, rfl⟩

theorem surj_complete : ∀ a abf ins sp, Bz.surjProve a abf ins = some sp →
    Vz.surjVerify sp (Bz.genBlinded a abf) (ins.map (fun x => x.1)) = true := by
  intro a abf ins sp h
  obtain ⟨_, ⟨⟩⟩ := Option.ite_none_right_eq_some.1 h
  exact decide_eq_true rfl

theorem range_total : ∀ c v vbf m spk k g, 1 ≤ v → v < 2 ^ 63 → (Bz.rangeProve c v vbf m spk k g).isSome := by
  intro c v vbf m spk k g h1 h2
  simp only [Bz]
  rw [if_pos ⟨h1, h2⟩]
  rfl

theorem surj_total (spent : List (Secrets Bool ℤ)) : ∀ a abf, (∃ s ∈ spent, s.asset = a) →
    (Bz.surjProve a abf (surjInputs Bz spent)).isSome := by
  intro a abf ⟨s, hs, ha⟩
  have : (surjInputs Bz spent).any (fun x => decide (x.2.1 = a)) = true :=
    List.any_eq_true.2 ⟨_, List.mem_map_of_mem hs, decide_eq_true ha⟩
  exact Option.isSome_iff_exists.2 ⟨_, if_pos this⟩

theorem rewind_law : ∀ c v vbf a abf spk k g rp, Bz.rangeProve c v vbf (a, abf) spk k g = some rp →
    Bz.rewind rp c k spk g = some (v, vbf, a, abf) := by
  intro c v vbf a abf spk k g rp h
  obtain ⟨_, ⟨⟩⟩ := Option.ite_none_right_eq_some.1 h
  exact if_pos ⟨rfl, rfl, rfl, rfl⟩

end EV.Blind.Inst
