/-
  EV.Proofs.SerdeUtils — the `serde_utils` helper modules (`hex_bytes`, `btreemap_byte_values`, `btreemap_as_seq`,
  `btreemap_as_seq_byte_values`): the `visit_map` loop (`collectMap_rt`), the `visit_seq` loop over pairs, which is the
  same loop (`collectPairs_rt`), the byte-string values; and the leaves of the `tap_script_sigs` map.
-/
import EV.Model.SerdeUtils
import EV.Proofs.Serde
namespace EV.Serde
open EV EV.Text

theorem amInsert_new {κ ν} [DecidableEq κ] (acc : List (κ × ν)) (k : κ) (v : ν) (h : k ∉ acc.map Prod.fst) :
    amInsert acc k v = acc ++ [(k, v)] := by
  induction acc with
  | nil => rfl
  | cons a r ih =>
    obtain ⟨k', v'⟩ := a
    simp only [List.map_cons, List.mem_cons, not_or] at h
    have hk : ¬ k' = k := fun e => h.1 e.symm
    simp [amInsert, hk, ih h.2]

theorem lossyM_map {α} (f : Fmt) (g : α → SVal × SVal) (l : List α) :
    lossyM f (l.map g) = l.map fun a => (lossy f (g a).1, lossy f (g a).2) := by
  induction l with
  | nil => simp [lossyM]
  | cons a r ih =>
    cases hg : g a with
    | mk x y => simp [lossyM, hg, ih]

theorem collectMap_acc {κ ν} [DecidableEq κ] (f : Fmt) (tk : κ → SVal) (tv : ν → SVal) (pk : SVal → Res κ)
    (pv : SVal → Res ν) (m acc : List (κ × ν)) (hnd : ((acc ++ m).map Prod.fst).Nodup)
    (hk : ∀ e ∈ m, pk (lossy f (tk e.1)) = .ok e.1) (hv : ∀ e ∈ m, pv (lossy f (tv e.2)) = .ok e.2) :
    collectMap pk pv (lossyM f (m.map fun e => (tk e.1, tv e.2))) acc = .ok (acc ++ m) := by
  induction m generalizing acc with
  | nil => simp [lossyM, collectMap]
  | cons e r ih =>
    obtain ⟨k, v⟩ := e
    obtain ⟨hk0, hk⟩ := List.forall_mem_cons.mp hk
    obtain ⟨hv0, hv⟩ := List.forall_mem_cons.mp hv
    simp only [List.map_cons, lossyM, collectMap, hk0, hv0, amInsert_new acc k v (key_not_mem_of_nodup hnd).1]
    have := ih (acc ++ [(k, v)]) (by simpa [List.append_assoc] using hnd) hk hv
    simpa [List.append_assoc] using this

theorem collectMap_rt {κ ν} [DecidableEq κ] (f : Fmt) (tk : κ → SVal) (tv : ν → SVal) (pk : SVal → Res κ)
    (pv : SVal → Res ν) (m : List (κ × ν)) (hnd : (m.map Prod.fst).Nodup)
    (hk : ∀ e ∈ m, pk (lossy f (tk e.1)) = .ok e.1) (hv : ∀ e ∈ m, pv (lossy f (tv e.2)) = .ok e.2) :
    collectMap pk pv (lossyM f (m.map fun e => (tk e.1, tv e.2))) [] = .ok m := by
  simpa using collectMap_acc f tk tv pk pv m [] hnd hk hv

theorem collectPairs_eq_map {κ ν} [DecidableEq κ] (pk : SVal → Res κ) (pv : SVal → Res ν) (l : List (SVal × SVal))
    (acc : List (κ × ν)) : collectPairs pk pv (l.map fun p => .seq [p.1, p.2]) acc = collectMap pk pv l acc := by
  induction l generalizing acc with
  | nil => rfl
  | cons p r ih =>
    obtain ⟨a, b⟩ := p
    simp only [List.map_cons, collectPairs, collectMap]
    cases pk a with
    | ok k' =>
      cases pv b with
      | ok v' => exact ih _
      | _ => rfl
    | _ => rfl

/-- `g`: any encoding of the entries that the format shows as two-element arrays -/
theorem collectPairs_rt {κ ν} [DecidableEq κ] (f : Fmt) (tk : κ → SVal) (tv : ν → SVal) (g : κ × ν → SVal)
    (pk : SVal → Res κ) (pv : SVal → Res ν) (m : List (κ × ν))
    (hg : ∀ e, lossy f (g e) = .seq [lossy f (tk e.1), lossy f (tv e.2)]) (hnd : (m.map Prod.fst).Nodup)
    (hk : ∀ e ∈ m, pk (lossy f (tk e.1)) = .ok e.1) (hv : ∀ e ∈ m, pv (lossy f (tv e.2)) = .ok e.2) :
    collectPairs pk pv (lossyL f (m.map g)) [] = .ok m := by
  have := collectPairs_eq_map pk pv (lossyM f (m.map fun e => (tk e.1, tv e.2))) ([] : List (κ × ν))
  rw [collectMap_rt f tk tv pk pv m hnd hk hv] at this
  simpa [lossyL_map, lossyM_map, hg, Function.comp_def] using this

theorem hexBytes_rt (h : Bool) (f : Fmt) (b : Bytes) : HexBytes.ofS h (lossy f (HexBytes.toS h b)) = .ok b := by
  cases h with
  | true => simp [HexBytes.toS, lossy_sStr, HexBytes.ofS, unhex_hexStr]
  | false => simp [HexBytes.toS, sVecU8, lossy, HexBytes.ofS, ofU8s_sU8s]

theorem byteValues_ofVal_rt (h : Bool) (f : Fmt) (b : Bytes) :
    ByteValues.ofVal h (lossy f (if h then sStr (hexStr b) else sVecU8 b)) = .ok b := by
  -- the value is what `hex_bytes` writes, and on that the two readers take the same arm
  rw [← hexBytes_rt h f b]
  cases h with
  | true => rfl
  | false => rfl

theorem xOnly_rt (validX : Bytes → Bool) (h : Bool) (f : Fmt) (x : Bytes) (hl : x.length = 32) (hv : validX x = true) :
    ofXOnly validX h (lossy f (sXOnly h x)) = .ok x := by
  cases h with
  | true => simp [sXOnly, lossy_sStr, ofXOnly, unhex_hexStr, hl, hv]
  | false => simp [sXOnly, lossy, ofXOnly, ofU8s_sU8s, hl, hv]

theorem sigKey_rt (validX : Bytes → Bool) (h : Bool) (f : Fmt) (hc : compatible h f) (k : Bytes × Bytes)
    (h1 : k.1.length = 32) (h2 : validX k.1 = true) (h3 : k.2.length = 32) :
    ofSigKey validX h (lossy f (sSigKey h k)) = .ok k := by
  have e1 := xOnly_rt validX h f k.1 h1 h2
  have e2 := ofHash_rt kTapLeaf h f hc k.2 (by simp [kTapLeaf, h3])
  simp [sSigKey, lossy, lossyL, ofSigKey, e1, e2]

theorem sig64_rt (h : Bool) (f : Fmt) (hc : compatible h f) (s : Bytes) (hl : s.length = 64) :
    ofSig64 h (lossy f (sSig64 h s)) = .ok s := by
  rcases compatible_cases hc with rfl | ⟨rfl, rfl⟩
  · simp [sSig64, lossy_sStr, ofSig64, unhex_hexStr, hl]
  · simp [sSig64, lossy, ofSig64, hl]

theorem schnorrSig_rt (h : Bool) (f : Fmt) (hc : compatible h f) (s : SchnorrSigM) (hv : SchnorrSigM.ok s) :
    SchnorrSigM.ofS h (lossy f (SchnorrSigM.toS h s)) = .ok s := by
  obtain ⟨hl, hs⟩ := hv
  have e1 := sig64_rt h f hc s.sig hl
  cases hsh : schnorrShow s.hashTy with
  | none => rw [hsh] at hs; cases hs
  | some str =>
    have e2 : stringOfS schnorrParse (.str str) = .ok s.hashTy := by
      simp [stringOfS, schnorrParse_schnorrShow s.hashTy str hsh]
    -- `derivedKey` finds each name at its index among `names` (`List.idxOf?_cons` on literal strings)
    simp [SchnorrSigM.toS, lossy, lossyF, SchnorrSigM.ofS, dField, dSlot, derivedKey, SchnorrSigM.names,
      List.idxOf?_cons, hsh, e1, e2]

end EV.Serde
