/-
  Spend info, control blocks handed out and commitment verification (model: EV.Model.Taproot).
  The EC primitives are parameters; the laws assumed of them are explicit hypotheses.
-/
import EV.Proofs.CodecPrim
import EV.Proofs.TaprootBuilder
import EV.Proofs.TaprootCb
namespace EV.Proofs.TaprootSpend
open EV EV.Taproot EV.Proofs.TaprootBuilder EV.Proofs.TaprootCb

/-- assumed of libsecp256k1: `tweak_add_check` accepts exactly the result of `add_tweak` -/
def ECLaw (E : EC) : Prop :=
  ∀ P t Q par, E.tweakAddCheck P Q par t = true ↔ E.tweakAdd P t = some (Q, par)

/-- assumed of libsecp256k1: for a fixed internal key, different (valid) tweaks give different tweaked
    keys (P + t·G = P + t'·G implies t = t' for scalars below the group order) -/
def ECTweakInj (E : EC) : Prop :=
  ∀ P t t' r, E.scalarOk t = true → E.scalarOk t' = true → E.tweakAdd P t = some r → E.tweakAdd P t' = some r → t = t'

variable (E : EC) (H : TapHashes)

theorem branchBetter_le {a b : List Bytes} (h : branchBetter a b = true) : a.length ≤ b.length := le_of_lex h

theorem le_of_not_branchBetter {a b : List Bytes} (h : ¬branchBetter a b = true) : b.length ≤ a.length :=
  le_of_not_lex h

theorem pickBranch_spec (set : List (List Bytes)) (hne : set ≠ []) :
    ∃ b, pickBranch set = some b ∧ b ∈ set ∧ ∀ c ∈ set, b.length ≤ c.length := by
  induction set with
  | nil => exact absurd rfl hne
  | cons a rest ih =>
    rw [pickBranch]
    cases rest with
    | nil => exact ⟨a, rfl, List.mem_cons_self, List.forall_mem_cons.2 ⟨Nat.le_refl _, nofun⟩⟩
    | cons a' rest' =>
      obtain ⟨c, hc, hmem, hmin⟩ := ih (List.cons_ne_nil _ _)
      rw [hc]
      dsimp only
      split
      next hb => exact ⟨c, rfl, List.mem_cons_of_mem _ hmem, List.forall_mem_cons.2 ⟨branchBetter_le hb, hmin⟩⟩
      next hb =>
        exact ⟨a, rfl, List.mem_cons_self, List.forall_mem_cons.2
          ⟨Nat.le_refl _, fun d hd => Nat.le_trans (le_of_not_branchBetter hb) (hmin d hd)⟩⟩

private theorem lookupKey_mapInsert (k k' : Bytes × UInt8) (br : List Bytes)
    (m : List ((Bytes × UInt8) × List (List Bytes))) :
    lookupKey k (mapInsert k' br m) =
      if k' = k then
        some (match lookupKey k m with
              | none => [br]
              | some s => if br ∈ s then s else s ++ [br])
      else lookupKey k m := by
  induction m with
  | nil => rfl
  | cons x rest ih =>
    obtain ⟨k'', s⟩ := x
    rw [mapInsert, lookupKey]
    by_cases h1 : k'' = k'
    · subst h1
      rw [if_pos rfl, lookupKey]
      by_cases h2 : k'' = k
      · simp only [if_pos h2]
      · simp only [if_neg h2]
    · rw [if_neg h1, lookupKey, ih]
      by_cases h2 : k'' = k
      · simp only [if_pos h2, if_neg (h2 ▸ Ne.symm h1)]
      · simp only [if_neg h2]

/-- what the script map holds under a key, when `P` says which paths the leaves with that key have: no entry when
    there is none, otherwise a non-empty set of exactly those paths -/
def Holds (P : List Bytes → Prop) : Option (List (List Bytes)) → Prop
  | none => ∀ br, ¬ P br
  | some set => set ≠ [] ∧ ∀ br, br ∈ set ↔ P br

private theorem holds_insert (k k' : Bytes × UInt8) (br' : List Bytes) (m : List ((Bytes × UInt8) × List (List Bytes)))
    (P P' : List Bytes → Prop) (hP : ∀ br, P' br ↔ P br ∨ (k' = k ∧ br' = br)) (h : Holds P (lookupKey k m)) :
    Holds P' (lookupKey k (mapInsert k' br' m)) := by
  rw [lookupKey_mapInsert]
  split
  next hk =>
    simp only [hk, true_and] at hP
    revert h
    cases lookupKey k m with
    | none =>
      intro h
      refine ⟨List.cons_ne_nil _ _, fun br => ?_⟩
      rw [hP, List.mem_singleton, eq_comm]
      exact ⟨Or.inr, fun e => e.elim (fun p => absurd p (h br)) id⟩
    | some s =>
      intro h
      dsimp only
      split
      next hin =>
        refine ⟨h.1, fun br => ?_⟩
        rw [hP, ← h.2]
        exact ⟨Or.inl, fun e => e.elim id fun e => e ▸ hin⟩
      next =>
        refine ⟨List.append_ne_nil_of_right_ne_nil _ (List.cons_ne_nil _ _), fun br => ?_⟩
        rw [hP, List.mem_append, List.mem_singleton, h.2, eq_comm]
  next hk =>
    -- another key: the entry is untouched
    simp only [hk, false_and, or_false] at hP
    exact (funext fun br => propext (hP br) : P' = P) ▸ h

theorem lookup_mapOfLeaves (ls : List LeafInfo) (s : Bytes) (v : UInt8) :
    Holds (fun br => (⟨s, v, br⟩ : LeafInfo) ∈ ls) (lookupKey (s, v) (mapOfLeaves ls)) := by
  -- read from its last insertion, the fold starts at the empty map
  rw [mapOfLeaves, List.foldl_eq_foldr_reverse]
  simp only [← List.mem_reverse (as := ls)]
  induction ls.reverse with
  | nil => exact fun br => List.not_mem_nil
  | cons l rs ih =>
    refine holds_insert (s, v) (l.script, l.ver) l.branch _ _ _ (fun br => ?_) ih
    obtain ⟨s', v', b'⟩ := l
    simp only [List.mem_cons, Prod.mk.injEq, LeafInfo.mk.injEq, and_assoc, eq_comm, or_comm]

theorem tapTweak_eq_ok (key : Bytes) (root : Option Bytes) (q : Bytes) (par : Bool) :
    tapTweak E H key root = .ok (q, par) ↔
      E.scalarOk (tweakHash H key root) = true ∧
      E.tweakAdd key (tweakHash H key root) = some (q, par) ∧
      E.tweakAddCheck key q par (tweakHash H key root) = true := by
  unfold tapTweak
  dsimp only
  constructor
  · intro h
    split at h
    · cases h
    next hs =>
      split at h
      · cases h
      next q' par' ha =>
        split at h
        · cases h
        next hc =>
          cases h
          exact ⟨by simpa only [Bool.not_eq_true', Bool.not_eq_false] using hs, ha,
            by simpa only [Bool.not_eq_true', Bool.not_eq_false] using hc⟩
  · intro ⟨hs, ha, hc⟩
    simp only [hs, ha, hc, Bool.not_true, Bool.false_eq_true, if_false]

/-- the three refusals of `tap_tweak` (the hash is no scalar, the addition fails, the `debug_assert!`) are panics: it
    returns no error -/
theorem tapTweak_not_err (key : Bytes) (root : Option Bytes) (e : String) : tapTweak E H key root ≠ .err e := by
  unfold tapTweak
  simp only
  split
  · nofun
  · split
    · nofun
    · split <;> nofun

/-- `new_key_spend` -/
theorem newKeySpend_ok (key : Bytes) (root : Option Bytes) (si : SpendInfo)
    (h : newKeySpend E H key root = .ok si) :
    si.internalKey = key ∧ si.merkleRoot = root ∧ si.scriptMap = [] ∧
    tapTweak E H key root = .ok (si.outputKey, si.parity) := by
  unfold newKeySpend at h
  split at h
  next q par ht =>
    cases h
    exact ⟨rfl, rfl, rfl, ht⟩
  all_goals cases h

/-- what an accepted `from_node_info` returned: the fields of the spend info, and the two tests of `tap_tweak`
    that its output key passed -/
structure FromNode (key : Bytes) (n : NodeInfo) (si : SpendInfo) : Prop where
  internalKey : si.internalKey = key
  merkleRoot : si.merkleRoot = some n.hash
  scriptMap : si.scriptMap = mapOfLeaves n.leaves
  scalarOk : E.scalarOk (tweakHash H key (some n.hash)) = true
  tweakAdd : E.tweakAdd key (tweakHash H key (some n.hash)) = some (si.outputKey, si.parity)

theorem fromNodeInfo_ok (key : Bytes) (n : NodeInfo) (si : SpendInfo)
    (h : fromNodeInfo E H key n = .ok si) : FromNode E H key n si := by
  unfold fromNodeInfo at h
  split at h
  next si0 hn =>
    cases h
    obtain ⟨h1, h2, _, ht⟩ := newKeySpend_ok E H key (some n.hash) si0 hn
    obtain ⟨hs, ha, _⟩ := (tapTweak_eq_ok E H key (some n.hash) _ _).1 ht
    exact ⟨h1, h2, rfl, hs, ha⟩
  all_goals cases h

theorem fromNodeInfo_of_tweak (key : Bytes) (n : NodeInfo) (q : Bytes) (par : Bool)
    (h : tapTweak E H key (some n.hash) = .ok (q, par)) :
    fromNodeInfo E H key n = .ok ⟨key, some n.hash, par, q, mapOfLeaves n.leaves⟩ := by
  unfold fromNodeInfo newKeySpend
  rw [h]

/-- `with_huffman_tree` -/
theorem withHuffmanTree_eq (key : Bytes) (ws : List (Nat × Bytes)) :
    withHuffmanTree E H key ws = (huffmanNode H ws).bind (fromNodeInfo E H key) := by
  unfold withHuffmanTree
  cases huffmanNode H ws <;> rfl

/-- `verify_taproot_commitment` panics on a tweak hash that is no scalar, and otherwise answers what
    `tweak_add_check` answers -/
theorem verify_eq (cb : ControlBlock) (Q s : Bytes) :
    cb.verify E H Q s =
      if E.scalarOk (tweakHash H cb.internalKey (some (ControlBlock.computeRoot H s cb.leafVersion cb.branch))) = true
      then .ok (E.tweakAddCheck cb.internalKey Q cb.parity
        (tweakHash H cb.internalKey (some (ControlBlock.computeRoot H s cb.leafVersion cb.branch))))
      else .panic "hash value greater than curve order" := by
  unfold ControlBlock.verify
  dsimp only
  cases E.scalarOk (tweakHash H cb.internalKey (some (ControlBlock.computeRoot H s cb.leafVersion cb.branch))) <;> rfl

theorem verify_iff (law : ECLaw E) (cb : ControlBlock) (Q s : Bytes) :
    cb.verify E H Q s = .ok true ↔
      (E.scalarOk (tweakHash H cb.internalKey (some (ControlBlock.computeRoot H s cb.leafVersion cb.branch))) = true ∧
       E.tweakAdd cb.internalKey (tweakHash H cb.internalKey (some (ControlBlock.computeRoot H s cb.leafVersion cb.branch)))
         = some (Q, cb.parity)) := by
  rw [verify_eq]
  split
  next hs =>
    rw [Res.ok.injEq, law, and_iff_right hs]
  next hs => exact ⟨nofun, fun h => absurd h.1 hs⟩

theorem verify_unique (law : ECLaw E) (cb : ControlBlock) (Q s : Bytes) (h : cb.verify E H Q s = .ok true)
    (Q' : Bytes) (par' : Bool) (hne : (Q', par') ≠ (Q, cb.parity)) :
    ({ cb with parity := par' } : ControlBlock).verify E H Q' s = .ok false := by
  obtain ⟨hs, ha⟩ := (verify_iff E H law cb Q s).mp h
  -- the parity plays no part in the tweak hash: the same scalar test is passed
  refine (verify_eq E H _ Q' s).trans ((if_pos hs).trans (congrArg _ (Bool.eq_false_iff.2 fun hc => hne ?_)))
  -- were `(Q', par')` accepted, the addition would return it; it returns `(Q, cb.parity)`
  have ha' := (law _ _ _ _).mp hc
  exact Option.some.inj (ha'.symm.trans ha)

/-- every occurrence's own path verifies (a script may occur at several depths) -/
theorem cb_each_occurrence_verifies (law : ECLaw E) (key : Bytes) (t : Tree) (si : SpendInfo)
    (hsi : fromNodeInfo E H key (info H t) = .ok si) :
    ∀ l ∈ (info H t).leaves,
      (⟨l.ver, si.parity, key, l.branch⟩ : ControlBlock).verify E H si.outputKey l.script = .ok true := by
  intro l hl
  have hn := fromNodeInfo_ok E H key (info H t) si hsi
  rw [verify_iff E H law]
  simp only []
  rw [info_leaf_root H t l hl, ← info_hash H t]
  exact ⟨hn.scalarOk, hn.tweakAdd⟩

/-- what `control_block` hands out for `(s, v)`: nothing when no leaf carries it, otherwise the block with the path
    of a shortest occurrence; never a panic -/
theorem controlBlock_cases (key : Bytes) (n : NodeInfo) (si : SpendInfo) (hsi : fromNodeInfo E H key n = .ok si)
    (s : Bytes) (v : UInt8) :
    ((¬ ∃ l ∈ n.leaves, l.script = s ∧ l.ver = v) ∧ controlBlock si s v = some none) ∨
    ∃ br, controlBlock si s v = some (some ⟨v, si.parity, key, br⟩) ∧ (⟨s, v, br⟩ : LeafInfo) ∈ n.leaves ∧
      ∀ b, (⟨s, v, b⟩ : LeafInfo) ∈ n.leaves → br.length ≤ b.length := by
  have hn := fromNodeInfo_ok E H key n si hsi
  have h := lookup_mapOfLeaves n.leaves s v
  rw [controlBlock, hn.scriptMap, hn.internalKey]
  revert h
  cases lookupKey (s, v) (mapOfLeaves n.leaves) with
  | none => exact fun h => Or.inl ⟨fun ⟨l, hl, hs, hv⟩ => h l.branch (hs ▸ hv ▸ hl), rfl⟩
  | some set =>
    intro ⟨hne, hmem⟩
    obtain ⟨br, hp, hbr, hmin⟩ := pickBranch_spec set hne
    dsimp only
    rw [hp]
    exact Or.inr ⟨br, rfl, (hmem br).1 hbr, fun b hb => hmin b ((hmem b).2 hb)⟩

theorem cb_verifies (law : ECLaw E) (key : Bytes) (t : Tree) (si : SpendInfo)
    (hsi : fromNodeInfo E H key (info H t) = .ok si) :
    ∀ l ∈ (info H t).leaves, ∃ cb, controlBlock si l.script l.ver = some (some cb) ∧
      cb.leafVersion = l.ver ∧ cb.internalKey = key ∧ cb.parity = si.parity ∧
      (⟨l.script, l.ver, cb.branch⟩ : LeafInfo) ∈ (info H t).leaves ∧
      cb.branch.length ≤ l.branch.length ∧
      cb.verify E H si.outputKey l.script = .ok true := by
  intro l hl
  rcases controlBlock_cases E H key (info H t) si hsi l.script l.ver with ⟨hno, _⟩ | ⟨br, hcb, hbr, hmin⟩
  · exact absurd ⟨l, hl, rfl, rfl⟩ hno
  · exact ⟨⟨l.ver, si.parity, key, br⟩, hcb, rfl, rfl, rfl, hbr, hmin l.branch hl,
      cb_each_occurrence_verifies E H law key t si hsi ⟨l.script, l.ver, br⟩ hbr⟩

set_option linter.unusedVariables false in
/-- the proof does not use `hb` -/
theorem cb_binds (law : ECLaw E) (inj : ECTweakInj E) (L : Len32 H) (key : Bytes) (t : Tree) (si : SpendInfo)
    (hsi : fromNodeInfo E H key (info H t) = .ok si) (ht : ScriptsOk t)
    (cb : ControlBlock) (s : Bytes) (hk : cb.internalKey = key) (hp : cb.parity = si.parity)
    (hb : ∀ e ∈ cb.branch, e.length = 32) (hs : s.length < 2 ^ 64)
    (hv : cb.verify E H si.outputKey s = .ok true) :
    Opens H t s cb.leafVersion cb.branch ∨ Collision H.tweak ∨ Collision H.leaf ∨ Collision H.branch ∨
      Cross H.leaf H.branch := by
  obtain ⟨hs1, ha1⟩ := (verify_iff E H law cb si.outputKey s).mp hv
  rw [hk] at hs1 ha1
  rw [hp] at ha1
  have hn := fromNodeInfo_ok E H key (info H t) si hsi
  rcases CodecPrim.eq_or_collision (f := H.tweak) (inj key _ _ _ hs1 hn.scalarOk ha1 hn.tweakAdd) with hpre | hc
  · have hroot : ControlBlock.computeRoot H s cb.leafVersion cb.branch = t.merkleRoot H :=
      info_hash H t ▸ List.append_cancel_left hpre
    exact (opens_of_root_eq H L t s cb.leafVersion cb.branch ht hs hroot).imp id Or.inr
  · exact Or.inr (Or.inl hc)

end EV.Proofs.TaprootSpend
