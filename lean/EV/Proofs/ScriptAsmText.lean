/-
  The pieces of text `fmt_asm` writes (EV.Model.ScriptAsm): the 256 opcode texts are distinct and space-free, a text
  of space-free words each preceded by one space splits back into its words (`word_split`), and the upper-case hex
  form `{:X}` parses back.
-/
import EV.Model.ScriptAsm
import EV.Proofs.Opcodes
import EV.Proofs.Text
namespace EV.Proofs.ScriptAsmText
open EV EV.Script EV.Gen EV.Opcodes EV.Proofs.Opcodes

theorem asmOp0_not_name : asmOp0 ∉ opNameTable := by decide +kernel

theorem asmText_shape : (asmOp0 :: opNameTable).all
    (fun cs => cs.head? == some 'O' && !cs.contains ' ' && !cs.contains '<') = true := by decide +kernel

theorem asmOpcode_mem (b : UInt8) : asmOpcode b ∈ asmOp0 :: opNameTable := by
  unfold asmOpcode
  split
  · exact List.mem_cons_self
  · exact List.mem_cons_of_mem _ (name_mem b)

/-- `OP_0` is not the name of any opcode, so writing it for `OP_PUSHBYTES_0` keeps the texts distinct -/
theorem asmOpcode_injective {a b : UInt8} (h : asmOpcode a = asmOpcode b) : a = b := by
  unfold asmOpcode at h
  by_cases ha : a = opPushbytes0
  · by_cases hb : b = opPushbytes0
    · rw [ha, hb]
    · rw [if_pos (beq_iff_eq.mpr ha), if_neg (fun c => hb (beq_iff_eq.mp c))] at h
      exact absurd (h ▸ name_mem b) asmOp0_not_name
  · by_cases hb : b = opPushbytes0
    · rw [if_neg (fun c => ha (beq_iff_eq.mp c)), if_pos (beq_iff_eq.mpr hb)] at h
      exact absurd (h ▸ name_mem a) asmOp0_not_name
    · rw [if_neg (fun c => ha (beq_iff_eq.mp c)), if_neg (fun c => hb (beq_iff_eq.mp c))] at h
      exact name_injective h

theorem asmOpcode_shape (b : UInt8) :
    (∃ t, asmOpcode b = 'O' :: t) ∧ ' ' ∉ asmOpcode b ∧ '<' ∉ asmOpcode b := by
  have := List.all_eq_true.mp asmText_shape _ (asmOpcode_mem b)
  simp only [Bool.and_eq_true, beq_iff_eq, Bool.not_eq_true', List.contains_eq_mem, decide_eq_false_iff_not] at this
  obtain ⟨⟨h1, h2⟩, h3⟩ := this
  exact ⟨List.head?_eq_some_iff.mp h1, h2, h3⟩

/-- a digit: not the separator, not the `O` of an opcode text -/
theorem hexStr_head {d : Bytes} (h : 0 < d.length) : ∃ c t, Text.hexStr d = c :: t ∧ c ≠ ' ' ∧ c ≠ 'O' := by
  match d, h with
  | b :: r, _ =>
    have hb : b.toNat / 16 < 16 := Nat.div_lt_of_lt_mul b.toNat_lt
    exact ⟨_, _, rfl, Text.digit_ne hb rfl, Text.digit_ne hb rfl⟩

/-- empty, or starting with a space: what follows a word in the asm text -/
def Sp (r : List Char) : Prop := r = [] ∨ ∃ t, r = ' ' :: t

theorem Sp_nil : Sp [] := Or.inl rfl

theorem Sp_cons (t : List Char) : Sp (' ' :: t) := Or.inr ⟨t, rfl⟩

theorem word_split (w w' r r' : List Char) (hw : ' ' ∉ w) (hw' : ' ' ∉ w') (hr : Sp r) (hr' : Sp r')
    (h : w ++ r = w' ++ r') : w = w' ∧ r = r' := by
  -- the word is the longest space-free prefix of the text
  have word : ∀ {v t : List Char}, ' ' ∉ v → Sp t → (v ++ t).takeWhile (· != ' ') = v := by
    intro v t hv ht
    rw [List.takeWhile_append_of_pos fun c hc => bne_iff_ne.mpr fun (e : c = ' ') => hv (e ▸ hc)]
    rcases ht with rfl | ⟨u, rfl⟩
    · simp
    · simp
  have e : w = w' := by rw [← word hw hr, h, word hw' hr']
  exact ⟨e, List.append_cancel_left (e ▸ h)⟩

theorem nib_digitUpper : ∀ n : Fin 16, Hex.nib (digitUpper n.val) = some n.val := by decide

theorem decodeChars_upperHex (bs : Bytes) : Hex.decodeChars (upperHex bs) = some bs :=
  Text.decodeChars_digits digitUpper nib_digitUpper bs

end EV.Proofs.ScriptAsmText
