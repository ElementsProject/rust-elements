/-
  Template predicates of `EV.Model.ScriptSpec` as byte patterns (structural, for all byte strings).
-/
import EV.Model.ScriptSpec
namespace EV.Proofs.ScriptTemplates
open EV EV.Script EV.Gen

theorem drop_eq_getD_cons {α} (l : List α) (n : Nat) (d : α) (h : n < l.length) :
    l.drop n = l.getD n d :: l.drop (n + 1) := by
  rw [List.drop_eq_getElem_cons h, List.getD_eq_getElem?_getD, List.getElem?_eq_getElem h, Option.getD_some]

theorem isP2sh_iff (s : Bytes) : isP2sh s = true ↔ ∃ h, h.length = 20 ∧ s = p2shScript h := by
  constructor
  · intro hp
    simp only [isP2sh, Bool.and_eq_true, beq_iff_eq, at'] at hp
    obtain ⟨⟨⟨hl, h0⟩, h1⟩, h22⟩ := hp
    match s, hl, h0, h1, h22 with
    | a :: b :: rest, hl, h0, h1, h22 =>
      simp only [List.getD_cons_zero, List.getD_cons_succ] at h0 h1 h22
      have hr : rest.length = 21 := by simpa using hl
      have hd : rest.drop 20 = [rest.getD 20 0] := by
        rw [drop_eq_getD_cons rest 20 0 (by omega), List.drop_eq_nil_of_le (by omega)]
      refine ⟨rest.take 20, by simp [hr], ?_⟩
      subst h0 h1
      simp only [p2shScript, List.cons_append, List.nil_append, List.cons.injEq, true_and]
      rw [← h22, ← hd, List.take_append_drop]
  · rintro ⟨h, hl, rfl⟩
    simp [isP2sh, p2shScript, at', hl, List.getD_eq_getElem?_getD]

theorem isP2pkh_iff (s : Bytes) : isP2pkh s = true ↔ ∃ h, h.length = 20 ∧ s = p2pkhScript h := by
  constructor
  · intro hp
    simp only [isP2pkh, Bool.and_eq_true, beq_iff_eq, at'] at hp
    obtain ⟨⟨⟨⟨⟨hl, h0⟩, h1⟩, h2⟩, h23⟩, h24⟩ := hp
    match s, hl, h0, h1, h2, h23, h24 with
    | a :: b :: c :: rest, hl, h0, h1, h2, h23, h24 =>
      simp only [List.getD_cons_zero, List.getD_cons_succ] at h0 h1 h2 h23 h24
      have hr : rest.length = 22 := by simpa using hl
      have hd : rest.drop 20 = [rest.getD 20 0, rest.getD 21 0] := by
        rw [drop_eq_getD_cons rest 20 0 (by omega), drop_eq_getD_cons rest 21 0 (by omega),
          List.drop_eq_nil_of_le (by omega)]
      refine ⟨rest.take 20, by simp [hr], ?_⟩
      subst h0 h1 h2
      simp only [p2pkhScript, List.cons_append, List.nil_append, List.cons.injEq, true_and]
      rw [← h23, ← h24, ← hd, List.take_append_drop]
  · rintro ⟨h, hl, rfl⟩
    simp [isP2pkh, p2pkhScript, at', hl, List.getD_eq_getElem?_getD]

theorem witness_shape (s : Bytes) (h2 : s.length = (at' s 1).toNat + 2) :
    ∃ prog, prog.length = (at' s 1).toNat ∧ s = witnessScript (at' s 0) prog := by
  match s, h2 with
  | a :: b :: rest, h2 =>
    simp only [at', List.getD_cons_zero, List.getD_cons_succ, List.length_cons] at h2 ⊢
    have hr : rest.length = b.toNat := by omega
    exact ⟨rest, hr, by rw [witnessScript, hr, UInt8.ofNat_toNat]; rfl⟩

theorem witnessScript_facts (v : UInt8) (prog : Bytes) (h : prog.length < 256) :
    (witnessScript v prog).length = prog.length + 2 ∧ at' (witnessScript v prog) 0 = v ∧
    (at' (witnessScript v prog) 1).toNat = prog.length ∧ (witnessScript v prog).drop 2 = prog := by
  refine ⟨by simp [witnessScript], by simp [witnessScript, at'], ?_, by simp [witnessScript]⟩
  simp only [witnessScript, at', List.cons_append, List.nil_append, List.getD_cons_succ, List.getD_cons_zero]
  rw [UInt8.toNat_ofNat']
  omega

/-- the two templates with a range of program lengths; `V` is the set of version opcodes -/
theorem witness_iff (s : Bytes) (V : UInt8 → Prop) :
    (s.length = (at' s 1).toNat + 2 ∧ V (at' s 0) ∧ 2 ≤ (at' s 1).toNat ∧ (at' s 1).toNat ≤ 40) ↔
      ∃ v prog, V v ∧ 2 ≤ prog.length ∧ prog.length ≤ 40 ∧ s = witnessScript v prog := by
  constructor
  · rintro ⟨hl, hv, h2, h40⟩
    obtain ⟨prog, hpl, hs⟩ := witness_shape s hl
    exact ⟨at' s 0, prog, hv, by omega, by omega, hs⟩
  · rintro ⟨v, prog, hv, h2, h40, rfl⟩
    obtain ⟨f1, f2, f3, _⟩ := witnessScript_facts v prog (by omega)
    exact ⟨by omega, by rwa [f2], by omega, by omega⟩

theorem lenOp_toNat : opPushbytes2.toNat = 2 ∧ opPushbytes40.toNat = 40 := by decide

theorem isWitnessProgram_iff (s : Bytes) : isWitnessProgram s = true ↔
    ∃ v prog, (v = 0 ∨ (opPushnum1 ≤ v ∧ v ≤ opPushnum16)) ∧ 2 ≤ prog.length ∧ prog.length ≤ 40 ∧
      s = witnessScript v prog := by
  rw [← witness_iff]
  simp only [isWitnessProgram, Bool.and_eq_true, Bool.or_eq_true, beq_iff_eq, decide_eq_true_eq, ge_iff_le,
    UInt8.le_iff_toNat_le, ← UInt8.toNat_inj, lenOp_toNat]
  -- `4 ≤ len ≤ 42` follows from the other tests
  omega

theorem isV1plusP2witprog_iff (s : Bytes) : isV1plusP2witprog s = true ↔
    ∃ v prog, (opPushnum1 ≤ v ∧ v ≤ opPushnum16) ∧ 2 ≤ prog.length ∧ prog.length ≤ 40 ∧
      s = witnessScript v prog := by
  rw [← witness_iff]
  simp only [isV1plusP2witprog, Bool.and_eq_true, beq_iff_eq, decide_eq_true_eq, ge_iff_le, gt_iff_lt,
    UInt8.le_iff_toNat_le, lenOp_toNat]
  omega

/-- the three fixed-size witness templates -/
theorem fixed_witness_iff (s : Bytes) (v lenOp : UInt8) :
    (s.length == lenOp.toNat + 2 && at' s 0 == v && at' s 1 == lenOp) = true ↔
      ∃ prog, prog.length = lenOp.toNat ∧ s = witnessScript v prog := by
  constructor
  · intro hp
    simp only [Bool.and_eq_true, beq_iff_eq] at hp
    obtain ⟨⟨hl, h0⟩, h1⟩ := hp
    obtain ⟨prog, hpl, hs⟩ := witness_shape s (by rw [h1]; exact hl)
    rw [h0] at hs
    rw [h1] at hpl
    exact ⟨prog, hpl, hs⟩
  · rintro ⟨prog, hl, rfl⟩
    obtain ⟨f1, f2, f3, _⟩ := witnessScript_facts v prog (by have := UInt8.toNat_lt lenOp; omega)
    simp only [Bool.and_eq_true, beq_iff_eq]
    refine ⟨⟨by omega, f2⟩, ?_⟩
    apply UInt8.toNat_inj.mp
    omega

theorem isV0P2wpkh_iff (s : Bytes) : isV0P2wpkh s = true ↔
    ∃ prog, prog.length = 20 ∧ s = witnessScript opPushbytes0 prog :=
  fixed_witness_iff s opPushbytes0 opPushbytes20

theorem isV0P2wsh_iff (s : Bytes) : isV0P2wsh s = true ↔
    ∃ prog, prog.length = 32 ∧ s = witnessScript opPushbytes0 prog :=
  fixed_witness_iff s opPushbytes0 opPushbytes32

theorem isV1P2tr_iff (s : Bytes) : isV1P2tr s = true ↔
    ∃ prog, prog.length = 32 ∧ s = witnessScript opPushnum1 prog :=
  fixed_witness_iff s opPushnum1 opPushbytes32

theorem isP2pk_iff (s : Bytes) : isP2pk s = true ↔
    ∃ key, (key.length = 65 ∨ key.length = 33) ∧ s = [UInt8.ofNat key.length] ++ key ++ [opChecksig] := by
  have one (n : Nat) (lenOp : UInt8) (hn : lenOp.toNat = n) :
      (s.length == n + 2 && at' s 0 == lenOp && at' s (n + 1) == opChecksig) = true ↔
        ∃ key, key.length = n ∧ s = [UInt8.ofNat key.length] ++ key ++ [opChecksig] := by
    constructor
    · intro hp
      simp only [Bool.and_eq_true, beq_iff_eq, at'] at hp
      obtain ⟨⟨hl, h0⟩, hlast⟩ := hp
      match s, hl, h0, hlast with
      | a :: rest, hl, h0, hlast =>
        simp only [List.getD_cons_zero, List.getD_cons_succ] at h0 hlast
        have hr : rest.length = n + 1 := by simpa using hl
        have hd : rest.drop n = [rest.getD n 0] := by
          rw [drop_eq_getD_cons rest n 0 (by omega), List.drop_eq_nil_of_le (by omega)]
        refine ⟨rest.take n, by simp [hr], ?_⟩
        have hk : (rest.take n).length = n := by simp [hr]
        rw [hk, ← hn, UInt8.ofNat_toNat, hn]
        subst h0
        simp only [List.cons_append, List.nil_append, List.cons.injEq, true_and]
        rw [← hlast, ← hd, List.take_append_drop]
    · rintro ⟨key, hl, rfl⟩
      simp [at', hl, ← hn, List.getD_eq_getElem?_getD]
  have h65 := one 65 opPushbytes65 (by decide)
  have h33 := one 33 opPushbytes33 (by decide)
  unfold isP2pk
  rw [Bool.or_eq_true, h65, h33]
  simp only [or_and_right, exists_or]

end EV.Proofs.ScriptTemplates
