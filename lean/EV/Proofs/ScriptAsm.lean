/-
  The asm text of a script (EV.Model.ScriptAsm).  The loop of `fmt_asm` and the `Instructions` iterator both factor
  through one header reader (`hdr`).  The asm text of a concatenation of raw instructions whose headers announce their
  own lengths (`Raw.ok`) is the concatenation of their texts (`asm_raws`), and that text determines them.  A script is
  such a concatenation exactly when it decodes cleanly; otherwise its text has an error marker (`asm_cases`).  What
  the builder writes is such a concatenation (`raw_enc`, `asm_serialize`).
-/
import EV.Proofs.ScriptAsmText
import EV.Proofs.ScriptIter
namespace EV.Proofs.ScriptAsm
open EV EV.Script EV.Gen EV.Opcodes EV.Proofs.Opcodes EV.Proofs.CodecPrim EV.Proofs.ScriptAsmText EV.Proofs.ScriptIter

/-! the header reader shared by `fmt_asm` and `Instructions::next` -/

/-- number of length bytes after the opcode -/
def lfLen (b : UInt8) : Nat :=
  if b = opPushdata1 then 1 else if b = opPushdata2 then 2 else if b = opPushdata4 then 4 else 0

/-- number of data bytes announced by opcode `b` with length field `lf` (`leNat [] = 0` for non-pushes) -/
def dataLenOf (b : UInt8) (lf : Bytes) : Nat := if b ≤ opPushbytes75 then b.toNat else leNat lf

/-- (number of length bytes, announced data length), `none` if the length field is cut off -/
def hdr (b : UInt8) (tl : Bytes) : Option (Nat × Nat) :=
  if tl.length < lfLen b then none else some (lfLen b, dataLenOf b (tl.take (lfLen b)))

theorem lfLen_zero {b : UInt8} (h : b ≤ opPushbytes75 ∨ opPushdata4 < b) : lfLen b = 0 := by
  obtain ⟨n1, n2, n4⟩ := ne_pushdata h
  rw [lfLen, if_neg n1, if_neg n2, if_neg n4]

theorem lfLen_pushdata {b : UInt8} {k bound : Nat} (hp : Pushdata b k bound) : lfLen b = k := by
  cases hp <;> decide

/-- `8` is the width up to which `readUint` reads; a length field has 0, 1, 2 or 4 bytes -/
theorem lfLen_le (b : UInt8) : lfLen b ≤ 8 := by
  rcases opcode_kind b with h | ⟨k, bound, hp⟩ | h
  · rw [lfLen_zero (.inl h)]
    omega
  · rw [lfLen_pushdata hp]
    have := hp.facts.2.1
    omega
  · rw [lfLen_zero (.inr h)]
    omega

theorem pushdataLen_eq (tl : Bytes) (k : Nat) (hk : k ≤ 8) :
    pushdataLen tl k = if tl.length < k then .unexpectedEnd else .len (leNat (tl.take k)) k := by
  unfold pushdataLen
  rw [readUint_eq tl hk]
  split <;> rfl

/-- when `classify(Legacy)` is not `PushBytes`, `data_len` is read from `lfLen b` length bytes: the `_ => 0` arm is
    what reading no length byte gives -/
theorem dataLen_other {b : UInt8} (tl : Bytes) (h1 : (classify .legacy b).isSome = true)
    (h2 : isPushBytes (classify .legacy b) = false) : dataLen b tl = some (pushdataLen tl (lfLen b)) := by
  have e0 : DataLen.len 0 0 = pushdataLen tl 0 := rfl
  -- the right side as the cascade over the three opcodes that `fmt_asm` has
  simp only [lfLen, apply_ite (pushdataLen tl), apply_ite some, ← e0, ← beq_iff_eq (a := b)]
  obtain ⟨c, hc⟩ := Option.isSome_iff_exists.mp h1
  rw [hc] at h2
  cases c with
  | pushBytes n => simp [isPushBytes] at h2
  | _ => simp only [dataLen, hc]

/-- in particular `<bad length>` is unreachable and `classify(Legacy)` does not panic -/
theorem dataLen_eq (b : UInt8) (tl : Bytes) :
    dataLen b tl = some (match hdr b tl with
      | some (k, n) => .len n k
      | none => .unexpectedEnd) := by
  have hpb := classify_of_tableAll (pushBytes_pass .legacy) b
  by_cases h75 : b ≤ opPushbytes75
  · rw [if_pos h75] at hpb
    simp [dataLen, hpb, hdr, lfLen_zero (.inl h75), dataLenOf, h75]
  · rw [if_neg h75] at hpb
    rw [dataLen_other tl (classify_of_tableAll legacy_total_pass b) hpb, pushdataLen_eq tl _ (lfLen_le b)]
    simp only [hdr, dataLenOf, h75, if_false]
    split <;> rfl

theorem next_cons (b : UInt8) (tl : Bytes) :
    next false (b :: tl) = match hdr b tl with
      | none => .fail .earlyEnd
      | some (k, n) =>
        if (tl.drop k).length < n then .fail .earlyEnd
        else .item (if b ≤ opPushdata4 then .push ((tl.drop k).take n) else .op b) ((tl.drop k).drop n) := by
  rcases opcode_kind b with h | ⟨k, bound, hp⟩ | h
  · have h4 : b ≤ opPushdata4 := UInt8.le_trans h (by decide)
    simp [next_direct h, hdr, lfLen_zero (.inl h), dataLenOf, h, h4]
  · obtain ⟨_, _, _, h75, h4⟩ := hp.facts
    rw [next_pushdata hp, pushdataArm_false]
    simp only [hdr, lfLen_pushdata hp, dataLenOf, h75, h4, if_true, if_false]
    by_cases ck : tl.length < k
    · simp [ck]
    · by_cases c : tl.length < leNat (tl.take k) + k
      · have : tl.length - k < leNat (tl.take k) := by omega
        simp [ck, c, this]
      · have : ¬ tl.length - k < leNat (tl.take k) := by omega
        simp [ck, this, Nat.add_comm]
        omega
  · have h75 := not_direct_of_op h
    simp [next_op h, hdr, lfLen_zero (.inr h), dataLenOf, h75, UInt8.not_le.mpr h, leNat]

structure Raw where
  op : UInt8
  lf : Bytes
  data : Bytes
  deriving DecidableEq

def Raw.bytes (r : Raw) : Bytes := r.op :: (r.lf ++ r.data)

def Raw.ok (r : Raw) : Prop := r.lf.length = lfLen r.op ∧ r.data.length = dataLenOf r.op r.lf

theorem hdr_split {b : UInt8} {tl : Bytes} {k n : Nat} (h : hdr b tl = some (k, n)) (hn : n ≤ (tl.drop k).length) :
    ∃ r : Raw, r.ok ∧ b :: tl = r.bytes ++ (tl.drop k).drop n := by
  refine ⟨⟨b, tl.take k, (tl.drop k).take n⟩, ?_,
    by simp only [Raw.bytes, List.cons_append, List.append_assoc, List.take_append_drop]⟩
  unfold hdr at h
  split at h
  · cases h
  · cases h
    exact ⟨by simp only [List.length_take]; omega, by simp only [List.length_take]; omega⟩

theorem hdr_ok {r : Raw} (h : r.ok) (rest : Bytes) :
    hdr r.op (r.lf ++ (r.data ++ rest)) = some (r.lf.length, r.data.length) := by
  have hl : ¬ (r.lf ++ (r.data ++ rest)).length < lfLen r.op := by
    rw [List.length_append, h.1]
    omega
  rw [hdr, if_neg hl, ← h.1, List.take_left' rfl, ← h.2]

theorem lf_of_ok {r : Raw} (h : r.ok) : r.lf = leBytes (lfLen r.op) r.data.length := by
  rw [← h.1]
  by_cases c : r.op ≤ opPushbytes75
  · rw [List.eq_nil_of_length_eq_zero (h.1.trans (lfLen_zero (.inl c)))]
    rfl
  · rw [h.2, dataLenOf, if_neg c, leBytes_leNat rfl]

/-- the text of one round after its separator: `OPCODE` or `OPCODE hex` -/
def rawBody (r : Raw) : List Char :=
  asmOpcode r.op ++ (if r.data.length > 0 then ' ' :: Text.hexStr r.data else [])

def tailText (rs : List Raw) : List Char := rs.flatMap fun r => ' ' :: rawBody r

/-- text of a whole script: the first round has no separator unless length bytes were skipped -/
def topText : List Raw → List Char
  | [] => []
  | r :: rest => (if r.lf = [] then [] else [' ']) ++ rawBody r ++ tailText rest

theorem tailText_cons (r : Raw) (rest : List Raw) : tailText (r :: rest) = ' ' :: (rawBody r ++ tailText rest) := by
  simp [tailText]

theorem asmLoop_raw {r : Raw} (h : r.ok) (rest : Bytes) (f index : Nat) :
    asmLoop (f + 1) index (r.bytes ++ rest) =
      (asmLoop f (index + 1 + r.lf.length + r.data.length) rest).map fun t =>
        (if index + 1 + r.lf.length > 1 then [' '] else []) ++ rawBody r ++ t := by
  simp only [Raw.bytes, List.cons_append, List.append_assoc, asmLoop, dataLen_eq, hdr_ok h rest, rawBody,
    List.drop_left' rfl, List.take_left' rfl, List.length_append, Nat.le_add_right, if_true]
  by_cases hn0 : r.data.length > 0
  · simp [hn0]
  · simp [List.eq_nil_of_length_eq_zero (Nat.eq_zero_of_not_pos hn0)]

theorem asmLoop_raws (rs : List Raw) (h : ∀ r ∈ rs, r.ok) : ∀ (f index : Nat), (rs.flatMap Raw.bytes).length ≤ f →
    asmLoop f index (rs.flatMap Raw.bytes) = some (if index = 0 then topText rs else tailText rs) := by
  induction rs with
  | nil =>
    intro f index _
    cases f <;> simp [asmLoop, topText, tailText]
  | cons r rs ih =>
    intro f index hf
    rw [List.flatMap_cons] at hf ⊢
    simp only [Raw.bytes, List.length_append, List.length_cons] at hf
    obtain ⟨f, rfl⟩ : ∃ g, f = g + 1 := ⟨f - 1, by omega⟩
    rw [asmLoop_raw (h r List.mem_cons_self), ih (List.forall_mem_cons.mp h).2 f _ (by omega),
      if_neg (by omega : ¬ index + 1 + r.lf.length + r.data.length = 0), Option.map_some, tailText_cons, topText]
    by_cases c : index = 0
    · subst c
      by_cases cl : r.lf = []
      · simp [cl]
      · have : r.lf.length ≠ 0 := fun e => cl (List.eq_nil_of_length_eq_zero e)
        rw [if_pos (by omega : 0 + 1 + r.lf.length > 1)]
        simp [cl]
    · rw [if_pos (by omega : index + 1 + r.lf.length > 1), if_neg c]
      simp

theorem asm_raws (rs : List Raw) (h : ∀ r ∈ rs, r.ok) : asm (rs.flatMap Raw.bytes) = some (topText rs) :=
  asmLoop_raws rs h _ 0 (Nat.le_refl _)

theorem tailText_Sp (rs : List Raw) : Sp (tailText rs) := by
  cases rs with
  | nil => exact Sp_nil
  | cons r rest => exact Sp_cons _

theorem hex_ne_tail {d : Bytes} (hd : 0 < d.length) (t : List Char) (rs : List Raw) :
    Text.hexStr d ++ t ≠ tailText rs := by
  obtain ⟨c, hs, hx, hsp, _⟩ := hexStr_head hd
  rw [hx]
  cases rs with
  | nil => simp [tailText]
  | cons r rest =>
    rw [tailText_cons]
    exact fun e => hsp (List.cons.inj e).1

theorem rawBody_head (r : Raw) : ∃ t, rawBody r = 'O' :: t := by
  obtain ⟨t, ht⟩ := (asmOpcode_shape r.op).1
  exact ⟨t ++ _, by rw [rawBody, ht]; rfl⟩

/-- a hex word cannot stand where the next round or the end of the text is expected: hex digits are not `O` -/
theorem sep_hex_ne_tail {d : Bytes} (hd : 0 < d.length) (t : List Char) (rs : List Raw) :
    ' ' :: (Text.hexStr d ++ t) ≠ tailText rs := by
  cases rs with
  | nil => simp [tailText]
  | cons r rest =>
    obtain ⟨w, hw⟩ := rawBody_head r
    obtain ⟨c, hs, hx, _, hO⟩ := hexStr_head hd
    rw [tailText_cons, hx, hw]
    exact fun e => hO (List.cons.inj (List.cons.inj e).2).1

theorem body_split {r r' : Raw} {rest rest' : List Raw} (h : r.ok) (h' : r'.ok)
    (e : rawBody r ++ tailText rest = rawBody r' ++ tailText rest') : r = r' ∧ tailText rest = tailText rest' := by
  have sp : ∀ (x : Raw) (xs : List Raw), Sp ((if x.data.length > 0 then ' ' :: Text.hexStr x.data else []) ++ tailText xs) := by
    intro x xs
    by_cases c : x.data.length > 0
    · simp only [c, if_true, List.cons_append]
      exact Sp_cons _
    · simp only [c, if_false, List.nil_append]
      exact tailText_Sp xs
  simp only [rawBody, List.append_assoc] at e
  obtain ⟨e1, e2⟩ := word_split _ _ _ _ (asmOpcode_shape r.op).2.1 (asmOpcode_shape r'.op).2.1 (sp r rest) (sp r' rest') e
  have eo : r.op = r'.op := asmOpcode_injective e1
  have fin : r.data = r'.data → tailText rest = tailText rest' → r = r' ∧ tailText rest = tailText rest' := by
    intro ed et
    have el : r.lf = r'.lf := by rw [lf_of_ok h, lf_of_ok h', eo, ed]
    refine ⟨?_, et⟩
    cases r
    cases r'
    simp_all
  -- both have data, one has (a hex word where an opcode text or the end is expected), or neither
  by_cases c : r.data.length > 0
  · by_cases c' : r'.data.length > 0
    · simp only [c, c', if_true, List.cons_append] at e2
      injection e2 with _ e3
      have hs : ∀ d : Bytes, ' ' ∉ Text.hexStr d := Text.not_mem_hexStr rfl
      obtain ⟨e4, e5⟩ := word_split _ _ _ _ (hs _) (hs _) (tailText_Sp rest) (tailText_Sp rest') e3
      exact fin (Text.hexStr_injective e4) e5
    · simp only [c, c', if_true, if_false, List.cons_append, List.nil_append] at e2
      exact absurd e2 (sep_hex_ne_tail c _ _)
  · by_cases c' : r'.data.length > 0
    · simp only [c, c', if_true, if_false, List.cons_append, List.nil_append] at e2
      exact absurd e2.symm (sep_hex_ne_tail c' _ _)
    · simp only [c, c', if_false, List.nil_append] at e2
      have d0 : r.data = [] := List.eq_nil_of_length_eq_zero (by omega)
      have d0' : r'.data = [] := List.eq_nil_of_length_eq_zero (by omega)
      exact fin (by rw [d0, d0']) e2

theorem tailText_injective : ∀ (rs rs' : List Raw), (∀ r ∈ rs, r.ok) → (∀ r ∈ rs', r.ok) →
    tailText rs = tailText rs' → rs = rs' := by
  intro rs
  induction rs with
  | nil =>
    intro rs' _ _ e
    cases rs' with
    | nil => rfl
    | cons r rest => simp [tailText] at e
  | cons r rest ih =>
    intro rs' h h' e
    cases rs' with
    | nil => simp [tailText] at e
    | cons r' rest' =>
      rw [tailText_cons, tailText_cons] at e
      injection e with _ e1
      obtain ⟨e2, e3⟩ := body_split (h r List.mem_cons_self) (h' r' List.mem_cons_self) e1
      rw [e2, ih rest' (List.forall_mem_cons.mp h).2 (List.forall_mem_cons.mp h').2 e3]

/-- an opcode text starts with `O`, so the top text itself tells whether its first round had a separator -/
theorem tailText_of_topText (rs : List Raw) :
    tailText rs = if (topText rs).head? = some 'O' then ' ' :: topText rs else topText rs := by
  cases rs with
  | nil => rfl
  | cons r rest =>
    obtain ⟨t, ht⟩ := rawBody_head r
    rw [tailText_cons, topText]
    by_cases c : r.lf = []
    · simp [c, ht]
    · simp [c]

theorem topText_injective (rs rs' : List Raw) (h : ∀ r ∈ rs, r.ok) (h' : ∀ r ∈ rs', r.ok)
    (e : topText rs = topText rs') : rs = rs' :=
  tailText_injective rs rs' h h' (by rw [tailText_of_topText rs, tailText_of_topText rs', e])

/-- round by round the iterator and `fmt_asm` read the same header -/
theorem raws_or_marker (f : Nat) : ∀ s : Bytes, s.length ≤ f →
    ((collect false f s).2 = none ∧ ∃ rs : List Raw, s = rs.flatMap Raw.bytes ∧ ∀ r ∈ rs, r.ok) ∨
    ((collect false f s).2 ≠ none ∧ ∀ index, ∃ cs, asmLoop f index s = some cs ∧ '<' ∈ cs) := by
  have m1 : '<' ∈ asmUnexpectedEnd := by decide
  have m2 : '<' ∈ asmPushPastEnd := by decide
  induction f with
  | zero =>
    intro s hl
    exact .inl ⟨rfl, [], List.eq_nil_of_length_eq_zero (by omega), by simp⟩
  | succ f ih =>
    intro s hl
    cases s with
    | nil => exact .inl ⟨rfl, [], rfl, by simp⟩
    | cons b tl =>
      cases hh : hdr b tl with
      | none =>
        simp only [collect, next_cons, hh]
        exact .inr ⟨by simp, fun index => ⟨_, by simp only [asmLoop, dataLen_eq, hh], m1⟩⟩
      | some kn =>
        obtain ⟨k, n⟩ := kn
        by_cases c : (tl.drop k).length < n
        · have hn : n > 0 := by omega
          have hle : ¬ n ≤ (tl.drop k).length := by omega
          simp only [collect, next_cons, hh, if_pos c]
          exact .inr ⟨by simp, fun index =>
            ⟨_, by simp only [asmLoop, dataLen_eq, hh, hn, hle, if_true, if_false]; rfl, by simp [m2]⟩⟩
        · simp only [collect, next_cons, hh, if_neg c]
          obtain ⟨r, hok, e⟩ := hdr_split hh (by omega)
          have hlen : ((tl.drop k).drop n).length ≤ f := by
            simp only [List.length_drop, List.length_cons] at hl ⊢
            omega
          rcases ih _ hlen with ⟨h, rs, e', hrs⟩ | ⟨h, hm⟩
          · exact .inl ⟨h, r :: rs, by rw [List.flatMap_cons, ← e', ← e], List.forall_mem_cons.mpr ⟨hok, hrs⟩⟩
          · refine .inr ⟨h, fun index => ?_⟩
            obtain ⟨cs, hcs, hm⟩ := hm (index + 1 + r.lf.length + r.data.length)
            exact ⟨_, by rw [e, asmLoop_raw hok, hcs]; rfl, by simp [hm]⟩

theorem asm_cases (s : Bytes) :
    ((instructions s).2 = none ∧
      ∃ rs : List Raw, (∀ r ∈ rs, r.ok) ∧ s = rs.flatMap Raw.bytes ∧ asm s = some (topText rs)) ∨
    ((instructions s).2 ≠ none ∧ ∃ cs, asm s = some cs ∧ '<' ∈ cs) := by
  rcases raws_or_marker s.length s (Nat.le_refl _) with ⟨h, rs, e, hok⟩ | ⟨h, hm⟩
  · exact .inl ⟨h, rs, hok, e, e ▸ asm_raws rs hok⟩
  · exact .inr ⟨h, hm 0⟩

theorem asm_clean {s : Bytes} (h : (instructions s).2 = none) :
    ∃ rs : List Raw, (∀ r ∈ rs, r.ok) ∧ s = rs.flatMap Raw.bytes ∧ asm s = some (topText rs) := by
  rcases asm_cases s with ⟨_, h'⟩ | ⟨hne, _⟩
  · exact h'
  · exact absurd h hne

theorem asm_injective_clean (s t : Bytes) (hs : (instructions s).2 = none) (ht : (instructions t).2 = none)
    (h : asm s = asm t) : s = t := by
  obtain ⟨rs, oks, es, as⟩ := asm_clean hs
  obtain ⟨rt, okt, et, at'⟩ := asm_clean ht
  rw [as, at'] at h
  rw [es, et, topText_injective rs rt oks okt (Option.some.inj h)]

theorem rawBody_no_lt (r : Raw) : '<' ∉ rawBody r := by
  intro m
  simp only [rawBody, List.mem_append] at m
  rcases m with m | m
  · exact (asmOpcode_shape r.op).2.2 m
  · split at m
    · rcases List.mem_cons.mp m with m | m
      · exact absurd m (by decide)
      · exact Text.not_mem_hexStr rfl _ m
    · cases m

theorem tailText_no_lt (rs : List Raw) : '<' ∉ tailText rs := by
  intro m
  simp only [tailText, List.mem_flatMap] at m
  obtain ⟨r, _, m⟩ := m
  rcases List.mem_cons.mp m with m | m
  · exact absurd m (by decide)
  · exact rawBody_no_lt r m

theorem topText_no_lt (rs : List Raw) : '<' ∉ topText rs := by
  intro m
  apply tailText_no_lt rs
  rw [tailText_of_topText]
  split
  · exact List.mem_cons_of_mem _ m
  · exact m

theorem asm_total (s : Bytes) : ∃ cs, asm s = some cs := by
  rcases asm_cases s with ⟨_, rs, _, _, e⟩ | ⟨_, cs, e, _⟩
  · exact ⟨_, e⟩
  · exact ⟨cs, e⟩

/-- the raw instruction the builder writes for an instruction, its text and its part in the separator quirk -/
theorem raw_enc (i : Instr) (hwf : i.wf) :
    ∃ r : Raw, r.ok ∧ r.bytes = encInstr i ∧ rawBody r = asmItem i ∧ asmLead [i] = if r.lf = [] then [] else [' '] := by
  cases i with
  | op c =>
    have h4 : opPushdata4 < c := hwf
    exact ⟨⟨c, [], []⟩, ⟨(lfLen_zero (.inr h4)).symm, by simp [dataLenOf, not_direct_of_op h4, leNat]⟩, rfl,
      by simp [rawBody, asmItem], rfl⟩
  | push d =>
    rcases pushHeader_cases (n := d.length) hwf with ⟨h1, e⟩ | ⟨op, k, bound, hp, h1, h2, e⟩
    · obtain ⟨hb, c0⟩ := ofNat_direct h1
      exact ⟨⟨UInt8.ofNat d.length, [], d⟩, ⟨(lfLen_zero (.inl c0)).symm, by simp [dataLenOf, c0, hb]⟩,
        by simp [Raw.bytes, encInstr, e], by simp [rawBody, asmItem, pushOpcodeOf, e], by simp [asmLead]; omega⟩
    · obtain ⟨hk, _, hb, h75, _⟩ := hp.facts
      have hne : leBytes k d.length ≠ [] := List.ne_nil_of_length_pos (by rw [leBytes_length]; exact hk)
      exact ⟨⟨op, leBytes k d.length, d⟩,
        ⟨by rw [leBytes_length, lfLen_pushdata hp], by simp [dataLenOf, h75, leNat_leBytes k _ h2]⟩,
        by simp [Raw.bytes, encInstr, e], by simp [rawBody, asmItem, pushOpcodeOf, e], by simp [asmLead, hne]; omega⟩

theorem intercalate_cons_map {α} (f : α → List Char) (a : List Char) (xs : List α) :
    [' '].intercalate (a :: xs.map f) = a ++ xs.flatMap fun x => ' ' :: f x := by
  induction xs generalizing a with
  | nil => simp
  | cons x xs ih =>
    rw [List.map_cons, List.intercalate_cons_cons, ih]
    simp

theorem raws_serialize (is : List Instr) (hwf : ∀ i ∈ is, i.wf) :
    ∃ rs : List Raw, (∀ r ∈ rs, r.ok) ∧ rs.flatMap Raw.bytes = serialize is ∧
      tailText rs = is.flatMap (fun i => ' ' :: asmItem i) ∧ topText rs = asmItems is := by
  induction is with
  | nil => exact ⟨[], by simp, rfl, rfl, rfl⟩
  | cons i is ih =>
    obtain ⟨hi, his⟩ := List.forall_mem_cons.mp hwf
    obtain ⟨rs, hok, hs, ht, _⟩ := ih his
    obtain ⟨r, hr, hb, hbody, hl⟩ := raw_enc i hi
    have ha : asmLead (i :: is) = asmLead [i] := by cases i <;> rfl
    exact ⟨r :: rs, List.forall_mem_cons.mpr ⟨hr, hok⟩, by rw [List.flatMap_cons, hb, hs, serialize],
      by rw [tailText_cons, hbody, ht]; simp,
      by rw [topText, asmItems, List.map_cons, intercalate_cons_map, hbody, ht, ha, hl, List.append_assoc]⟩

theorem asm_serialize (is : List Instr) (hwf : ∀ i ∈ is, i.wf) : asm (serialize is) = some (asmItems is) := by
  obtain ⟨rs, hok, hs, _, ht⟩ := raws_serialize is hwf
  rw [← hs, asm_raws rs hok, ht]

end EV.Proofs.ScriptAsm
