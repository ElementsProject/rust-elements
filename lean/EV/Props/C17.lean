/-
  C17 — segwit address checksums detect every one- and two-character corruption.

  Model: `EV.Model.Bech32` (polymod engine of the `bech32` crate, the four checksum variants,
  the two segwit string decoders). Constants: bech32/bech32m from `EV.Ref` (dependency), blech32 /
  blech32m from `EV.Gen` (re-extracted from /repo/src/blech32/mod.rs on every run — the finite tables
  of `EV.Proofs.PolymodFacts` are re-evaluated by the kernel for whatever generators the source has).

  Length bounds proved (in 5-bit symbols, hrp expansion `2·|hrp|+1` included):
    same variant          : ≤ 1023 symbols  (x has order 1023 modulo both generator polynomials)
    switched variant      : ≤ 100 symbols for bech32↔bech32m, ≤ 140 for blech32↔blech32m.
  Every address the library can produce is within them: unblinded strings have ≤ 90 characters
  (≤ 93 symbols with a 3-character hrp); blinded data parts have ≤ 1 + 118 + 12 symbols
  (73 payload bytes), ≤ 138 symbols with a 3-character hrp (`total_symbols_within_bound`).
-/
import EV.Proofs.AddrDetect
namespace EV.Props.C17
open EV EV.Bech32 EV.Bech32.Code

/-- the checksum algorithms the two decoders choose between by witness version: `Bech32`, `Bech32m` of the
    `bech32` crate; `Blech32`, `Blech32m` of `src/blech32/mod.rs` -/
def variants : List Variant := [bech32, bech32m, blech32, blech32m]

theorem variant_facts (v : Variant) (hv : v ∈ variants) :
    v.code.Good ∧ v.code.LowBij ∧ v.code.Table1 := by
  have hc := (by decide : ∀ v ∈ variants, v.code = bech32Code ∨ v.code = blech32.code) v hv
  rcases hc with hc | hc
  · rw [hc]
    exact ⟨bech32Code_good, bech32Code_lowBij, bech32Code_table1⟩
  · rw [hc]
    exact ⟨blech32Code_good, blech32Code_lowBij, blech32Code_table1⟩

/-- XOR-linearity of one polymod step (any generator table, any checksum length) -/
theorem step_linear (c : Code) (a b e f : Nat) (he : e < 32) (hf : f < 32) :
    c.step (a ^^^ b) (e ^^^ f) = c.step a e ^^^ c.step b f :=
  Code.step_linear c a b e f he hf

/-- XOR-linearity of the polymod of whole strings -/
theorem polymod_linear (c : Code) (s s' : Nat) (w d : List Nat) (hlen : w.length = d.length)
    (hw : ∀ x ∈ w, x < 32) (hd : ∀ x ∈ d, x < 32) :
    c.polymodFrom (s ^^^ s') (xorList w d) = c.polymodFrom s w ^^^ c.polymodFrom s' d :=
  Code.polymod_linear c s s' w d hlen hw hd

/-- for a fixed input symbol the map residue ↦ next residue is injective (explicit left inverse `Code.Tinv`) -/
theorem step_injective (v : Variant) (hv : v ∈ variants) (e a b : Nat) (he : e < 32)
    (ha : a < 2 ^ (5 * v.code.len)) (hb : b < 2 ^ (5 * v.code.len))
    (h : v.code.step a e = v.code.step b e) : a = b :=
  let ⟨hg, hl, _⟩ := variant_facts v hv
  Code.step_injective v.code hg hl e a b he ha hb h

/-- the finite table: starting from a non-zero symbol, `d` zero-input steps (1 ≤ d ≤ 1022) never
    lead back to a bare symbol -/
theorem no_bare_symbol_within_1022 (v : Variant) (hv : v ∈ variants) (e d : Nat)
    (he0 : 0 < e) (he : e < 32) (hd1 : 1 ≤ d) (hd : d ≤ 1022) : 32 ≤ v.code.Tpow d e :=
  (variant_facts v hv).2.2 e d he0 he hd1 hd

/-- **Symbol strings, anywhere.** Two symbol strings of equal length ≤ 1023 that differ in one or two
    positions have different residues under each of the four codes. -/
theorem single_double_residue (v : Variant) (hv : v ∈ variants) (w w' : List Nat)
    (hlen : w.length = w'.length) (hw : ∀ x ∈ w, x < 32) (hw' : ∀ x ∈ w', x < 32)
    (h1 : 1 ≤ diffCount w w') (h2 : diffCount w w' ≤ 2) (hl : w.length ≤ 1023) :
    v.code.polymod w ≠ v.code.polymod w' :=
  let ⟨hg, hb, ht⟩ := variant_facts v hv
  residues_differ v.code hg hb ht w w' ⟨hlen, hw, hw', h1, h2⟩ hl

/-- **Main theorem.** For every string (hrp expansion ++ `syms`, the data and checksum symbols) of at most
    1023 symbols that verifies under a variant, replacing one or two symbols of `syms` — data or checksum,
    the hrp stays — by different symbols gives a string that does not verify under the same variant. -/
theorem single_double_detected (v : Variant) (hv : v ∈ variants) (hrp : Text) (hh : ∀ b ∈ hrp, b < 128)
    (syms syms' : List Nat) (hlen : syms.length = syms'.length)
    (hs : ∀ x ∈ syms, x < 32) (hs' : ∀ x ∈ syms', x < 32)
    (h1 : 1 ≤ diffCount syms syms') (h2 : diffCount syms syms' ≤ 2)
    (hl : (hrpExpand hrp ++ syms).length ≤ 1023)
    (hver : verify v hrp syms = true) : verify v hrp syms' = false := by
  obtain ⟨hg, hb, ht⟩ := variant_facts v hv
  have := residues_differ v.code hg hb ht _ _
    (Corrupted.append_left (w := syms) (w' := syms') ⟨hlen, hs, hs', h1, h2⟩ _ (hrpExpand_lt hrp hh)) hl
  rw [verify_eq_true_iff] at hver
  rw [verify_eq_false_iff]
  exact fun h => this (hver.trans h.symm)

/-- no string verifies under both variants of a decoder (the two targets differ) -/
theorem variants_exclusive (f : Flavor) (hf : IsFlavor f) (hrp : Text) (syms : List Nat)
    (h0 : verify f.v0 hrp syms = true) : verify f.vm hrp syms = false := by
  have ff := flavorFacts f hf
  rw [verify_eq_true_iff] at h0
  rw [verify_eq_false_iff, ff.code_eq]
  exact fun h => ff.target_ne (h0.symm.trans h)

/-- **Variant switch.** When a corruption of the witness-version character makes the decoder use
    the OTHER variant (v0: bech32/blech32, v1+: bech32m/blech32m), the corrupted string fails under
    that variant too: within `f.switchBound` symbols the residue difference of one or two symbol errors is
    never `target ⊕ target'`. `ver`, `ver'` are the witness versions before and after (any values). -/
theorem variant_switch_detected (f : Flavor) (hf : IsFlavor f) (ver ver' : Nat) (hrp : Text)
    (hh : ∀ b ∈ hrp, b < 128) (syms syms' : List Nat) (hlen : syms.length = syms'.length)
    (hs : ∀ x ∈ syms, x < 32) (hs' : ∀ x ∈ syms', x < 32)
    (h1 : 1 ≤ diffCount syms syms') (h2 : diffCount syms syms' ≤ 2)
    (hl : (hrpExpand hrp ++ syms).length ≤ f.switchBound)
    (hver : verify (f.variant ver) hrp syms = true) : verify (f.variant ver') hrp syms' = false :=
  verify_detect f hf ver ver' hrp hh syms syms' ⟨hlen, hs, hs', h1, h2⟩ hl hver

/-- the lengths, in symbols, for which the `Table2` facts of `EV.Proofs.PolymodFacts` are evaluated: the crate's
    decoder (bech32 ↔ bech32m) and the repo's (blech32 ↔ blech32m) -/
theorem switch_bounds : crateFlavor.switchBound = 100 ∧ blechFlavor.switchBound = 140 :=
  ⟨switchBound_crate, switchBound_blech⟩

/-- hrps of at most 4 characters: the networks' have 2 or 3. The switch bound of a decoder is the smallest of
    the proved bounds. -/
theorem total_symbols_within_bound (f : Flavor) (hf : IsFlavor f) (h d : Text) (r : Seg)
    (hok : segwitNew f (h ++ 49 :: d) = .ok r) (hh : h.length ≤ 4)
    (hd : ∀ c ∈ d, (fromChar c).isSome = true) :
    (hrpExpand h ++ d.map sym).length ≤ f.switchBound :=
  symbols_within_bound f hf h d r hok hh hd

/-- a data part of alphabet characters whose first has a symbol value above 16 is rejected by every decoder
    (any `Flavor`), whatever the hrp; the statement does not say with which error (`InvalidWitnessVersion`
    in the crate, unless an earlier check fails) -/
theorem version_gt16_rejected (f : Flavor) (h d : Text) (c0 : Nat)
    (hd : ∀ c ∈ c0 :: d, (fromChar c).isSome = true) (hv : 16 < sym c0) :
    ∃ k, segwitNew f (h ++ 49 :: c0 :: d) = .err k := by
  refine segwitNew_err_of_not_ok _ _ fun r hok => ?_
  obtain ⟨d0, ck, hun, e, _, _, hle, _⟩ := (segwitNew_eq_ok_iff f _ r).mp hok
  obtain ⟨_, rfl⟩ := uncheckedNew_split h _ hd _ _ hun
  rw [← (List.cons.inj e).1] at hle
  omega

/-- **Strings.** If `h ++ "1" ++ d` is accepted by a segwit decoder (the crate's for unblinded, the
    repo's for blinded addresses) and `d'` is obtained from the data part `d` by replacing one or
    two characters — the witness-version character included — by alphabet characters of a different
    symbol value, then `h ++ "1" ++ d'` is rejected by that decoder, whatever variant the corrupted
    version character selects. -/
theorem corrupted_data_rejected (f : Flavor) (hf : IsFlavor f) (h d d' : Text) (r : Seg)
    (hok : segwitNew f (h ++ 49 :: d) = .ok r) (hh : h.length ≤ 4)
    (hd : ∀ c ∈ d, (fromChar c).isSome = true) (hd' : ∀ c ∈ d', (fromChar c).isSome = true)
    (hlen : d'.length = d.length)
    (h1 : 1 ≤ diffCount (d.map sym) (d'.map sym)) (h2 : diffCount (d.map sym) (d'.map sym) ≤ 2) :
    ∃ k, segwitNew f (h ++ 49 :: d') = .err k :=
  Bech32.corrupted_data_rejected f hf h d d' r hok hh hd hd' hlen h1 h2

/-- the model of `SegwitHrpstring::new` (crate and `src/blech32/decode.rs`; here for any `Flavor`) returns `ok`
    or `err` on every string. The model has no panicking step on this path: `data[0]` and the `unwrap`s of the
    source come after the checks that make them safe (`MissingWitnessVersion` for an empty data part,
    `check_characters`). -/
theorem segwitNew_total (f : Flavor) (s : Text) (site : String) : segwitNew f s ≠ .panic site :=
  segwitNew_not_panic f s site

/-- residues of the expanded hrps of the three networks are pairwise different within each kind -/
theorem network_hrp_residues_differ :
    (∀ p ∈ Gen.allParamsB, ∀ q ∈ Gen.allParamsB, p.bechHrp ≠ q.bechHrp →
      bech32Code.polymod (hrpExpand p.bechHrp) ≠ bech32Code.polymod (hrpExpand q.bechHrp)) ∧
    (∀ p ∈ Gen.allParamsB, ∀ q ∈ Gen.allParamsB, p.blechHrp ≠ q.blechHrp →
      blech32.code.polymod (hrpExpand p.blechHrp) ≠ blech32.code.polymod (hrpExpand q.blechHrp)) :=
  ⟨Addr.hrp_residues false, Addr.hrp_residues true⟩

/-- the hrp is part of the checksum input: a data part that verifies with one network's hrp does not
    verify with the same-kind hrp of another network (so a corrupted hrp that happens to spell another
    network's hrp of the same kind is rejected — for any number of replaced characters) -/
theorem hrp_change_detected (p q : Gen.AddrParamsB) (hp : p ∈ Gen.allParamsB) (hq : q ∈ Gen.allParamsB)
    (syms : List Nat) (hs : ∀ x ∈ syms, x < 32) :
    (∀ v ∈ [bech32, bech32m], p.bechHrp ≠ q.bechHrp →
      verify v p.bechHrp syms = true → verify v q.bechHrp syms = false) ∧
    (∀ v ∈ [blech32, blech32m], p.blechHrp ≠ q.blechHrp →
      verify v p.blechHrp syms = true → verify v q.blechHrp syms = false) := by
  -- both kinds at once: `bl` picks the hrp and the code, which the two variants of a kind share
  have key : ∀ bl (v : Variant), v.code = (if bl then blechFlavor else crateFlavor).v0.code →
      Addr.hrpOf bl p ≠ Addr.hrpOf bl q → verify v (Addr.hrpOf bl p) syms = true →
      verify v (Addr.hrpOf bl q) syms = false := by
    intro bl v hc hne hv
    rw [verify_eq_true_iff, hc] at hv
    rw [verify_eq_false_iff, hc]
    exact fun h => Addr.hrp_detected bl p q hp hq hne syms hs (hv.trans h.symm)
  exact ⟨fun v hv => key false v ((by decide : ∀ v ∈ [bech32, bech32m], v.code = bech32Code) v hv),
    fun v hv => key true v ((by decide : ∀ v ∈ [blech32, blech32m], v.code = blech32.code) v hv)⟩

/-- one replaced hrp character changes at most two symbols of the expanded hrp (its high and its low
    part): a weight `single_double_residue` covers. The two are not combined here into a statement that one
    replaced hrp character is detected; two replaced characters (up to four symbols) are outside the bounds. -/
theorem hrp_char_two_symbols (h1 h2 : Text) (a b : Nat) :
    diffCount (hrpExpand (h1 ++ a :: h2)) (hrpExpand (h1 ++ b :: h2)) ≤ 2 := by
  have hlo := diffCount_replace (h2.map (fun b => lowerByte b / 32) ++ 0 :: h1.map (fun b => lowerByte b % 32))
    (h2.map fun b => lowerByte b % 32) (lowerByte a % 32) (lowerByte b % 32)
  simp only [hrpExpand, List.map_append, List.map_cons, List.append_assoc, List.cons_append] at hlo ⊢
  -- the low part differs in one position, the high part in one more
  rw [diffCount_append_left, diffCount_cons]
  split <;> omega

/-! ### the address parser (`EV.Model.Address`: `Address::from_str`, `parse_with_params`) -/

/-- **Addresses, data part.** If `h ++ "1" ++ d` parses as a segwit address (any of the three
    networks, blinded or not) and `d'` is `d` with one or two characters replaced by alphabet
    characters of different symbol values — the witness-version character included — then the
    corrupted string is rejected by `from_str` and by `parse_with_params` of the address's own network;
    under the parameters of any of the three networks it is rejected or the whole string is a valid
    base58check string (where the prefix matches none of that network's hrps the parser falls through
    to base58). The statement leaves that second alternative open; the proof never takes it, since what
    `parse_with_params` of one of the three networks accepts, `from_str` accepts. -/
theorem corrupted_address_rejected (P : Addr.Prims) (h d d' : Text) (a : Addr.Address)
    (hok : Addr.fromStr P (h ++ 49 :: d) = .ok a) (hseg : a.payload.isSegwit = true)
    (hd : ∀ c ∈ d, (fromChar c).isSome = true) (hd' : ∀ c ∈ d', (fromChar c).isSome = true)
    (hlen : d'.length = d.length)
    (h1 : 1 ≤ diffCount (d.map sym) (d'.map sym)) (h2 : diffCount (d.map sym) (d'.map sym) ≤ 2) :
    (∃ k, Addr.fromStr P (h ++ 49 :: d') = .err k) ∧
    (∃ k, Addr.parseWithParams P (h ++ 49 :: d') a.params = .err k) ∧
    (∀ q ∈ Gen.allParamsB, (∃ k, Addr.parseWithParams P (h ++ 49 :: d') q = .err k) ∨
      (Base58.decodeCheck P.sha256d (h ++ 49 :: d')).isSome = true) :=
  Addr.corrupted_address_rejected P h d d' a hok hseg hd hd' hlen h1 h2

/-- **Addresses, human-readable part (PARTIAL).** Replacing the human-readable part of a valid segwit
    address by anything that is not a case variant of it gives a string that `from_str` rejects,
    EXCEPT possibly when (1) the new hrp spells an hrp of the other kind (unblinded ↔ blinded, e.g.
    `ex`→`el`, `ex`→`lq`, `tex`→`tlq`), where the data part is checked under a different code, or
    (2) the new hrp matches no network and the whole string is a valid base58check string.
    Full statement (not provable: both exceptions depend on checksum coincidences, (1) of 60 bits towards a
    blinded hrp and 30 bits towards an unblinded one, (2) of 32 bits): `∃ k, fromStr P (h' ++ 49 :: d) = .err k`.
    The two residual cases are enumerated by the direct search for representative addresses. -/
theorem hrp_corruption_partial (P : Addr.Prims) (h h' d : Text) (a : Addr.Address)
    (hok : Addr.fromStr P (h ++ 49 :: d) = .ok a) (hseg : a.payload.isSegwit = true)
    (hd : ∀ c ∈ d, (fromChar c).isSome = true) (hne : lower h' ≠ lower h) :
    (∃ k, Addr.fromStr P (h' ++ 49 :: d) = .err k) ∨
    (Addr.IsBechHrp (lower h) ∧ Addr.IsBlechHrp (lower h') ∨ Addr.IsBlechHrp (lower h) ∧ Addr.IsBechHrp (lower h')) ∨
    (Base58.decodeCheck P.sha256d (h' ++ 49 :: d)).isSome = true :=
  Addr.hrp_corruption_partial P h h' d a hok hseg hd hne

/-- non-vacuity: a 20-byte v0 program under hrp "ex" encodes to a string the crate decoder accepts -/
example : (segwitNew crateFlavor
    (encode bech32 [101, 120] 0 (bytesToFes (List.replicate 20 7)))).isOk = true := by
  decide +kernel

/-- non-vacuity: a 33+32-byte v1 payload under hrp "lq" encodes to a string the blech32 decoder accepts -/
example : (segwitNew blechFlavor
    (encode blech32m [108, 113] 1 (bytesToFes (List.replicate 65 2)))).isOk = true := by
  decide +kernel

end EV.Props.C17
