/-
  C18 — fast_merkle_root is the definitional midstate merkle tree for every leaf count.
  `comb` (the SHA-256 compression of `l ‖ r` from the initial state) and the node type are parameters: nothing depends
  on what the hash is; the last section puts in the function that the correspondence run executes.
-/
import EV.Model.FastMerkle
import EV.Proofs.FastMerkle
import EV.Model.Sha256
namespace EV.Props.C18
open EV.FastMerkle

variable {α : Type}

/-- A collision of the two-to-one compression function, with the colliding pairs exhibited. -/
def Collision (comb : α → α → α) : Prop :=
  ∃ a b c d, (a, b) ≠ (c, d) ∧ comb a b = comb c d

/-- Main theorem: for every leaf list of at most 2^31 leaves the loop as coded (32 slots, `u32`
    counter, carry loop, final sweep; `none` = the Rust code would panic) returns exactly the root of
    the definitional tree.  (For 2^31 < n < 2^32, n not a power of two, the `u32` counter of the final
    sweep overflows in the Rust code; such an input needs > 64 GiB of leaves.) -/
theorem fast_eq_level (comb : α → α → α) (zero : α) (leaves : List α)
    (h : leaves.length ≤ 2^31) :
    fast comb zero leaves = some (levelRoot comb zero leaves) :=
  EV.Proofs.FastMerkle.fast_eq_level comb zero leaves h

/-- the empty list gives the all-zero value -/
theorem root_empty (comb : α → α → α) (zero : α) : fast comb zero [] = some zero := by
  simp [fast]

/-- a single leaf gives that leaf -/
theorem root_single (comb : α → α → α) (zero a : α) : fast comb zero [a] = some a := by
  have := fast_eq_level comb zero [a] (by simp)
  simpa [levelRoot] using this

/-- never panics (no u32 overflow, no shift overflow, no index out of the 32 slots) below 2^31 leaves -/
theorem fast_no_panic (comb : α → α → α) (zero : α) (leaves : List α) (h : leaves.length ≤ 2^31) :
    fast comb zero leaves ≠ none := by
  rw [fast_eq_level comb zero leaves h]
  exact Option.some_ne_none _

/-- The root commits to every leaf and to leaf order: two leaf lists of the same length with the
    same root are equal, or a collision of the compression function is exhibited. -/
theorem root_commits (comb : α → α → α) (zero : α) (l₁ l₂ : List α)
    (hlen : l₁.length = l₂.length)
    (hroot : levelRoot comb zero l₁ = levelRoot comb zero l₂) :
    l₁ = l₂ ∨ Collision comb :=
  EV.Proofs.FastMerkle.root_commits comb zero l₁ l₂ hlen hroot

/-- Hence the coded function commits likewise, on lists of at most 2^31 leaves. -/
theorem fast_commits (comb : α → α → α) (zero : α) (l₁ l₂ : List α)
    (h₁ : l₁.length ≤ 2^31) (hlen : l₁.length = l₂.length)
    (hroot : fast comb zero l₁ = fast comb zero l₂) :
    l₁ = l₂ ∨ Collision comb := by
  rw [fast_eq_level comb zero l₁ h₁, fast_eq_level comb zero l₂ (hlen ▸ h₁)] at hroot
  exact root_commits comb zero l₁ l₂ hlen (Option.some.inj hroot)

/-! ### the instance the correspondence run executes

  The driver evaluates `fast` with `comb := Sha256.midstate` (the SHA-256 compression of `l ‖ r` from the initial
  state, the model's transcription of `sha256::Midstate` after one block) and `zero := 0^32`; the K op `fmr` compares
  THAT function with the real `fast_merkle_root`, and the K op `sha` ties `Sha256.*` to the real SHA-256. The
  theorems above hold for every `comb`; here they are at the one that runs. -/

theorem fast_eq_level_sha256 (leaves : List EV.Bytes) (h : leaves.length ≤ 2^31) :
    fast EV.Sha256.midstate (List.replicate 32 0) leaves
      = some (levelRoot EV.Sha256.midstate (List.replicate 32 0) leaves) :=
  fast_eq_level _ _ leaves h

/-- equal roots of equally long lists (at most 2^31 leaves) mean equal lists or an explicit collision of the SHA-256 compression
    function on two 64-byte blocks -/
theorem fast_commits_sha256 (l₁ l₂ : List EV.Bytes) (h₁ : l₁.length ≤ 2^31) (hlen : l₁.length = l₂.length)
    (hroot : fast EV.Sha256.midstate (List.replicate 32 0) l₁ = fast EV.Sha256.midstate (List.replicate 32 0) l₂) :
    l₁ = l₂ ∨ Collision EV.Sha256.midstate :=
  fast_commits _ _ l₁ l₂ h₁ hlen hroot

/-- non-vacuity: a concrete 5-leaf instance over `Nat` with a non-commutative `comb` -/
example : fast (fun a b => 2 * a + 3 * b + 1) 0 [1, 2, 3, 4, 5] = some 168 := by decide
example : levelRoot (fun a b => 2 * a + 3 * b + 1) 0 [1, 2, 3, 4, 5] = 168 := by
  simp [levelRoot, pairUp]

end EV.Props.C18
