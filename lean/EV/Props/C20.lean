/-
  C20 — serde and textual forms round-trip in self-describing formats.

  Scope (DESIGN §2 C20): (a) every `Display`/`FromStr` pair and (b) every HAND-WRITTEN serde impl of
  rust-elements, over the models `EV.Model.Text` and `EV.Model.Serde` (serde data model `SVal`, what a
  self-describing format forgets: `lossy`), and (c) every `#[derive(Serialize, Deserialize)]`
  item (the PSET maps, `TxOutSecrets`, `TapTree`, `ControlBlock`, `SchnorrSig`, …) through the table-driven
  interpreter `EV.Model.SerdeDerive` (the serde impls of third-party leaf types are the hypothesis `DepsLawful`). The
  concrete byte syntax of serde_json / serde_cbor stays OUTSIDE the model: it is exercised on the real code only
  (harness S stream). `serde_roundtrip_handwritten_partial` sums up part (b), `serde_roundtrip_all` combines it with
  the derived items.

  `h` is `is_human_readable()`, `f` the format; `compatible h f` excludes the one impossible combination
  (a format that forgets byte strings, JSON, is always human readable). `P : Prims` are the parse-acceptance
  predicates of secp256k1-zkp (parameters). Text is `List Char`; `String.ofList`/`toList` convert.
-/
import EV.Proofs.OrdMap
import EV.Proofs.Text
import EV.Proofs.Serde
import EV.Proofs.SerdeUtils
import EV.Proofs.PsetWireTop
import EV.Proofs.SerdeDerive
namespace EV.Props.C20
open EV EV.Text EV.Serde

/-! ## (a) Display / FromStr -/

/-- decimal printing of a `u32` parses back (`str::parse::<u32>`: no overflow on any prefix) -/
theorem text_roundtrip_u32 (n : Nat) (h : n < 2^32) : parseU32 (showNat n) = .ok n := parseU32_showNat n h

/-- printing in any radix 2..16 parses back at any unsigned width (`u64` decimal, `u32` radix 16, …) -/
theorem text_roundtrip_uint (b B n : Nat) (hb2 : 2 ≤ b) (hb : b ≤ 16) (h : n < B) :
    parseUInt b B (showBase b n) = .ok n := parseUInt_showBase b B n hb2 hb h

/-- lower-case hex of any byte string decodes back (`hex::decode_to_vec`) -/
theorem text_roundtrip_hex (bs : Bytes) : unhex (hexStr bs) = .ok bs := unhex_hexStr bs

/-- every hash newtype and sha256-midstate wrapper (`Txid`, `Wtxid`, `BlockHash`, `TxMerkleNode`,
    `ContractHash`, `AssetId`, `AssetEntropy`, `DynafedRoot`, `ParamsRoot`, `ElidedRoot` — reversed hex;
    `WScriptHash`, `ScriptHash`, `TapLeafHash`, `TapNodeHash`, `TapTweakHash`, `PubkeyHash`, `WPubkeyHash` —
    forward hex): `from_str(to_string(x)) = x`, whatever the direction and length of the kind -/
theorem text_roundtrip_hash (k : HashKind) (b : Bytes) (h : b.length = k.len) :
    hashParse k (hashShow k b) = .ok b := hashParse_hashShow k b h

/-- `from_str(to_string(x)) = x` in particular for every kind of the table the driver and the harness agree on
    (`hashKinds`) -/
theorem text_roundtrip_hash_table : ∀ p ∈ hashKinds, ∀ b : Bytes, b.length = p.2.len →
    hashParse p.2 (hashShow p.2 b) = .ok b := fun p _ b h => hashParse_hashShow p.2 b h

/-- `AssetBlindingFactor` / `ValueBlindingFactor` (reversed hex; a value of the type is a valid tweak) -/
theorem text_roundtrip_blinding_factor (P : Prims) (b : Bytes) (hl : b.length = 32) (ht : P.tweak b = true) :
    bfParse P.tweak (bfShow b) = .ok b := bfParse_bfShow P.tweak b hl ht

/-- `LockTime` (`from_consensus` is total on `u32`, so `lockTimeParse` is `parseU32`) -/
theorem text_roundtrip_locktime (n : Nat) (h : n < 2^32) : lockTimeParse (showNat n) = .ok n := parseU32_showNat n h

/-- `Height`: values of the type are below `LOCK_TIME_THRESHOLD` -/
theorem text_roundtrip_height (n : Nat) (h : n < Gen.lockTimeThreshold) : heightParse (showNat n) = .ok n := by
  have h32 : n < 2^32 := Nat.lt_trans h (by decide)
  simp [heightParse, parseU32_showNat n h32, h]

/-- `Time`: values of the type are at or above `LOCK_TIME_THRESHOLD` -/
theorem text_roundtrip_time (n : Nat) (h : Gen.lockTimeThreshold ≤ n) (h32 : n < 2^32) :
    timeParse (showNat n) = .ok n := by
  simp [timeParse, parseU32_showNat n h32, h]

/-- `Sequence` (`sequenceParse` is `parseU32`) -/
theorem text_roundtrip_sequence (n : Nat) (h : n < 2^32) : sequenceParse (showNat n) = .ok n := parseU32_showNat n h

/-- `OutPoint`: `[elements]txid:vout` parses back (one colon, ≤ 75 bytes after the prefix, canonical vout) -/
theorem text_roundtrip_outpoint (o : OutPoint) (ht : o.txid.length = 32) (hv : o.vout < 2^32) :
    outPointParse (outPointShow o) = .ok o := outPointParse_outPointShow o ht hv

/-- the `[elements]` prefix is optional on parse -/
theorem outpoint_prefix_optional (o : OutPoint) (ht : o.txid.length = 32) (hv : o.vout < 2^32) :
    outPointParse (hashShow kTxid o.txid ++ ':' :: showNat o.vout) = .ok o := by
  -- the prefix is shorter than the 64 hex digits in front, so it would be a prefix of them: but they hold no `[`
  have hnotpre : ¬ Gen.outPointParsePrefix.toList <+: hashShow kTxid o.txid ++ ':' :: showNat o.vout := fun hp =>
    not_mem_hexStr (c := '[') rfl _ ((List.prefix_of_prefix_length_le hp (List.prefix_append _ _)
      (by simp [hashShow, kTxid, hexStr_length, ht, outPointPrefix_length]; decide)).subset (by decide))
  simp only [outPointParse, List.isPrefixOf_iff_prefix, hnotpre, false_and, if_false]
  exact btcOutPointParse_show o ht hv

/-- `EcdsaSighashType`: every `Display` string is a `FromStr` arm naming the same variant (tables
    regenerated from src/transaction.rs) -/
theorem text_roundtrip_ecdsa_sighash (v : Nat) (s : String) (h : ecdsaShow v = some s) : ecdsaParse s = .ok v :=
  (by decide +kernel : ∀ p ∈ Gen.ecdsaSighashDisplay, ecdsaParse p.2 = .ok p.1) (v, s) (OrdMap.mem_of_lookup h)

/-- `SchnorrSighashType` (tables regenerated from src/sighash.rs), `Reserved` included -/
theorem text_roundtrip_schnorr_sighash (v : Nat) (s : String) (h : schnorrShow v = some s) : schnorrParse s = .ok v :=
  schnorrParse_schnorrShow v s h

/-- every variant of both enums has a `Display` arm (so the two theorems above are not vacuous) -/
theorem sighash_display_total :
    (∀ p ∈ Gen.ecdsaSighashDisplay, ecdsaShow p.1 = some p.2) ∧
    (∀ p ∈ Gen.schnorrSighashDisplay, schnorrShow p.1 = some p.2) := by decide +kernel

/-- `PsbtSighashType`, for EVERY `u32`: a Schnorr name where `from_u8` has one, else `0x…` hex, which the
    parser reads back after trimming `0x` -/
theorem text_roundtrip_psbt_sighash (n : Nat) (h : n < 2^32) : psbtParse (psbtShow n) = .ok n := psbtParse_psbtShow n h

/-- standard base64 with padding: `decode (encode bs) = bs` for all byte strings -/
theorem base64_roundtrip (bs : Bytes) : b64Dec (b64Enc bs) = .ok bs := by
  match bs with
  | [] => rfl
  | [a] =>
    -- the group of `a` and two absent bytes, read as 0: `x + 0 / 16` is `x`
    have s := sextets a.toNat 0 0 a.toNat_lt (by decide) (by decide)
    have h1 := s.lt1
    have e0 := s.byte0
    simp only [Nat.zero_div, Nat.add_zero] at h1 e0
    rw [b64Enc, b64Dec_pad2 _ _ s.lt0 h1 (Nat.mul_mod_left _ 16), e0, UInt8.ofNat_toNat]
  | [a, b] =>
    -- the group of `a`, `b` and one absent byte, read as 0: `x + 0 / 64` is `x`
    have s := sextets a.toNat b.toNat 0 a.toNat_lt b.toNat_lt (by decide)
    have h2 := s.lt2
    have e1 := s.byte1
    simp only [Nat.zero_div, Nat.add_zero] at h2 e1
    rw [b64Enc, b64Dec_pad1 _ _ _ s.lt0 s.lt1 h2 (Nat.mul_mod_left _ 4), s.byte0, e1, UInt8.ofNat_toNat, UInt8.ofNat_toNat]
  | a :: b :: c :: rest =>
    have s := sextets a.toNat b.toNat c.toNat a.toNat_lt b.toNat_lt c.toNat_lt
    rw [b64Enc, b64Dec_group _ _ _ _ s.lt0 s.lt1 s.lt2 s.lt3, base64_roundtrip rest, s.byte0, s.byte1, s.byte2]
    simp only [UInt8.ofNat_toNat]
    rfl

/-- PSET `to_string` / `from_str`: base64 around the binary codec; it round-trips on a PSET on which the binary
    codec does (`h`; that premise is property C07, discharged in `text_roundtrip_pset_wf` below) -/
theorem text_roundtrip_pset {α} (ser : α → Bytes) (de : Bytes → Res α) (p : α) (h : de (ser p) = .ok p) :
    psetParse de (psetShow ser p) = .ok p := by
  simp [psetParse, psetShow, base64_roundtrip, h]

/-- PSET `to_string` / `from_str`, UNCONDITIONAL (C20 × C07): the premise of `text_roundtrip_pset` is discharged by
    C07's binary round trip of `Pset.serialize` / `Pset.deserialize` (`EV.Model.PsetSer`; dependency validity is the
    parameter `W : WirePrims`), so for every well-formed PSET (C07's class `WfPset`, which is exactly what the decoder
    produces) parsing its base64 text gives back the same PSET. `EV.Props.C07.base64_roundtrip` is the same
    statement, listed under C07. -/
theorem text_roundtrip_pset_wf (W : PsetWire.WirePrims) (p : Pset) (h : EV.Proofs.PsetWireTop.WfPset W p) :
    psetParse (Pset.deserialize W) (psetShow (Pset.serialize W) p) = .ok p :=
  text_roundtrip_pset (Pset.serialize W) (Pset.deserialize W) p (EV.Proofs.PsetWireTop.pset_roundtrip W p h)

/-- every text that PSET `from_str` accepts parses, after `to_string`, to the same PSET again (the decoder's
    results are well-formed: C07 `dec_wf`) -/
theorem text_fixpoint_pset (W : PsetWire.WirePrims) (cs : Str) (p : Pset) (h : psetParse (Pset.deserialize W) cs = .ok p) :
    psetParse (Pset.deserialize W) (psetShow (Pset.serialize W) p) = .ok p := by
  obtain ⟨b, -, hb⟩ := Res.bind_eq_ok.mp ((psetParse_eq_bind _ cs).symm.trans h)
  exact text_roundtrip_pset_wf W p ((EV.Proofs.PsetWireTop.deserialize_post W b).of_ok hb)

/- `Script` has `Display` (asm) but no `FromStr`; `confidential::{Value, Asset, Nonce}` have `Display` only. -/

/-! ## (b) hand-written serde impls -/

/-- THE GENERIC STRUCT LEMMA (`serde_struct_impl!`: `TxIn`, …, `BlockHeader`, `Block`; `ExtData`, `Params`, non-human
    `OutPoint`): a struct whose field names are pairwise distinct is serialized as a map of its fields; after the
    `visit_map` loop the slot of each field holds that field's own parse — so a struct round-trips as soon as each
    field does -/
theorem serde_struct_field {α} (f : Fmt) (n : String) (p : SVal → Res α) (fs : List (String × SVal)) (v : SVal) (a : α)
    (hnd : (fs.map Prod.fst).Nodup) (hm : (n, v) ∈ fs) (hp : p (lossy f v) = .ok a) :
    field n p (lossyF f fs) = .ok a ∧ keysOk (lossyF f fs) = true :=
  ⟨by rw [(entry_lossyF f hnd hm).req, hp], keysOk_lossyF f fs⟩

/-- a field that is not serialized leaves its slot empty (how `ExtData` / `Params` pick their variant) -/
theorem serde_struct_field_absent {α} (f : Fmt) (n : String) (p : SVal → Res α) (fs : List (String × SVal))
    (h : n ∉ fs.map Prod.fst) : fieldOpt n p (lossyF f fs) = .ok .none := fieldOpt_absent f n p fs h

/-- `Vec<T>` round-trips when its elements do -/
theorem serde_roundtrip_vec {α} (f : Fmt) (t : α → SVal) (p : SVal → Res α) (l : List α)
    (h : ∀ a ∈ l, p (lossy f (t a)) = .ok a) : ofSeq p (lossy f (.seq (l.map t))) = .ok l := ofSeq_rt f t p l h

theorem serde_roundtrip_value (P : Prims) (h : Bool) (f : Fmt) (hc : compatible h f) (v : Value) (hv : Value.ok P v) :
    Value.ofS P h (lossy f (Value.toS h v)) = .ok v := value_rt P h f hc v hv

theorem serde_roundtrip_asset (P : Prims) (h : Bool) (f : Fmt) (hc : compatible h f) (v : Asset) (hv : Asset.ok P v) :
    Asset.ofS P h (lossy f (Asset.toS h v)) = .ok v := asset_rt P h f hc v hv

/-- `Nonce` even round-trips in all four combinations (it never emits a byte string) -/
theorem serde_roundtrip_nonce (P : Prims) (h : Bool) (f : Fmt) (v : Nonce) (hv : Nonce.ok P v) :
    Nonce.ofS P h (lossy f (Nonce.toS h v)) = .ok v := nonce_rt P h f v hv

theorem serde_roundtrip_blinding_factor (P : Prims) (h : Bool) (f : Fmt) (hc : compatible h f) (b : Bytes)
    (hv : BlindingFactor.ok P b) : BlindingFactor.ofS P h (lossy f (BlindingFactor.toS h b)) = .ok b :=
  blindingFactor_rt P h f hc b hv

/-- hash newtypes and `impl_sha256_midstate_wrapper!` types (the latter "cheat" through `sha256d::Hash`) -/
theorem serde_roundtrip_hash (k : HashKind) (h : Bool) (f : Fmt) (hc : compatible h f) (b : Bytes) (hl : b.length = k.len) :
    ofHash k h (lossy f (sHash k h b)) = .ok b := ofHash_rt k h f hc b hl

/-- `Script`: a hex string in both modes -/
theorem serde_roundtrip_script (f : Fmt) (b : Bytes) : ofScript (lossy f (sScript b)) = .ok b := ofScript_rt f b

/-- `serde_string_impl!` and `Address`: serde round-trips whenever the text form does -/
theorem serde_roundtrip_string_impl {α} (f : Fmt) (parse : String → Res α) (s : String) (a : α) (h : parse s = .ok a) :
    stringOfS parse (lossy f (stringToS s)) = .ok a := string_rt f parse s a h

theorem serde_roundtrip_ecdsa_sighash (f : Fmt) (v : Nat) (s : String) (h : ecdsaShow v = some s) :
    stringOfS ecdsaParse (lossy f (stringToS s)) = .ok v := string_rt f _ s v (text_roundtrip_ecdsa_sighash v s h)

theorem serde_roundtrip_schnorr_sighash (f : Fmt) (v : Nat) (s : String) (h : schnorrShow v = some s) :
    stringOfS schnorrParse (lossy f (stringToS s)) = .ok v := string_rt f _ s v (schnorrParse_schnorrShow v s h)

theorem serde_roundtrip_psbt_sighash (f : Fmt) (n : Nat) (h : n < 2^32) :
    stringOfS psbtParse (lossy f (stringToS (psbtShow n))) = .ok n := string_rt f _ _ n (psbtParse_psbtShow n h)

/-- `OutPoint` (`serde_struct_human_string_impl!`): string when human readable, struct otherwise -/
theorem serde_roundtrip_outpoint (h : Bool) (f : Fmt) (hc : compatible h f) (o : OutPoint) (hv : OutPoint.ok o) :
    OutPoint.ofS h (lossy f (OutPoint.toS h o)) = .ok o := outPoint_rt h f hc o hv

theorem serde_roundtrip_issuance (P : Prims) (h : Bool) (f : Fmt) (hc : compatible h f) (i : AssetIssuance)
    (hv : AssetIssuance.ok P i) : AssetIssuance.ofS P h (lossy f (AssetIssuance.toS h i)) = .ok i :=
  issuance_rt P h f hc i hv

theorem serde_roundtrip_txin_witness (P : Prims) (h : Bool) (f : Fmt) (hc : compatible h f) (w : TxInWitness)
    (hv : TxInWitness.ok P w) : TxInWitness.ofS P h (lossy f (TxInWitness.toS h w)) = .ok w :=
  txInWitness_rt P h f hc w hv

theorem serde_roundtrip_txout_witness (P : Prims) (h : Bool) (f : Fmt) (hc : compatible h f) (w : TxOutWitness)
    (hv : TxOutWitness.ok P w) : TxOutWitness.ofS P h (lossy f (TxOutWitness.toS h w)) = .ok w :=
  txOutWitness_rt P h f hc w hv

/-- the derived impl of `Sequence` as far as `TxIn` needs it -/
theorem serde_roundtrip_sequence (f : Fmt) (n : Nat) (h : n < 2^32) : ofSequence (lossy f (sSequence n)) = .ok n :=
  sequence_rt f n h

/-- the derived impl of `LockTime` as far as `Transaction` needs it -/
theorem serde_roundtrip_locktime (f : Fmt) (n : Nat) (h : n < 2^32) : ofLockTime (lossy f (sLockTime n)) = .ok n :=
  lockTime_rt f n h

theorem serde_roundtrip_txin (P : Prims) (h : Bool) (f : Fmt) (hc : compatible h f) (i : TxIn) (hv : TxIn.ok P i) :
    TxIn.ofS P h (lossy f (TxIn.toS h i)) = .ok i := txIn_rt P h f hc i hv

theorem serde_roundtrip_txout (P : Prims) (h : Bool) (f : Fmt) (hc : compatible h f) (o : TxOut) (hv : TxOut.ok P o) :
    TxOut.ofS P h (lossy f (TxOut.toS h o)) = .ok o := txOut_rt P h f hc o hv

/-- `Transaction`, any number of inputs and outputs -/
theorem serde_roundtrip_transaction (P : Prims) (h : Bool) (f : Fmt) (hc : compatible h f) (t : Tx) (hv : Tx.ok P t) :
    Tx.ofS P h (lossy f (Tx.toS h t)) = .ok t := tx_rt P h f hc t hv

/-- `dynafed::Params`: the variant is recovered from which fields are present -/
theorem serde_roundtrip_params (h : Bool) (f : Fmt) (hc : compatible h f) (p : Params) (hv : Params.ok p) :
    Params.ofS h (lossy f (Params.toS h p)) = .ok p := by
  -- walks like those of EV.Proofs.Serde (`txIn_rt` …); `ab`: the slot of a field this variant does not write is empty
  cases p with
  | null => rfl
  | compact s l e =>
    refine struct_rt f (Params.ofS h) (by simp) fun es hk ⟨signblockscript, limit, elidedRoot, _⟩ ab => ?_
    rw [Params.ofS, hk, signblockscript.opt, ofScript_rt, limit.opt, ofNum_rt f _ _ _ hv.1, elidedRoot.opt,
      ofHash_rt kElidedRoot h f hc e hv.2, ab "fedpeg_program" _ (by simp), ab "fedpegscript" _ (by simp),
      ab "extension_space" _ (by simp)]
    rfl
  | full fp =>
    refine struct_rt f (Params.ofS h) (by simp)
      fun es hk ⟨signblockscript, limit, fedpegProgram, fedpegscript, extensionSpace, _⟩ ab => ?_
    rw [Params.ofS, hk, signblockscript.opt, ofScript_rt, limit.opt, ofNum_rt f _ _ _ hv, ab "elided_root" _ (by simp),
      fedpegProgram.opt, ofBtcScript_rt h f hc, fedpegscript.opt, ofHexBytes_rt, extensionSpace.opt,
      ofSeq_rt f _ _ _ fun b _ => ofHexBytes_rt h f b]
    rfl

theorem serde_roundtrip_extdata (h : Bool) (f : Fmt) (hc : compatible h f) (x : ExtData) (hv : ExtData.ok x) :
    ExtData.ofS h (lossy f (ExtData.toS h x)) = .ok x := by
  cases x with
  | proof c s =>
    refine struct_rt f (ExtData.ofS h) (by simp) fun es hk ⟨challenge, solution, _⟩ ab => ?_
    rw [ExtData.ofS, hk, challenge.opt, ofScript_rt, solution.opt, ofScript_rt, ab "current" _ (by simp),
      ab "proposed" _ (by simp), ab "signblock_witness" _ (by simp)]
    rfl
  | dynafed c p w =>
    refine struct_rt f (ExtData.ofS h) (by simp) fun es hk ⟨current, proposed, signblockWitness, _⟩ ab => ?_
    rw [ExtData.ofS, hk, ab "challenge" _ (by simp), ab "solution" _ (by simp), current.opt,
      serde_roundtrip_params h f hc _ hv.1, proposed.opt, serde_roundtrip_params h f hc _ hv.2, signblockWitness.opt,
      ofStack_rt]
    rfl

theorem serde_roundtrip_header (h : Bool) (f : Fmt) (hc : compatible h f) (b : BlockHeader) (hv : BlockHeader.ok b) :
    BlockHeader.ofS h (lossy f (BlockHeader.toS h b)) = .ok b := by
  obtain ⟨h1, h2, h3, h4, h5, h6⟩ := hv
  refine struct_rt f (BlockHeader.ofS h) (by simp) fun es hk ⟨version, prevBlockhash, merkleRoot, time, height, ext, _⟩ _ => ?_
  rw [BlockHeader.ofS, hk, version.req, ofNum_rt f _ _ _ h1, prevBlockhash.req, ofHash_rt kBlockHash h f hc _ h2,
    merkleRoot.req, ofHash_rt kBlockHash h f hc _ h3, time.req, ofNum_rt f _ _ _ h4, height.req, ofNum_rt f _ _ _ h5,
    ext.req, serde_roundtrip_extdata h f hc _ h6]
  rfl

theorem serde_roundtrip_block (P : Prims) (h : Bool) (f : Fmt) (hc : compatible h f) (b : Block) (hv : Block.ok P b) :
    Block.ofS P h (lossy f (Block.toS h b)) = .ok b := by
  refine struct_rt f (Block.ofS P h) (by simp) fun es hk ⟨header, txdata, _⟩ _ => ?_
  rw [Block.ofS, hk, header.req, serde_roundtrip_header h f hc _ hv.1, txdata.req,
    ofSeq_rt f _ _ _ fun t ht => tx_rt P h f hc t (hv.2 t ht)]
  rfl

/-- the canonical transactions of C01 (`Tx.wf`) are in the domain: JSON -/
theorem serde_roundtrip_transaction_json (P : Prims) (hz : P.tweak AssetIssuance.zero32 = true) (t : Tx) (hv : t.wf P) :
    Tx.ofS P true (lossy .json (Tx.toS true t)) = .ok t :=
  tx_rt P true .json (fun _ => rfl) t (tx_ok_of_wf P hz t hv)

/-- the canonical transactions of C01 (`Tx.wf`) are in the domain: CBOR -/
theorem serde_roundtrip_transaction_cbor (P : Prims) (hz : P.tweak AssetIssuance.zero32 = true) (t : Tx) (hv : t.wf P) :
    Tx.ofS P false (lossy .cbor (Tx.toS false t)) = .ok t :=
  tx_rt P false .cbor (fun h => by cases h) t (tx_ok_of_wf P hz t hv)

/-- the canonical blocks of C01, both formats -/
theorem serde_roundtrip_block_wf (P : Prims) (hz : P.tweak AssetIssuance.zero32 = true) (b : Block) (hv : b.wf P) :
    Block.ofS P true (lossy .json (Block.toS true b)) = .ok b ∧
    Block.ofS P false (lossy .cbor (Block.toS false b)) = .ok b :=
  ⟨serde_roundtrip_block P true .json (fun _ => rfl) b (block_ok_of_wf P hz b hv),
   serde_roundtrip_block P false .cbor (fun h => by cases h) b (block_ok_of_wf P hz b hv)⟩

/-- the excluded combination really fails: a non-human-readable impl that emits a byte string cannot read it
    back from a format that turned it into an array of numbers (no such format crate exists: JSON is human
    readable) -/
theorem incompatible_combination_fails :
    ofHash kTxid false (lossy .json (sHash kTxid false (List.replicate 32 0))) ≠ .ok (List.replicate 32 0) := by
  simp [sHash, lossy, ofHash]

/-! ### `src/serde_utils.rs` (hand-written helpers used by the derived PSET impls) -/

/-- `serde_utils::hex_bytes` -/
theorem serde_roundtrip_hex_bytes (h : Bool) (f : Fmt) (b : Bytes) : HexBytes.ofS h (lossy f (HexBytes.toS h b)) = .ok b :=
  hexBytes_rt h f b

/-- `serde_utils::btreemap_byte_values`, generic in the key codec: a map (pairwise distinct keys) round-trips
    when its keys do -/
theorem serde_roundtrip_btreemap_byte_values {κ} [DecidableEq κ] (h : Bool) (f : Fmt) (tk : κ → SVal) (pk : SVal → Res κ)
    (m : List (κ × Bytes)) (hnd : (m.map Prod.fst).Nodup) (hk : ∀ e ∈ m, pk (lossy f (tk e.1)) = .ok e.1) :
    ByteValues.ofS h pk (lossy f (ByteValues.toS h tk m)) = .ok m := by
  simp only [ByteValues.toS, lossy, ByteValues.ofS]
  exact collectMap_rt f tk (fun b => if h then sStr (hexStr b) else sVecU8 b) pk (ByteValues.ofVal h) m hnd hk
    (fun e _ => byteValues_ofVal_rt h f e.2)

/-- an instance of `btreemap_byte_values`: the four hash → preimage maps of `pset::Input` -/
theorem serde_roundtrip_preimage_map (k : HashKind) (h : Bool) (f : Fmt) (hc : compatible h f) (m : List (Bytes × Bytes))
    (hnd : (m.map Prod.fst).Nodup) (hl : ∀ e ∈ m, e.1.length = k.len) :
    ByteValues.ofS h (ofHash k h) (lossy f (ByteValues.toS h (sHash k h) m)) = .ok m :=
  serde_roundtrip_btreemap_byte_values h f (sHash k h) (ofHash k h) m hnd (fun e he => ofHash_rt k h f hc e.1 (hl e he))

/-- `serde_utils::btreemap_as_seq`, generic in both codecs -/
theorem serde_roundtrip_btreemap_as_seq {κ ν} [DecidableEq κ] (h : Bool) (f : Fmt) (tk : κ → SVal) (tv : ν → SVal)
    (pk : SVal → Res κ) (pv : SVal → Res ν) (m : List (κ × ν)) (hnd : (m.map Prod.fst).Nodup)
    (hk : ∀ e ∈ m, pk (lossy f (tk e.1)) = .ok e.1) (hv : ∀ e ∈ m, pv (lossy f (tv e.2)) = .ok e.2) :
    AsSeq.ofS h pk pv (lossy f (AsSeq.toS h tk tv m)) = .ok m := by
  cases h with
  | true =>
    simp only [AsSeq.toS, if_true, lossy, AsSeq.ofS]
    exact collectPairs_rt f tk tv _ pk pv m (fun e => by simp [lossy, lossyL]) hnd hk hv
  | false =>
    simp only [AsSeq.toS, Bool.false_eq_true, if_false, lossy, AsSeq.ofS]
    exact collectMap_rt f tk tv pk pv m hnd hk hv

/-- `serde_utils::btreemap_as_seq_byte_values`, generic in the key codec -/
theorem serde_roundtrip_btreemap_as_seq_byte_values {κ} [DecidableEq κ] (h : Bool) (f : Fmt) (tk : κ → SVal)
    (pk : SVal → Res κ) (m : List (κ × Bytes)) (hnd : (m.map Prod.fst).Nodup)
    (hk : ∀ e ∈ m, pk (lossy f (tk e.1)) = .ok e.1) :
    AsSeqByteValues.ofS h pk (lossy f (AsSeqByteValues.toS h tk m)) = .ok m := by
  cases h with
  | true =>
    simp only [AsSeqByteValues.toS, if_true, lossy, AsSeqByteValues.ofS]
    exact collectPairs_rt f tk (HexBytes.toS true) _ pk (HexBytes.ofS true) m (fun e => by simp [lossy, lossyL]) hnd hk
      (fun e _ => hexBytes_rt true f e.2)
  | false =>
    simp only [AsSeqByteValues.toS, Bool.false_eq_true, if_false, lossy, AsSeqByteValues.ofS]
    exact collectMap_rt f tk sVecU8 pk ofVecU8 m hnd hk (fun e _ => ofVecU8_rt f e.2)

/-- `pset::raw::Key` (a derived struct with a `hex_bytes` field) -/
theorem serde_roundtrip_raw_key (h : Bool) (f : Fmt) (k : RawKey) (hv : RawKey.ok k) :
    RawKey.ofS h (lossy f (RawKey.toS h k)) = .ok k := by
  -- `RawKey.ok k` unfolds to the bound on the `u8`
  have hv : k.typeValue < 256 := hv
  -- `derivedKey` finds each name at its index among `names` (`List.idxOf?_cons` on literal strings)
  simp [RawKey.toS, RawKey.ofS, RawKey.names, lossy, lossyF, dField, dSlot, derivedKey, List.idxOf?_cons, ofNum, hv,
    hexBytes_rt]

/-- `pset::raw::ProprietaryKey` (a derived struct with `hex_bytes` fields) -/
theorem serde_roundtrip_proprietary_key (h : Bool) (f : Fmt) (k : PropKey) (hv : PropKey.ok k) :
    PropKey.ofS h (lossy f (PropKey.toS h k)) = .ok k := by
  -- as for `pset::raw::Key`, with three entries
  have hv : k.subtype < 256 := hv
  simp [PropKey.toS, PropKey.ofS, PropKey.names, lossy, lossyF, dField, dSlot, derivedKey, List.idxOf?_cons, ofNum, hv,
    hexBytes_rt]

/-- the `unknown` map of the PSET maps -/
theorem serde_roundtrip_unknown_map (h : Bool) (f : Fmt) (m : List (RawKey × Bytes)) (hnd : (m.map Prod.fst).Nodup)
    (hv : ∀ e ∈ m, RawKey.ok e.1) :
    AsSeqByteValues.ofS h (RawKey.ofS h) (lossy f (AsSeqByteValues.toS h (RawKey.toS h) m)) = .ok m :=
  serde_roundtrip_btreemap_as_seq_byte_values h f _ _ m hnd (fun e he => serde_roundtrip_raw_key h f e.1 (hv e he))

/-- the `proprietary` map of the PSET maps -/
theorem serde_roundtrip_proprietary_map (h : Bool) (f : Fmt) (m : List (PropKey × Bytes)) (hnd : (m.map Prod.fst).Nodup)
    (hv : ∀ e ∈ m, PropKey.ok e.1) :
    AsSeqByteValues.ofS h (PropKey.ofS h) (lossy f (AsSeqByteValues.toS h (PropKey.toS h) m)) = .ok m :=
  serde_roundtrip_btreemap_as_seq_byte_values h f _ _ m hnd (fun e he => serde_roundtrip_proprietary_key h f e.1 (hv e he))

/-- an instance of `btreemap_as_seq`: `pset::Input::tap_script_sigs : BTreeMap<(XOnlyPublicKey, TapLeafHash),
    SchnorrSig>` (`validX`: x-only key validity, a parameter) -/
theorem serde_roundtrip_tap_script_sigs (validX : Bytes → Bool) (h : Bool) (f : Fmt) (hc : compatible h f)
    (m : List ((Bytes × Bytes) × SchnorrSigM)) (hnd : (m.map Prod.fst).Nodup)
    (hk : ∀ e ∈ m, e.1.1.length = 32 ∧ validX e.1.1 = true ∧ e.1.2.length = 32) (hv : ∀ e ∈ m, SchnorrSigM.ok e.2) :
    AsSeq.ofS h (ofSigKey validX h) (SchnorrSigM.ofS h) (lossy f (AsSeq.toS h (sSigKey h) (SchnorrSigM.toS h) m)) = .ok m :=
  serde_roundtrip_btreemap_as_seq h f _ _ _ _ m hnd (fun e he => sigKey_rt validX h f hc e.1 (hk e he).1 (hk e he).2.1 (hk e he).2.2)
    (fun e he => schnorrSig_rt h f hc e.2 (hv e he))

/--
  Property C20 (properties.jsonl), serde half: "serializing ANY transaction, input, output, block, block
  header, dynafed parameter set, address, script, confidential commitment, blinding factor, output secret,
  hash newtype or PSET to JSON or CBOR and deserializing it yields an equal value".
  This theorem: the statement for every type whose impl is hand-written in /repo (everything in the list but
  PSETs and `TxOutSecrets`), over the model of the serde data model, for the JSON view (human readable) and
  the CBOR view (not human readable). `Address` is covered by `serde_roundtrip_string_impl` given its text
  round trip (property C06).
  It is `_partial` because the `#[derive]`d impls are not in it (`pset::{PartiallySignedTransaction, Global, TxData,
  Input, Output}`, `pset::raw::Pair`, `TxOutSecrets`, `TapTree`, `ControlBlock`, `SchnorrSig`); they are part (c) below
  (`serde_roundtrip_derived`), where the dependency types inside the PSET maps (`bitcoin::PublicKey`,
  `bip32::{Xpub, KeySource}`, `bitcoin::Transaction`, …) enter as parameters with their round trip assumed, and
  `serde_roundtrip_all` joins the two halves.
-/
theorem serde_roundtrip_handwritten_partial (P : Prims) (h : Bool) (f : Fmt) (hc : compatible h f) :
    (∀ v, Value.ok P v → Value.ofS P h (lossy f (Value.toS h v)) = .ok v) ∧
    (∀ v, Asset.ok P v → Asset.ofS P h (lossy f (Asset.toS h v)) = .ok v) ∧
    (∀ v, Nonce.ok P v → Nonce.ofS P h (lossy f (Nonce.toS h v)) = .ok v) ∧
    (∀ b, BlindingFactor.ok P b → BlindingFactor.ofS P h (lossy f (BlindingFactor.toS h b)) = .ok b) ∧
    (∀ k b, b.length = k.len → ofHash k h (lossy f (sHash k h b)) = .ok b) ∧
    (∀ b, ofScript (lossy f (sScript b)) = .ok b) ∧
    (∀ o, OutPoint.ok o → OutPoint.ofS h (lossy f (OutPoint.toS h o)) = .ok o) ∧
    (∀ i, TxIn.ok P i → TxIn.ofS P h (lossy f (TxIn.toS h i)) = .ok i) ∧
    (∀ o, TxOut.ok P o → TxOut.ofS P h (lossy f (TxOut.toS h o)) = .ok o) ∧
    (∀ t, Tx.ok P t → Tx.ofS P h (lossy f (Tx.toS h t)) = .ok t) ∧
    (∀ p, Params.ok p → Params.ofS h (lossy f (Params.toS h p)) = .ok p) ∧
    (∀ b, BlockHeader.ok b → BlockHeader.ofS h (lossy f (BlockHeader.toS h b)) = .ok b) ∧
    (∀ b, Block.ok P b → Block.ofS P h (lossy f (Block.toS h b)) = .ok b) :=
  ⟨fun v hv => value_rt P h f hc v hv, fun v hv => asset_rt P h f hc v hv, fun v hv => nonce_rt P h f v hv,
   fun b hv => blindingFactor_rt P h f hc b hv, fun k b hl => ofHash_rt k h f hc b hl, fun b => ofScript_rt f b,
   fun o hv => outPoint_rt h f hc o hv, fun i hv => txIn_rt P h f hc i hv, fun o hv => txOut_rt P h f hc o hv,
   fun t hv => tx_rt P h f hc t hv, fun p hv => serde_roundtrip_params h f hc p hv, fun b hv => serde_roundtrip_header h f hc b hv,
   fun b hv => serde_roundtrip_block P h f hc b hv⟩

/-! ## non-vacuity -/

/-- a predicate record under which everything is valid (any `P` works for the examples below) -/
def allValid : Prims :=
  { commitment := fun _ => true, generator := fun _ => true, pubkey := fun _ => true, tweak := fun _ => true,
    rangeproof := fun _ => true, surjproof := fun _ => true, sizeTxIn := 1, sizeTxOut := 1, sizeTx := 1 }

example : String.ofList (outPointShow ⟨List.replicate 32 0, 7⟩) =
    "[elements]0000000000000000000000000000000000000000000000000000000000000000:7" := by decide +kernel
example : outPointParse "[elements]0000000000000000000000000000000000000000000000000000000000000000:07".toList
    = .err "vout not canonical" := by decide +kernel
example : psbtShow 0x1f = "0x1f" ∧ psbtShow 0x81 = "SIGHASH_ALL|SIGHASH_ANYONECANPAY" := by decide +kernel
example : String.ofList (b64Enc [1, 2, 3, 4, 5]) = "AQIDBAU=" := by decide +kernel
example : parseU32 "+0012".toList = .ok 12 ∧ parseU32 "4294967296".toList = .err "overflow" := by decide +kernel
example : lossy .json (.struct "S" [("a", .bytes [1, 2]), ("b", .some (.newtype "N" (.num 32 7)))]) =
    .map [(.str "a", .seq [.num 0 1, .num 0 2]), (.str "b", .num 0 7)] := by simp [lossy, lossyF]
example : Value.ok allValid (.explicit 5) := by simp [Value.ok]
example : Tx.ok allValid ⟨2, 0, [], [⟨.null, .explicit 1, .null, [0x51], ⟨none, none⟩⟩]⟩ := by
  simp [Tx.ok, TxOut.ok, Asset.ok, Value.ok, Nonce.ok, TxOutWitness.ok, okOptProof]
example : Value.ofS allValid true (lossy .json (Value.toS true (.explicit 5))) = .ok (.explicit 5) :=
  serde_roundtrip_value allValid true .json (fun _ => rfl) _ (by simp [Value.ok])

/-! ## (c) derived serde impls (`#[derive(Serialize, Deserialize)]`): EV.Model.SerdeDerive

  The model is an interpreter of the table `EV.Gen.serdeDerive`, regenerated from /repo on every run
  (tools/extract.d/c20_derive.py): every derived item with its fields in order, their serde keys, types and hooks.
  Values are the universe `DVal`; `DerivedOk P D nm v` says that `v` is a value of the derived item `nm`.
  Types that are not derived in /repo are leaf codecs: /repo's own hand-written impls (concrete, laws proved from
  part (b)) and the third-party ones `X : Deps` (`bitcoin::PublicKey`, `secp256k1::XOnlyPublicKey`,
  `schnorr::Signature`, `bip32::{Fingerprint, DerivationPath, Xpub}`, `bitcoin::Transaction`), which are PARAMETERS:
  `DepsLawful X D h f` assumes their round trip. -/

open EV.Gen

/-- GENERIC: a derived struct (field keys pairwise distinct) read back by `visit_map` — by field NAME, in the
    format's view of `serialize_struct` (or of `serialize_map` when a field is flattened) — round-trips as soon as
    each field does -/
theorem derive_struct_roundtrip (rcS : RecS) (rcD : RecD) (nm : String) (fields : List SerdeField) (flat h : Bool) (f : Fmt)
    (vs : List DVal) (hnd : (fields.map (·.key)).Nodup) (hp : pairsOk rcS rcD h f fields vs) :
    structOfS rcD fields flat h (lossy f (structToS rcS nm fields flat h vs)) = .ok (.record vs) :=
  structOfS_rt rcS rcD nm fields flat h f vs hnd hp

/-- GENERIC: the same struct read back by `visit_seq` — by POSITION, from a format that writes a struct as the
    sequence of its field values -/
theorem derive_struct_roundtrip_seq (rcS : RecS) (rcD : RecD) (fields : List SerdeField) (h : Bool) (f : Fmt)
    (vs : List DVal) (hp : pairsOk rcS rcD h f fields vs) :
    structOfS rcD fields false h (.seq ((zipFields rcS h fields vs).map fun e => lossy f e.2)) = .ok (.record vs) := by
  simp [structOfS, seqFields_rt rcS rcD h f fields vs hp]

/-- GENERIC: a field round-trips when the values of its type do, whatever `serde(with = …)` hook it carries
    (`hex_bytes`, the three `btreemap_*` helpers, `serde_fallback_locktime`, `serde_parity`) -/
theorem derive_field_roundtrip (rcS : RecS) (rcD : RecD) (wt : SerdeTy → DVal → Prop) (h : Bool) (f : Fmt)
    (hrec : ∀ t x, wt t x → rcD t h (lossy f (rcS t h x)) = .ok x) (fld : SerdeField) (v : DVal) (hw : fieldWT wt fld v) :
    fieldOfS rcD fld h (lossy f (fieldToS rcS fld h v)) = .ok v := fieldOfS_rt rcS rcD wt h f hrec fld v hw

/-- GENERIC: `BTreeMap<K, V>` (`serialize_map`, read back by the `visit_map` loop): a map with pairwise distinct
    keys round-trips when its keys and values do -/
theorem derive_btreemap_roundtrip (f : Fmt) (tk tv : DVal → SVal) (pk pv : SVal → Res DVal) (m : List (DVal × DVal))
    (hd : KeysDistinct m) (hk : ∀ e ∈ m, pk (lossy f (tk e.1)) = .ok e.1) (hv : ∀ e ∈ m, pv (lossy f (tv e.2)) = .ok e.2) :
    dCollectMap pk pv (m.map fun e => (lossy f (tk e.1), lossy f (tv e.2))) [] = .ok m := by
  simpa [lossyM_map] using dCollectMap_rt f tk tv pk pv m hd hk hv

/-- THE GENERIC THEOREM: over ANY table whose structs have distinct field keys and whose enums have distinct variant
    names, every well-typed value of every type (integers, `bool`, `Option`, `Vec`, `[u8; N]`, tuples, `BTreeMap`,
    structs incl. hooks and flattening, newtype structs, enums) round-trips through the format's view, given the laws
    of the leaf codecs. `Option<T>` needs `T` never to serialize to null (`nonNullTy`, part of well-typedness).
    The proof does not use `hc`: compatibility of `h` and `f` matters only for the laws of leaves that write byte
    strings (`hleaf`). -/
theorem derive_roundtrip (env : Env) (tbl : Table) (okLeaf : String → DVal → Prop) (h : Bool) (f : Fmt)
    (hc : compatible h f) (htbl : tableOk tbl = true)
    (hleaf : ∀ nm L, tbl.lookup nm = Option.none → env nm = some L → LeafLaw L (okLeaf nm) h f)
    (henv : ∀ nm v, tbl.lookup nm = Option.none → okLeaf nm v → ∃ L, env nm = some L)
    (n : Nat) (ty : SerdeTy) (v : DVal) (hv : dWT okLeaf tbl n ty v) :
    dOfS env tbl n ty h (lossy f (dToS env tbl n ty h v)) = .ok v :=
  (dRoundtrip env tbl okLeaf h f htbl hleaf henv n ty v hv).1

/-- /repo's table satisfies the side condition -/
theorem derive_table_ok : tableOk serdeDerive = true := by decide +kernel

/-- every derived item of /repo -/
theorem serde_roundtrip_derived (P : Prims) (X : Deps) (D : DepsOk) (h : Bool) (f : Fmt) (hc : compatible h f)
    (hX : DepsLawful X D h f) (nm : String) (v : DVal) (hv : DerivedOk P D nm v) :
    deriveOfS P X nm h (lossy f (deriveToS P X nm h v)) = .ok v := by
  have hall := std_allLaw P X D h f hc hX
  exact derive_roundtrip (stdEnv P X) serdeDerive (stdOkLeaf P D) h f hc derive_table_ok
    (fun nm' L _ hL => (allLaw_lookup h f _ _ hall nm').1 L hL) (fun nm' v' _ hv' => (allLaw_lookup h f _ _ hall nm').2 v' hv')
    deriveFuel (.named nm) v hv

/-- no third-party value at all (used where a derived item does not reach one) -/
def noDeps : DepsOk := ⟨fun _ => False, fun _ => False, fun _ => False, fun _ => False, fun _ => False, fun _ => False, fun _ => False⟩

theorem noDeps_lawful (X : Deps) (h : Bool) (f : Fmt) : DepsLawful X noDeps h f :=
  ⟨leafLaw_false _ h f, leafLaw_false _ h f, leafLaw_false _ h f, leafLaw_false _ h f, leafLaw_false _ h f,
   leafLaw_false _ h f, leafLaw_false _ h f⟩

/-- `TxOutSecrets` (the property's "output secret"): UNCONDITIONAL — it reaches no third-party impl -/
theorem serde_roundtrip_txoutsecrets (P : Prims) (X : Deps) (h : Bool) (f : Fmt) (hc : compatible h f) (v : DVal)
    (hv : DerivedOk P noDeps "TxOutSecrets" v) :
    deriveOfS P X "TxOutSecrets" h (lossy f (deriveToS P X "TxOutSecrets" h v)) = .ok v :=
  serde_roundtrip_derived P X noDeps h f hc (noDeps_lawful X h f) _ v hv

example (P : Prims) (hz : P.tweak (List.replicate 32 0) = true) :
    DerivedOk P noDeps "TxOutSecrets"
      (.record [.bytes (List.replicate 32 1), .bytes (List.replicate 32 0), .nat 5, .bytes (List.replicate 32 0)]) := by
  refine dWT_struct (stdOkLeaf P noDeps) serdeDerive 23 "TxOutSecrets" _ _ _ rfl ?_
  refine ⟨fieldWT_plain _ _ _ _ ?_, fieldWT_plain _ _ _ _ ?_, fieldWT_plain _ _ _ _ ?_, fieldWT_plain _ _ _ _ ?_, trivial⟩
  · exact dWT_leaf _ _ 22 "AssetId" _ rfl ⟨_, rfl, rfl⟩
  · exact dWT_leaf _ _ 22 "AssetBlindingFactor" _ rfl ⟨_, rfl, rfl, hz⟩
  · exact ⟨5, rfl, by decide⟩
  · exact dWT_leaf _ _ 22 "ValueBlindingFactor" _ rfl ⟨_, rfl, rfl, hz⟩

/-- `pset::raw::{Key, Pair, ProprietaryKey}`: unconditional as well (the hypothesis on `nm` only names the three
    items; the proof does not use it) -/
theorem serde_roundtrip_pset_raw (P : Prims) (X : Deps) (h : Bool) (f : Fmt) (hc : compatible h f) (nm : String)
    (_ : nm = "Key" ∨ nm = "Pair" ∨ nm = "ProprietaryKey") (v : DVal) (hv : DerivedOk P noDeps nm v) :
    deriveOfS P X nm h (lossy f (deriveToS P X nm h v)) = .ok v :=
  serde_roundtrip_derived P X noDeps h f hc (noDeps_lawful X h f) nm v hv

/-- `pset::Input` (48 fields: optional transactions / outputs / scripts / proofs / commitments, the
    `btreemap_byte_values` / `btreemap_as_seq` / `btreemap_as_seq_byte_values` maps, taproot data) -/
theorem serde_roundtrip_pset_input (P : Prims) (X : Deps) (D : DepsOk) (h : Bool) (f : Fmt) (hc : compatible h f)
    (hX : DepsLawful X D h f) (v : DVal) (hv : DerivedOk P D "Input" v) :
    deriveOfS P X "Input" h (lossy f (deriveToS P X "Input" h v)) = .ok v := serde_roundtrip_derived P X D h f hc hX _ v hv

theorem serde_roundtrip_pset_output (P : Prims) (X : Deps) (D : DepsOk) (h : Bool) (f : Fmt) (hc : compatible h f)
    (hX : DepsLawful X D h f) (v : DVal) (hv : DerivedOk P D "Output" v) :
    deriveOfS P X "Output" h (lossy f (deriveToS P X "Output" h v)) = .ok v := serde_roundtrip_derived P X D h f hc hX _ v hv

/-- `pset::Global` with the flattened `TxData` (`tx_version` rename, `serde_fallback_locktime` hook): written as a
    map, read back by `visit_map` only -/
theorem serde_roundtrip_pset_global (P : Prims) (X : Deps) (D : DepsOk) (h : Bool) (f : Fmt) (hc : compatible h f)
    (hX : DepsLawful X D h f) (v : DVal) (hv : DerivedOk P D "Global" v) :
    deriveOfS P X "Global" h (lossy f (deriveToS P X "Global" h v)) = .ok v := serde_roundtrip_derived P X D h f hc hX _ v hv

/-- `TapTree` (newtype of `TaprootBuilder` → `Vec<Option<NodeInfo>>` → `LeafInfo` → `TaprootMerkleBranch`),
    `ControlBlock` (with the `serde_parity` hook), `SchnorrSig` (the hypothesis on `nm` only lists the items; the proof
    does not use it) -/
theorem serde_roundtrip_taproot_items (P : Prims) (X : Deps) (D : DepsOk) (h : Bool) (f : Fmt) (hc : compatible h f)
    (hX : DepsLawful X D h f) (nm : String) (_ : nm ∈ ["TapTree", "TaprootBuilder", "NodeInfo", "LeafInfo",
      "TaprootMerkleBranch", "ControlBlock", "LeafVersion", "SchnorrSig"]) (v : DVal) (hv : DerivedOk P D nm v) :
    deriveOfS P X nm h (lossy f (deriveToS P X nm h v)) = .ok v := serde_roundtrip_derived P X D h f hc hX nm v hv

/-- THE PSET (`PartiallySignedTransaction { global, inputs, outputs }`) -/
theorem serde_roundtrip_pset (P : Prims) (X : Deps) (D : DepsOk) (h : Bool) (f : Fmt) (hc : compatible h f)
    (hX : DepsLawful X D h f) (v : DVal) (hv : DerivedOk P D "PartiallySignedTransaction" v) :
    deriveOfS P X "PartiallySignedTransaction" h (lossy f (deriveToS P X "PartiallySignedTransaction" h v)) = .ok v :=
  serde_roundtrip_derived P X D h f hc hX _ v hv

/-- the empty PSET (`PartiallySignedTransaction::new_v2()`) is a value, for any `P`, `D` -/
example (P : Prims) (D : DepsOk) : DerivedOk P D "PartiallySignedTransaction"
    (.record [.record [.nat 2, .none, .nat 0, .nat 0, .none, .nat 2, .map [], .list [], .none, .map [], .map []], .list [], .list []]) := by
  refine dWT_struct (stdOkLeaf P D) serdeDerive 23 "PartiallySignedTransaction" _ _ _ rfl ?_
  refine ⟨fieldWT_plain _ _ _ _ ?_, fieldWT_plain _ _ _ _ ?_, fieldWT_plain _ _ _ _ ?_, trivial⟩
  · refine dWT_struct (stdOkLeaf P D) serdeDerive 22 "Global" _ _ _ rfl ?_
    -- `fallback_locktime`, `proprietary` and `unknown` carry hooks
    refine ⟨fieldWT_plain _ _ _ _ ?_, ?_, fieldWT_plain _ _ _ _ ?_, fieldWT_plain _ _ _ _ ?_, fieldWT_plain _ _ _ _ ?_,
      fieldWT_plain _ _ _ _ ?_, fieldWT_plain _ _ _ _ ?_, fieldWT_plain _ _ _ _ ?_, fieldWT_plain _ _ _ _ ?_, ?_, ?_, trivial⟩
    · exact ⟨2, rfl, by decide⟩
    · simp [fieldWT]
    · exact ⟨0, rfl, by decide⟩
    · exact ⟨0, rfl, by decide⟩
    · exact Or.inl rfl
    · exact ⟨2, rfl, by decide⟩
    · exact ⟨[], rfl, by simp, List.Pairwise.nil⟩
    · exact ⟨[], rfl, by simp⟩
    · exact Or.inl rfl
    · simp [fieldWT, allBytes, KeysDistinct]
    · simp [fieldWT, allBytes, KeysDistinct]
  · exact ⟨[], rfl, by simp⟩
  · exact ⟨[], rfl, by simp⟩

/-- `DepsLawful` is satisfiable, if only where no third-party value occurs: at `noDeps` each of its seven laws speaks
    of an empty set of values -/
example (X : Deps) (h : Bool) (f : Fmt) : DepsLawful X noDeps h f := noDeps_lawful X h f

/-- WHICH MAP KEYS SURVIVE JSON: a `BTreeMap` written with `serialize_map` into a human-readable format needs keys
    that serialize to strings. In /repo's table every such key type (maps of fields without a hook, and of
    `btreemap_byte_values` fields) is one of `Xpub`, `bitcoin::PublicKey`, the four preimage hash types
    (`stringKeyLeaves`) -/
theorem derive_json_map_keys_are_string_leaves :
    ∀ k ∈ humanMapKeys serdeDerive, ∃ nm ∈ stringKeyLeaves, k = .named nm := by decide +kernel

/-- each of `stringKeyLeaves` is a string in the JSON view (the two third-party ones by assumption); every other key type of
    /repo — `(XOnlyPublicKey, TapLeafHash)`, `ControlBlock`, `XOnlyPublicKey`, `raw::Key`, `ProprietaryKey`,
    `bitcoin::PublicKey` of `bip32_derivation` — sits behind `btreemap_as_seq` / `btreemap_as_seq_byte_values`,
    which write a sequence of pairs when human readable -/
theorem derive_json_map_keys_are_strings (P : Prims) (X : Deps) (D : DepsOk) (hK : DepsKeysAreStrings X D) :
    ∀ nm ∈ stringKeyLeaves, ∀ L, stdEnv P X nm = some L → ∀ v, stdOkLeaf P D nm v → ∃ s, lossy .json (L.toS true v) = .str s := by
  intro nm hnm L hL v hv
  simp only [stringKeyLeaves, List.mem_cons, List.not_mem_nil, or_false] at hnm
  rcases hnm with rfl | rfl | rfl | rfl | rfl | rfl
  · have : L = X.xpub := by simpa [stdEnv, repoLeaves, depLeaves, List.lookup] using hL.symm
    subst this
    obtain ⟨s, hs⟩ := hK.xpub v (by simpa [stdOkLeaf, leafOks, List.lookup] using hv)
    exact ⟨s, by simp [hs, lossy]⟩
  · have : L = X.publicKey := by simpa [stdEnv, repoLeaves, depLeaves, List.lookup] using hL.symm
    subst this
    obtain ⟨s, hs⟩ := hK.publicKey v (by simpa [stdOkLeaf, leafOks, List.lookup] using hv)
    exact ⟨s, by simp [hs, lossy]⟩
  all_goals
    obtain ⟨k, rfl⟩ : ∃ k, L = hashLeaf k := ⟨_, by simpa [stdEnv, repoLeaves, depLeaves, List.lookup] using hL.symm⟩
    exact hashLeaf_str k v

/-- bridge: the table-driven model writes `pset::raw::Key` as the type-specific model of EV.Model.SerdeUtils does -/
theorem derive_bridge_raw_key (P : Prims) (X : Deps) (h : Bool) (t : Nat) (k : Bytes) :
    deriveToS P X "Key" h (.record [.nat t, .bytes k]) = RawKey.toS h ⟨t, k⟩ := by
  cases h <;> rfl

/-- bridge: `pset::raw::ProprietaryKey`, likewise -/
theorem derive_bridge_proprietary_key (P : Prims) (X : Deps) (h : Bool) (p : Bytes) (t : Nat) (k : Bytes) :
    deriveToS P X "ProprietaryKey" h (.record [.bytes p, .nat t, .bytes k]) = PropKey.toS h ⟨p, t, k⟩ := by
  cases h <;> rfl

/-- bridge: `Sequence`, to the model used inside `TxIn` (EV.Model.Serde) -/
theorem derive_bridge_sequence (P : Prims) (X : Deps) (h : Bool) (n : Nat) :
    deriveToS P X "Sequence" h (.nat n) = sSequence n := by
  -- `Sequence` is the last entry of the table: unfolding `List.lookup` down to it is slow to check, evaluating it is not
  have hl : serdeDerive.lookup "Sequence" = some (.newtype .u32) := by decide +kernel
  simp only [deriveToS, deriveFuel, dToS, hl]
  rfl

/-- bridge: `LockTime`, to the model used inside `Transaction` (EV.Model.Serde) -/
theorem derive_bridge_locktime (P : Prims) (X : Deps) (h : Bool) (n : Nat) :
    deriveToS P X "LockTime" h (.variant (if n < lockTimeThreshold then 0 else 1) (.nat n)) = sLockTime n := by
  unfold sLockTime
  split <;> rfl

/--
  The serde half of property C20 as a whole (quoted above `serde_roundtrip_handwritten_partial`): that hand-written
  summary together with EVERY derived item of /repo (`TxOutSecrets`, the PSET and all its maps, raw keys, taproot
  items, `Sequence`, `LockTime`, `Height`, `Time`), over the token model of serde and the JSON / CBOR views.
  ASSUMED (hypothesis `DepsLawful`): the round trip of the seven third-party impls that PSET maps embed; each is
  transcribed in the driver and compared with the real impl (K), and its round trip is checked on the real code (S).
  STILL OUTSIDE THE MODEL: the byte-level syntax of serde_json / serde_cbor (parsers / printers), exercised by S.
-/
theorem serde_roundtrip_all (P : Prims) (X : Deps) (D : DepsOk) (h : Bool) (f : Fmt) (hc : compatible h f)
    (hX : DepsLawful X D h f) :
    ((∀ v, Value.ok P v → Value.ofS P h (lossy f (Value.toS h v)) = .ok v) ∧
     (∀ v, Asset.ok P v → Asset.ofS P h (lossy f (Asset.toS h v)) = .ok v) ∧
     (∀ v, Nonce.ok P v → Nonce.ofS P h (lossy f (Nonce.toS h v)) = .ok v) ∧
     (∀ b, BlindingFactor.ok P b → BlindingFactor.ofS P h (lossy f (BlindingFactor.toS h b)) = .ok b) ∧
     (∀ k b, b.length = k.len → ofHash k h (lossy f (sHash k h b)) = .ok b) ∧
     (∀ b, ofScript (lossy f (sScript b)) = .ok b) ∧
     (∀ o, OutPoint.ok o → OutPoint.ofS h (lossy f (OutPoint.toS h o)) = .ok o) ∧
     (∀ i, TxIn.ok P i → TxIn.ofS P h (lossy f (TxIn.toS h i)) = .ok i) ∧
     (∀ o, TxOut.ok P o → TxOut.ofS P h (lossy f (TxOut.toS h o)) = .ok o) ∧
     (∀ t, Tx.ok P t → Tx.ofS P h (lossy f (Tx.toS h t)) = .ok t) ∧
     (∀ p, Params.ok p → Params.ofS h (lossy f (Params.toS h p)) = .ok p) ∧
     (∀ b, BlockHeader.ok b → BlockHeader.ofS h (lossy f (BlockHeader.toS h b)) = .ok b) ∧
     (∀ b, Block.ok P b → Block.ofS P h (lossy f (Block.toS h b)) = .ok b)) ∧
    (∀ nm v, DerivedOk P D nm v → deriveOfS P X nm h (lossy f (deriveToS P X nm h v)) = .ok v) :=
  ⟨serde_roundtrip_handwritten_partial P h f hc, fun nm v hv => serde_roundtrip_derived P X D h f hc hX nm v hv⟩

end EV.Props.C20
