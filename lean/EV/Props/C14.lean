/-
  C14 — merging PSETs never loses information, never panics, and is order-insensitive.

  Model: EV.Model.Pset (`merge` of global / input / output / whole PSET as coded: unique-id gate,
  `BTreeMap::extend`, `merge!`, scalar union, flag OR, version max, lock-time max, xpub key-source
  reconciliation with its index arithmetic).  Maps are strictly key-sorted association lists
  (`Sorted`, what a `BTreeMap` is), so "equal PSET" is plain `=`.
-/
import EV.Proofs.PsetMap
import EV.Proofs.PsetMerge
import EV.Proofs.PsetMergeTop
import EV.Proofs.PsetId
import EV.Proofs.PsetMergeId
import EV.Proofs.PsetSourceTie
namespace EV.Props.C14
open EV EV.Codec EV.Proofs.PsetId

variable (H : Hashes)

/-! ### the gate -/

/-- **PSETs with different unique ids are refused** (`UniqueIdMismatch`). -/
theorem merge_id_gate (a b : Pset) (u v : Bytes) (ha : a.uniqueId H = .ok u) (hb : b.uniqueId H = .ok v)
    (h : u ≠ v) : Pset.merge H a b = .err "UniqueIdMismatch" := by
  rw [Pset.merge_eq, ha, hb]
  exact if_pos h

/-- Both ids must be computable: a PSET without a unique id (count mismatch, lock-time
    conflict, output without asset or value) is never merged, the error returned is `self`'s if
    `self` has none, otherwise `other`'s. -/
theorem merge_id_gate_no_id (a b : Pset) :
    (∀ e, a.uniqueId H = .err e → Pset.merge H a b = .err e) ∧
    (∀ u e, a.uniqueId H = .ok u → b.uniqueId H = .err e → Pset.merge H a b = .err e) := by
  constructor
  · intro e h
    rw [Pset.merge_eq, h]
    rfl
  · intro u e h1 h2
    rw [Pset.merge_eq, h1, h2]
    rfl

/-- Whenever the two `unique_id()` results differ (two ids, or an id and an error, or two errors)
    the merge is an error. -/
theorem merge_id_gate_ne (a b : Pset) (h : a.uniqueId H ≠ b.uniqueId H) : ∃ e, Pset.merge H a b = .err e :=
  -- `merge` never panics, and a success would mean one id for both
  (Pset.merge_post H a b).err_of_not fun _ hm => by
    obtain ⟨_, ha, hb, _⟩ := hm
    exact h (ha.trans hb.symm)

/-- With two equal ids the merge proceeds: nothing else is compared (not the counts, not the
    number of inputs or outputs). -/
theorem merge_id_gate_eq (a b : Pset) (u : Bytes) (ha : a.uniqueId H = .ok u) (hb : b.uniqueId H = .ok u) :
    Pset.merge H a b = a.mergeCore b :=
  Pset.merge_of_uid_eq H a b u ha hb

/-- a successful merge passed the gate: both operands have the same, existing, unique id -/
theorem merge_ok_passed_gate (a b m : Pset) (h : Pset.merge H a b = .ok m) :
    ∃ u, a.uniqueId H = .ok u ∧ b.uniqueId H = .ok u := by
  obtain ⟨u, ha, hb, _⟩ := Pset.merge_ok_ids H a b m h
  exact ⟨u, ha, hb⟩

/-- merge never panics (unique ids, the xpub index arithmetic, everything) -/
theorem merge_no_panic (a b : Pset) (s : String) : Pset.merge H a b ≠ .panic s := Pset.merge_no_panic H a b s

/-! ### nothing is lost -/

/-- **after a successful merge every map key of either operand is a key of the result, and every
    optional field present in either operand is present** — for every field of `Global`
    (`PsetGlobal.Keeps`: fallback lock time, xpub, scalars, proprietary, unknown, elements
    modifiable flag; the tx modifiable flags are OR-ed, the version is the maximum), of every
    `Input` (`PsetInput.Keeps`: all 46 mergeable fields) and of every `Output`
    (`PsetOutput.Keeps`: all 19), position by position.  (The proof makes no use of `hb`.) -/
theorem merge_keeps_all (a b m : Pset) (hb : b.Sorted) (h : Pset.merge H a b = .ok m) : Pset.Keeps a b m :=
  Pset.mergeCore_keeps a b m (Pset.merge_ok_core H a b m h)

/-- the per-input statement spelled out for the fields the property names (the proof makes no use of `hy`) -/
theorem merge_keeps_input_fields (x y : PsetInput) (hy : y.Sorted) :
    (∀ k, (k ∈ KV.keys x.partialSigs ∨ k ∈ KV.keys y.partialSigs) → k ∈ KV.keys (x.merge y).partialSigs) ∧
    (∀ k, (k ∈ KV.keys x.tapScriptSigs ∨ k ∈ KV.keys y.tapScriptSigs) → k ∈ KV.keys (x.merge y).tapScriptSigs) ∧
    (∀ k, (k ∈ KV.keys x.tapScripts ∨ k ∈ KV.keys y.tapScripts) → k ∈ KV.keys (x.merge y).tapScripts) ∧
    (∀ k, (k ∈ KV.keys x.bip32Derivation ∨ k ∈ KV.keys y.bip32Derivation) → k ∈ KV.keys (x.merge y).bip32Derivation) ∧
    (∀ k, (k ∈ KV.keys x.tapKeyOrigins ∨ k ∈ KV.keys y.tapKeyOrigins) → k ∈ KV.keys (x.merge y).tapKeyOrigins) ∧
    (∀ k, (k ∈ KV.keys x.sha256Preimages ∨ k ∈ KV.keys y.sha256Preimages) → k ∈ KV.keys (x.merge y).sha256Preimages) ∧
    (∀ k, (k ∈ KV.keys x.proprietary ∨ k ∈ KV.keys y.proprietary) → k ∈ KV.keys (x.merge y).proprietary) ∧
    (∀ k, (k ∈ KV.keys x.unknown ∨ k ∈ KV.keys y.unknown) → k ∈ KV.keys (x.merge y).unknown) ∧
    ((x.sighashType.isSome ∨ y.sighashType.isSome) → (x.merge y).sighashType.isSome) ∧
    ((x.sequence.isSome ∨ y.sequence.isSome) → (x.merge y).sequence.isSome) ∧
    ((x.nonWitnessUtxo.isSome ∨ y.nonWitnessUtxo.isSome) → (x.merge y).nonWitnessUtxo.isSome) ∧
    ((x.witnessUtxo.isSome ∨ y.witnessUtxo.isSome) → (x.merge y).witnessUtxo.isSome) ∧
    ((x.finalScriptSig.isSome ∨ y.finalScriptSig.isSome) → (x.merge y).finalScriptSig.isSome) ∧
    ((x.finalScriptWitness.isSome ∨ y.finalScriptWitness.isSome) → (x.merge y).finalScriptWitness.isSome) :=
  let k := PsetInput.merge_keeps x y
  ⟨k.partialSigs, k.tapScriptSigs, k.tapScripts, k.bip32Derivation, k.tapKeyOrigins, k.sha256Preimages, k.proprietary,
   k.unknown, k.sighashType, k.sequence, k.nonWitnessUtxo, k.witnessUtxo, k.finalScriptSig, k.finalScriptWitness⟩

/-- the values: the result's value under a key is the other operand's if it has one, else
    self's (`BTreeMap::extend`; this reading of the fold needs the other map free of duplicate keys, which `hy` gives); an optional field is
    self's if present, else the other's (`merge!`) -/
theorem merge_values (x y : PsetInput) (hy : y.Sorted) (k : Bytes) :
    KV.lookup k (x.merge y).partialSigs = mergeOpt (KV.lookup k y.partialSigs) (KV.lookup k x.partialSigs) ∧
    (x.merge y).redeemScript = mergeOpt x.redeemScript y.redeemScript :=
  ⟨KV.lookup_extend_nodup _ _ hy.partialSigs.nodup k, rfl⟩

/-- the maps of the result are again sorted and duplicate-free -/
theorem merge_sorted (a b m : Pset) (ha : a.Sorted) (h : Pset.merge H a b = .ok m) : m.Sorted :=
  Pset.mergeCore_sorted a b m ha (Pset.merge_ok_core H a b m h)

/-- **the fallback lock time is kept** (finding F15fallback): present in either
    operand ⇒ present in the result, self's value first -/
theorem merge_keeps_fallback_locktime (a b m : Pset) (h : Pset.merge H a b = .ok m) :
    m.global.fallbackLocktime = mergeOpt a.global.fallbackLocktime b.global.fallbackLocktime ∧
    ((a.global.fallbackLocktime.isSome ∨ b.global.fallbackLocktime.isSome) → m.global.fallbackLocktime.isSome) := by
  have hc := Pset.merge_ok_core H a b m h
  exact ⟨(PsetGlobal.merge_txData (Pset.mergeCore_ok a b m hc).1).fallbackLocktime, (Pset.mergeCore_keeps a b m hc).global.fallbackLocktime⟩

def p0 : Pset := { global := { inputCount := 1 }, inputs := [{ requiredHeightLocktime := some 100 }] }

/-- an instance: two PSETs with the same unique id (the input fixes the lock time),
    only the other one carrying a fallback lock time: the result carries it -/
theorem merge_fallback_locktime_example :
    let a := p0
    let b : Pset := { p0 with global := { p0.global with fallbackLocktime := some 77 } }
    ∃ m, Pset.merge H a b = .ok m ∧ m.global.fallbackLocktime = some 77 := by
  intro a b
  rw [Pset.merge_of_idTx_eq H a b (by decide +kernel) (by decide +kernel)]
  exact ⟨_, rfl, rfl⟩

/-! ### the id is kept -/

/-- **merging two PSETs that describe the same transaction keeps the unique id**: if the
    identifying fields coincide (`Pset.IdEq`, the fields listed in `C08.unique_id_ignores`) the
    result has the unique id of the operands -/
theorem merge_keeps_id (a b m : Pset) (hid : Pset.IdEq a b) (h : Pset.merge H a b = .ok m) :
    m.uniqueId H = a.uniqueId H ∧ m.uniqueId H = b.uniqueId H := by
  have := uniqueId_congr H (Pset.mergeCore_idEq a b m hid (Pset.merge_ok_core H a b m h))
  exact ⟨this, this.trans (uniqueId_congr H hid)⟩

/-- the identifying fields themselves are those of the operands -/
theorem merge_keeps_identifying_fields (a b m : Pset) (hid : Pset.IdEq a b) (h : Pset.merge H a b = .ok m) :
    Pset.IdEq m a :=
  Pset.mergeCore_idEq a b m hid (Pset.merge_ok_core H a b m h)

/-- **the id is kept without comparing identifying fields**: a successful merge (`hm`) has passed the gate, so the
    two unique ids are equal; if in addition the per-input lock-time requirement fields coincide (`hl`), the result
    has the unique id of the operands or the hash collides (`ha`, `hb`, `wa`, `wb` as in `C08.unique_id_commits`).
    The identifying *fields* may differ here (e.g. an explicit amount present beside the commitment on one side only); `hl` cannot be dropped
    (`merge_can_change_locktime`). -/
theorem merge_keeps_id_of_equal_ids (P : Prims) (hs : EV.Proofs.CodecTx.SizesPos P) (a b m : Pset) (ta tb : Tx)
    (hm : Pset.merge H a b = .ok m) (ha : idTx a = .ok ta) (hb : idTx b = .ok tb)
    (wa : (canon ta).wf P) (wb : (canon tb).wf P) (hl : a.lockReqs = b.lockReqs) :
    m.uniqueId H = a.uniqueId H ∨ Collision H.sha256d :=
  EV.Proofs.PsetMergeId.merge_keeps_id_of_equal_ids P hs H a b m ta tb hm ha hb wa wb hl

def TL : Nat := 500000000
def inT (t : Nat) : PsetInput := { requiredTimeLocktime := some t }
def inTH (t h : Nat) : PsetInput := { requiredTimeLocktime := some t, requiredHeightLocktime := some h }
def lockA : Pset := { global := { inputCount := 2 }, inputs := [inT (TL + 10), inTH (TL + 20) 9] }
def lockB : Pset := { global := { inputCount := 2 }, inputs := [inTH (TL + 10) 7, inT (TL + 20)] }

/-- **negative (finding F16locktime)**: the hypothesis on the lock-time requirement fields cannot
    be weakened to "same unique id": `Input::merge` takes the maxima of the two required lock
    times per input; two PSETs with the *same identifying transaction* (lock time 500000020, a
    time) whose inputs state different requirement sets merge into a PSET in which every input
    supports a height, so its lock time is the height 9: a different transaction, a different id -/
theorem merge_can_change_locktime :
    idTx lockA = idTx lockB ∧ lockA.locktime = .ok (TL + 20) ∧
    ∃ m, Pset.merge H lockA lockB = .ok m ∧ m.locktime = .ok 9 := by
  have hid : idTx lockA = idTx lockB := by decide +kernel
  rw [Pset.merge_of_idTx_eq H _ _ hid (by decide +kernel)]
  exact ⟨hid, by decide +kernel, _, rfl, by decide +kernel⟩

/-! ### order-insensitivity -/

/-- **`merge a b = merge b a`** for sorted, compatible operands (`Pset.Compat`: equal identifying fields;
    equal values under common map keys and for optional fields present on both sides — as with two
    descendants of a common ancestor by disjoint or identical additions) -/
theorem merge_comm (a b : Pset) (ha : a.Sorted) (hb : b.Sorted) (hc : Pset.Compat a b) :
    Pset.merge H a b = Pset.merge H b a :=
  Pset.merge_comm H a b ha hb hc

/-- compatible operands that have a unique id always merge -/
theorem merge_compatible_succeeds (a b : Pset) (u : Bytes) (hu : a.uniqueId H = .ok u) (hb : b.Sorted)
    (hc : Pset.Compat a b) : ∃ m, Pset.merge H a b = .ok m :=
  Pset.merge_of_kin H a b u hu hb hc.kin

/-- **`(a ∪ b) ∪ c = a ∪ (b ∪ c)`**: merge is associative as soon as the three describe the same
    transaction and their xpub key sources agree (no further compatibility is needed: first-present
    -wins, other-wins-on-maps, maxima and unions are associative) -/
theorem merge_assoc (a b c ab bc : Pset) (ha : a.Sorted) (hb : b.Sorted) (hc : c.Sorted)
    (iab : Pset.IdEq a b) (ibc : Pset.IdEq b c)
    (xab : Pset.XpubAgree a b) (xbc : Pset.XpubAgree b c) (xac : Pset.XpubAgree a c)
    (h1 : Pset.merge H a b = .ok ab) (h2 : Pset.merge H b c = .ok bc) :
    Pset.merge H ab c = Pset.merge H a bc :=
  Pset.merge_assoc H a b c ab bc ha hb hc ⟨iab, xab⟩ ⟨ibc, xbc⟩ xac h1 h2

/-- the merge of two members of a compatible family is compatible with the others, and sorted:
    the laws above apply again to the intermediate results, for families of any size -/
theorem merge_family_closed (a b c ab : Pset) (ha : a.Sorted) (hb : b.Sorted) (hab : Pset.Compat a b)
    (hac : Pset.Compat a c) (hbc : Pset.Compat b c) (h : Pset.merge H a b = .ok ab) :
    Pset.Compat ab c ∧ ab.Sorted :=
  ⟨Pset.mergeCore_compat a b c ab hb hab hac hbc (Pset.merge_ok_core H a b ab h), merge_sorted H a b ab ha h⟩

/-- **all merge orders and groupings of a family of three give the same PSET**: the twelve
    expressions (six orders × two groupings) coincide, and succeed (the family has a unique id) -/
theorem merge_family3 {a b c : Pset} (h : Pset.Family3 a b c) (u : Bytes) (hu : a.uniqueId H = .ok u) :
    let L := Pset.mergeL H
    let R := Pset.mergeRt H
    (∃ m, L a b c = .ok m) ∧
    L a c b = L a b c ∧ L b a c = L a b c ∧ L b c a = L a b c ∧ L c a b = L a b c ∧ L c b a = L a b c ∧
    R a b c = L a b c ∧ R a c b = L a b c ∧ R b a c = L a b c ∧ R b c a = L a b c ∧ R c a b = L a b c ∧
    R c b a = L a b c := by
  intro L R
  have k := h.kin3
  have ub := k.ab.uid H hu
  have uc := k.ac.uid H hu
  -- regrouping is free within one transaction; an inner pair is exchanged in the orientation the family gives
  have r : ∀ {x y z}, Pset.Kin3 x y z → x.uniqueId H = .ok u → R x y z = L x y z :=
    fun g hx => (Pset.mergeL_eq_mergeRt H g u hx).symm
  have e2 : L b a c = L a b c := (Pset.mergeL_comm12 H c h.sa h.sb h.ab).symm
  have e1 : L a c b = L a b c := (Pset.mergeL_comm23 H k u hu h.bc).symm
  have e3 : L b c a = L a b c := (Pset.mergeL_comm23 H k.swap12 u ub h.ac).symm.trans e2
  have e4 : L c a b = L a b c := (Pset.mergeL_comm12 H b h.sa h.sc h.ac).symm.trans e1
  have e5 : L c b a = L a b c := (Pset.mergeL_comm12 H a h.sb h.sc h.bc).symm.trans e3
  have r1 : R a b c = L a b c := r k hu
  have r2 : R a c b = L a b c := (r k.swap23 hu).trans e1
  have r3 : R b a c = L a b c := (r k.swap12 ub).trans e2
  have r4 : R b c a = L a b c := (r k.swap12.swap23 ub).trans e3
  have r5 : R c a b = L a b c := (r k.swap23.swap12 uc).trans e4
  have r6 : R c b a = L a b c := (r k.swap12.swap23.swap12 uc).trans e5
  refine ⟨?_, e1, e2, e3, e4, e5, r1, r2, r3, r4, r5, r6⟩
  -- success: `a ∪ b` exists, has the id `u` and is compatible with `c`
  obtain ⟨ab, hab⟩ := merge_compatible_succeeds H a b u hu h.sb h.ab
  have uab : ab.uniqueId H = .ok u := (merge_keeps_id H a b ab h.ab.idEq hab).1.trans hu
  have cab : Pset.Compat ab c := (merge_family_closed H a b c ab h.sa h.sb h.ab h.ac h.bc hab).1
  obtain ⟨m, hm⟩ := merge_compatible_succeeds H ab c u uab h.sc cab
  refine ⟨m, ?_⟩
  show Pset.mergeL H a b c = .ok m
  rw [Pset.mergeL_eq, hab]
  exact hm

/-! ### global xpub key sources -/

/-- **decision table of the key-source reconciliation**, over all pairs of key sources (`mine` in
    `self`, `theirs` in `other`): equal ⇒ keep; one path a proper suffix of the other (either
    direction) ⇒ the longer one with its fingerprint; otherwise ⇒ `MergeConflict` -/
theorem xpub_reconcile_spec (mine theirs : KeySource) :
    xpubReconcile mine theirs =
      if theirs = mine then .ok mine
      else if ProperSuffix theirs.path mine.path then .ok mine
      else if ProperSuffix mine.path theirs.path then .ok theirs
      else .err "MergeConflict" :=
  xpubReconcile_table mine theirs

/-- the rows named by the property: equal; suffix either way; equal path with different
    fingerprint; equal length but different; unrelated -/
theorem xpub_reconcile_rows (mine theirs : KeySource) :
    (theirs = mine → xpubReconcile mine theirs = .ok mine) ∧
    (ProperSuffix theirs.path mine.path → xpubReconcile mine theirs = .ok mine) ∧
    (ProperSuffix mine.path theirs.path → xpubReconcile mine theirs = .ok theirs) ∧
    (theirs.path = mine.path → theirs.fp ≠ mine.fp → xpubReconcile mine theirs = .err "MergeConflict") ∧
    (theirs.path.length = mine.path.length → theirs.path ≠ mine.path → xpubReconcile mine theirs = .err "MergeConflict") ∧
    (theirs ≠ mine → ¬ ProperSuffix theirs.path mine.path → ¬ ProperSuffix mine.path theirs.path →
      xpubReconcile mine theirs = .err "MergeConflict") := by
  have conflict : theirs ≠ mine → ¬ ProperSuffix theirs.path mine.path → ¬ ProperSuffix mine.path theirs.path →
      xpubReconcile mine theirs = .err "MergeConflict" := fun he h1 h2 => by
    rw [xpubReconcile_table, if_neg he, if_neg h1, if_neg h2]
  -- paths of equal length are not proper suffixes of each other
  have sameLength : theirs.path.length = mine.path.length → theirs ≠ mine →
      xpubReconcile mine theirs = .err "MergeConflict" := fun hl he =>
    conflict he (fun h => Nat.ne_of_lt (properSuffix_length h) hl) (fun h => Nat.ne_of_lt (properSuffix_length h) hl.symm)
  refine ⟨fun h => ?_, fun h => ?_, fun h => ?_, fun hp hf => ?_, fun hl hp => ?_, conflict⟩
  · rw [xpubReconcile_table, if_pos h]
  · rw [xpubReconcile_table, if_pos h]
    split <;> rfl
  · have hlen := properSuffix_length h
    have hne : theirs ≠ mine := fun he => Nat.lt_irrefl _ (he ▸ hlen)
    have hns : ¬ ProperSuffix theirs.path mine.path := fun h1 => Nat.lt_asymm hlen (properSuffix_length h1)
    rw [xpubReconcile_table, if_neg hne, if_neg hns, if_pos h]
  · exact sameLength (congrArg List.length hp) fun he => hf (congrArg KeySource.fp he)
  · exact sameLength hl fun he => hp (congrArg KeySource.path he)

/-- it never panics: the `usize` subtraction and the slice are only evaluated under their guard -/
theorem xpub_reconcile_no_panic (mine theirs : KeySource) (s : String) : xpubReconcile mine theirs ≠ .panic s :=
  (xpubReconcile_post mine theirs).ne_panic s

/-- the reconciliation is symmetric: both merge directions keep the same key source or both conflict -/
theorem xpub_reconcile_symm (x y : KeySource) : xpubReconcile x y = xpubReconcile y x := by
  rw [xpubReconcile_table, xpubReconcile_table]
  by_cases he : y = x
  · subst he; rfl
  · rw [if_neg he, if_neg (Ne.symm he)]
    by_cases h1 : ProperSuffix y.path x.path
    · have h2 : ¬ ProperSuffix x.path y.path := fun h2 =>
        Nat.lt_asymm (properSuffix_length h1) (properSuffix_length h2)
      rw [if_pos h1, if_neg h2, if_pos h1]
    · rw [if_neg h1, if_neg h1]

/-- whole xpub maps: the loop never panics -/
theorem xpub_merge_no_panic (self other : List (Bytes × KeySource)) (s : String) : mergeXpub self other ≠ .panic s :=
  (PsetGlobal.mergeXpub_post self other).ne_panic s

/-- whole xpub maps: the loop keeps every key of either map -/
theorem xpub_merge_keeps_keys (self other res : List (Bytes × KeySource)) (h : mergeXpub self other = .ok res)
    (k : Bytes) (hk : k ∈ KV.keys self ∨ k ∈ KV.keys other) : k ∈ KV.keys res :=
  ((PsetGlobal.mergeXpub_post self other).of_ok h).keys k hk

/-! ### non-vacuity -/

example : ProperSuffix [2, 3] [1, 2, 3] ∧ ¬ ProperSuffix [1, 2] [1, 2, 3] ∧ ¬ ProperSuffix [1, 2, 3] [1, 2, 3] := by decide +kernel

example : xpubReconcile ⟨[1], [1, 2, 3]⟩ ⟨[2], [7, 7]⟩ = .err "MergeConflict" ∧
    xpubReconcile ⟨[1], [2, 3]⟩ ⟨[2], [1, 2, 3]⟩ = .ok ⟨[2], [1, 2, 3]⟩ ∧
    xpubReconcile ⟨[1], [1, 2, 3]⟩ ⟨[2], [1, 2, 3]⟩ = .err "MergeConflict" := by decide +kernel

/-- two PSETs with different additions (no common map key, no optional field present in both): the result has both,
    in either order -/
example :
    let ia : PsetInput := { partialSigs := [([2, 1], [9])], redeemScript := some [0x51] }
    let ib : PsetInput := { partialSigs := [([2, 2], [8])], sighashType := some 1 }
    let im : PsetInput := { partialSigs := [([2, 1], [9]), ([2, 2], [8])], redeemScript := some [0x51], sighashType := some 1 }
    let a : Pset := { global := { inputCount := 1 }, inputs := [ia] }
    let b : Pset := { global := { inputCount := 1 }, inputs := [ib] }
    a.mergeCore b = .ok { global := { inputCount := 1, txModifiable := some 0 }, inputs := [im] } ∧
    a.mergeCore b = b.mergeCore a := by decide +kernel

/-! ### the model's field inventory is the source's (re-extracted from `src/pset/map/*.rs` on every run)

`EV.Gen.pset*Fields` are the struct definitions, `EV.Gen.pset*MergeOps` the statements found in the bodies
of `merge`; `EV.PsetFieldTable` is the table the model (structures, `merge`, `merge_keeps_all` …) is
generated from. A field added to `pset::Input`/`Output`, or one that `merge` stops handling, breaks these. -/
open EV.Proofs.PsetSourceTie in
theorem source_input_fields_match : namesKinds PsetFieldTable.input = Gen.psetInputFields := input_fields_match

open EV.Proofs.PsetSourceTie in
theorem source_output_fields_match : namesKinds PsetFieldTable.output = Gen.psetOutputFields := output_fields_match

open EV.Proofs.PsetSourceTie in
theorem source_input_merge_ops_match : sameSet (mergeOps PsetFieldTable.input) Gen.psetInputMergeOps = true := input_merge_ops_match

open EV.Proofs.PsetSourceTie in
theorem source_output_merge_ops_match : sameSet (mergeOps PsetFieldTable.output) Gen.psetOutputMergeOps = true := output_merge_ops_match

open EV.Proofs.PsetSourceTie in
/-- every `Option` / map field of the source structs is handled by the source `merge` -/
theorem source_merge_covers_every_field :
    covered Gen.psetInputFields Gen.psetInputMergeOps = true ∧ covered Gen.psetOutputFields Gen.psetOutputMergeOps = true :=
  ⟨input_fields_match ▸ covered_of_table (by decide +kernel) input_merge_ops_match,
   output_fields_match ▸ covered_of_table (by decide +kernel) output_merge_ops_match⟩

/-- the global map: inventory as modelled (`tx_data` flattened into `PsetGlobal`) -/
theorem source_global_inventory :
    Gen.psetGlobalFields.map (·.1) = ["tx_data", "version", "xpub", "scalars", "elements_tx_modifiable_flag", "proprietary", "unknown"] ∧
    Gen.psetTxDataFields.map (·.1) = ["version", "fallback_locktime", "input_count", "output_count", "tx_modifiable"] := ⟨rfl, rfl⟩

end EV.Props.C14
