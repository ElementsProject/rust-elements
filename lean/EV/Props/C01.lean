/-
  C01 — consensus encoding is an exact bijection on canonical values.

  For each consensus type τ the model has `dec : Bytes → Res (τ × Bytes)` (= `deserialize_partial`),
  `enc : τ → Bytes` and an explicit canonicity predicate `wf`.  `Lawful dec enc wf` bundles
    sound    : dec bs = ok (v, rest) → bs = enc v ++ rest ∧ wf v     (accepted bytes re-encode identically;
                                                                      every decoded value is canonical)
    complete : wf v → dec (enc v ++ r) = ok (v, r)                    (canonical values round-trip, and the
                                                                      decoder stops exactly at the end)
    total    : dec bs ≠ panic                                         (errors, never panics)
  Curve-point / tweak / proof validity are arbitrary predicates `P : Prims`; `size_of` facts are
  parameters constrained only to be positive.
-/
import EV.Proofs.CodecPrim
import EV.Proofs.CodecTx
import EV.Proofs.CodecBlock
namespace EV.Props.C01
open EV EV.Codec EV.Proofs.CodecPrim EV.Proofs.CodecTx EV.Proofs.CodecBlock

variable (P : Prims)

/-! ### the three laws for every listed type -/

theorem varint_laws : Lawful varint encVarint (fun n => n < 2^64) := varint_lawful

/-- every `Vec<u8>`: scripts, and equally proofs and witness elements -/
theorem script_laws : Lawful bytesVec encBytesVec (fun b => b.length ≤ maxVecSize) := bytesVec_lawful

/-- every little-endian `u32`: lock time, and equally sequence, version and output index -/
theorem locktime_laws : Lawful (le 4) (encLe 4) (fun n => n < 256 ^ 4) := le_lawful 4

theorem value_laws : Lawful (Value.dec P) Value.enc (Value.wf P) := value_lawful P

theorem asset_laws : Lawful (Asset.dec P) Asset.enc (Asset.wf P) := asset_lawful P

theorem nonce_laws : Lawful (Nonce.dec P) Nonce.enc (Nonce.wf P) := nonce_lawful P

theorem issuance_laws : Lawful (AssetIssuance.dec P) AssetIssuance.enc (AssetIssuance.wf P) := issuance_lawful P

theorem outpoint_laws : Lawful OutPoint.dec OutPoint.enc OutPoint.wf := outpoint_lawful

theorem txInWitness_laws : Lawful (TxInWitness.dec P) TxInWitness.enc (TxInWitness.wf P) := txInWitness_lawful P

theorem txOutWitness_laws : Lawful (TxOutWitness.dec P) TxOutWitness.enc (TxOutWitness.wf P) := txOutWitness_lawful P

theorem txIn_laws : Lawful (TxIn.dec P) TxIn.enc (fun i => i.wfBody P ∧ i.witness = TxInWitness.empty) := txIn_lawful P

theorem txOut_laws : Lawful (TxOut.dec P) TxOut.enc (fun o => o.wfBody P ∧ o.witness = TxOutWitness.empty) := txOut_lawful P

theorem tx_laws (hs : SizesPos P) : Lawful (Tx.dec P) Tx.enc (Tx.wf P) := tx_lawful P hs

theorem params_laws : Lawful Params.dec Params.enc Params.wf := params_lawful

theorem header_laws : Lawful BlockHeader.dec BlockHeader.enc BlockHeader.wf := header_lawful

theorem block_laws (hs : SizesPos P) : Lawful (Block.dec P) Block.enc (Block.wf P) := block_lawful P hs

/-! ### consequences stated as in the property -/

/-- `deserialize` succeeds exactly when the partial decoder consumed everything -/
theorem deserialize_iff (bs : Bytes) (t : Tx) :
    Tx.deserialize P bs = .ok t ↔ Tx.dec P bs = .ok (t, []) := by
  unfold Tx.deserialize
  constructor
  · intro h
    split at h <;> simp_all
  · exact deserialize_of_dec P

/-- whenever `deserialize` accepts, re-encoding reproduces exactly the input bytes, and the value is canonical -/
theorem deserialize_reencode (hs : SizesPos P) (bs : Bytes) (t : Tx)
    (h : Tx.deserialize P bs = .ok t) : t.enc = bs ∧ t.wf P :=
  ((tx_lawful P hs).whole_iff.mp ((deserialize_iff P bs t).1 h)).imp_left Eq.symm

/-- no two different byte strings decode to equal values -/
theorem deserialize_injective (hs : SizesPos P) (a b : Bytes) (t : Tx)
    (ha : Tx.deserialize P a = .ok t) (hb : Tx.deserialize P b = .ok t) : a = b := by
  rw [← (deserialize_reencode P hs a t ha).1, ← (deserialize_reencode P hs b t hb).1]

/-- every canonical value encodes to bytes that `deserialize` maps back to it -/
theorem serialize_deserialize (hs : SizesPos P) (t : Tx) (h : t.wf P) :
    Tx.deserialize P t.enc = .ok t :=
  (deserialize_iff P _ t).2 ((tx_lawful P hs).complete_nil h)

/-- every value the decoder returns is canonical, hence round-trips -/
theorem decoded_roundtrips (hs : SizesPos P) (bs : Bytes) (t : Tx) (h : Tx.deserialize P bs = .ok t) :
    Tx.deserialize P t.enc = .ok t :=
  serialize_deserialize P hs t (deserialize_reencode P hs bs t h).2

/-! ### the hard-coded lengths the encoders report are the numbers of bytes written -/

theorem value_reported_length (v : Value) (h : v.wf P) : v.enc.length = v.encodedLength := value_enc_length P v h

theorem asset_reported_length (v : Asset) (h : v.wf P) : v.enc.length = v.encodedLength := asset_enc_length P v h

theorem nonce_reported_length (v : Nonce) (h : v.wf P) : v.enc.length = v.encodedLength := nonce_enc_length P v h

theorem varint_reported_length (n : Nat) : (encVarint n).length = varintSize n := encVarint_length n

theorem bytes_reported_length (b : Bytes) : (encBytesVec b).length = varintSize b.length + b.length := encBytesVec_length b

theorem tx_reported_length (t : Tx) (h : t.wf P) : t.size = t.enc.length := size_eq_enc_length P t h

/-! ### constructors produce canonical values -/

/-- `TxOut::new_fee` -/
def newFee (amount : Nat) (asset : Bytes) : TxOut :=
  ⟨.explicit asset, .explicit amount, .null, [], TxOutWitness.empty⟩

theorem newFee_wf (amount : Nat) (asset : Bytes) (ha : amount < 2^64) (hl : asset.length = 32) :
    (newFee amount asset).wf P := by
  simp [newFee, TxOut.wf, TxOut.wfBody, Asset.wf, Value.wf, Nonce.wf, TxOutWitness.wf, TxOutWitness.empty,
    wfOptProof, ha, hl, maxVecSize]

/-- `impl Default for TxIn` -/
def defaultTxIn : TxIn := ⟨OutPoint.null, false, [], 0xffffffff, AssetIssuance.null, TxInWitness.empty⟩

theorem defaultTxIn_wf : defaultTxIn.wf P := by
  simp [defaultTxIn, TxIn.wf, TxIn.wfBody, OutPoint.null, TxIn.hasIssuance, AssetIssuance.null,
    AssetIssuance.isNull, Value.isNull, TxInWitness.wf, TxInWitness.empty, wfOptProof, TxInWitness.wfStack, maxVecSize]

/-! ### non-vacuity: a canonical input with the features the property lists (pegin, issuance) exists and round-trips -/
section Examples
/-- the platform sizes of 64-bit targets, every parse predicate accepting -/
def P0 : Prims := ⟨fun _ => true, fun _ => true, fun _ => true, fun _ => true, fun _ => true, fun _ => true, 328, 160, 56⟩

/-- a pegin + issuance input (explicit amount, null keys) -/
def exIn : TxIn :=
  ⟨⟨List.replicate 32 7, 5⟩, true, [0x51], 0xfffffffe,
   ⟨List.replicate 32 0, List.replicate 32 9, .explicit 1000, .null⟩, TxInWitness.empty⟩

example : exIn.wfBody P0 := by
  simp [exIn, TxIn.wfBody, TxIn.hasIssuance, AssetIssuance.isNull, Value.isNull, AssetIssuance.wf, Value.wf, P0, maxVecSize]

example : (TxIn.dec P0 (exIn.enc ++ [1, 2, 3])) = .ok (exIn, [1, 2, 3]) := by decide
end Examples

end EV.Props.C01
