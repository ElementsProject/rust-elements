/-
  C04 — blinding yields a transaction that verifies and that receivers can unblind.

  Model: `EV.Model.Blind` (`blind` = `Transaction::blind(.., blind_issuances = false)`,
  `verify` = `Transaction::verify_tx_amt_proofs`, `unblind` = `TxOut::unblind`, `lastVbf` =
  `ValueBlindingFactor::last`).  Scalars `R`: any commutative ring (the integers mod the group
  order); points `M`: any `R`-module with a base point `G` and a tag point per asset id
  (`Curve`); `AlgB`/`AlgV` say that the EC primitives compute in that module.  The zero-knowledge
  proof systems are parameters: completeness ("a proof made by the prover for these public data is
  accepted for the same data"), totality of the provers on provable statements, and the rewind law
  are hypotheses — they are the trusted base, not proved here.
-/
import EV.Proofs.BlindC04
import EV.Proofs.BlindInstance
import Mathlib.Data.ZMod.Defs

namespace EV.Props.C04
open EV EV.Blind

variable {A R M K RP SP : Type} [CommRing R] [AddCommGroup M] [Module R M]

/-- **the adaptive blinding factor closes the scalar balance**: the term `v·abf + vbf` of the last output
    plus the terms of the other outputs equals the terms of the inputs. (`lastVbf` is the loop of
    `secp256k1_pedersen_blind_generator_blind_sum` as coded.) -/
theorem last_balances (a : A) (value : Nat) (abf : R) (ins outs : List (Secrets A R)) :
    term ⟨a, value, abf, lastVbf value abf ins outs⟩ + sumTerms outs = sumTerms ins := by
  rw [term, lastVbf_eq]
  ring

/-- closed form of `ValueBlindingFactor::last` -/
theorem last_formula (value : Nat) (abf : R) (ins outs : List (Secrets A R)) :
    lastVbf value abf ins outs = sumTerms ins - sumTerms outs - (value : R) * abf :=
  lastVbf_eq value abf ins outs

section driver
open Fin.NatCast

/-- the arithmetic the driver runs (`ZN` = `Fin n` with core Lean's operations mod the secp256k1
    group order) is the commutative-ring arithmetic the theorems are about: the same closed form
    holds for the driver's `blind.last` computation.  (`Fin.instCommRing` is what
    `Mathlib.Data.ZMod.Defs` is imported for.) -/
theorem last_formula_ZN (value : Nat) (abf : ZN) (ins outs : List (Secrets Unit ZN)) :
    letI := Fin.instCommRing groupOrder
    (lastVbf value abf ins outs : ZN) = sumTerms ins - sumTerms outs - (value : ZN) * abf := by
  let _ := Fin.instCommRing groupOrder
  exact lastVbf_eq value abf ins outs
end driver

/-- ECDH symmetry in the module: sender `esk•(sk•G)` = receiver `sk•(esk•G)` -/
theorem ecdh_symm (G : M) (a b : R) : a • (b • G) = b • (a • G) := EV.Blind.ecdh_symm G a b

/-- **regrouping by asset**: lists of openings whose explicit amounts balance per asset have equal tag
    parts `Σ v•tag a` -/
theorem balanced_regroup [DecidableEq A] (cv : Curve R M A) (ins outs : List (Secrets A R))
    (hbal : ∀ a, amt a ins = amt a outs) :
    (ins.map cv.tagPart).sum = (outs.map cv.tagPart).sum :=
  cv.sum_tagPart_of_balanced ins outs hbal

/-- **blind balances**: for any number ≥ 1 and any positions of marked outputs and any random
    choices, after `blind` (i) the openings of all outputs have the same `Σ (v·abf + vbf)` as the
    spent outputs and (ii) if the explicit amounts balance per asset (spent outputs and issuance
    pseudo-inputs = outputs, fee included) the value commitments of inputs and outputs have equal
    sums. -/
theorem blind_balances [DecidableEq A] (cv : Curve R M A) (B : BPrims A R M K RP SP)
    (outputs : List (TxOut A M RP SP)) (spent : List (Secrets A R)) (rands : Nat → Rand R)
    (entries : List (Entry A R M RP SP))
    (h : blind B outputs spent rands = .ok entries) :
    sumTerms (entries.map Entry.sec) = sumTerms spent ∧
    ((∀ a, amt a spent = amt a (explicitOpenings outputs : List (Secrets A R))) →
      (spent.map cv.commit).sum = ((entries.map Entry.sec).map cv.commit).sum) :=
  ⟨blind_balances_scalar B outputs spent rands entries h,
   fun hbal => blind_balances_commit cv B outputs spent rands entries hbal h⟩

omit [AddCommGroup M] [Module R M] in
/-- **what blind does to each output** (selection logic): at least one output was marked; position
    by position (`Rel`) an unmarked output (fee-shaped or without confidential nonce) is untouched,
    absent from the map and opened by (asset, value, 0, 0), a marked one is the result of
    `with_txout_secrets` on an opening with the original asset and amount, its own script, the key in
    its nonce and the ephemeral key reported in the map; the map has exactly the marked indices. -/
theorem blind_map_keys (B : BPrims A R M K RP SP) (outputs : List (TxOut A M RP SP))
    (spent : List (Secrets A R)) (rands : Nat → Rand R) (entries : List (Entry A R M RP SP))
    (h : blind B outputs spent rands = .ok entries) :
    0 < countMarked outputs ∧ Forall2 (Rel B spent) outputs entries ∧
    (blindsOf 0 entries).map (fun x => x.1) =
      ((outputs.zipIdx 0).filter (fun x => x.1.marked)).map (fun x => x.2) := by
  obtain ⟨h1, h2, _⟩ := blind_spec B outputs spent rands entries h
  exact ⟨h1, h2, blindsOf_spec h2 0⟩

/-- **blinding succeeds and the result verifies**: for every explicit transaction (`hexp`) whose
    explicit amounts balance per asset against the true openings of the spent outputs and issuance
    pseudo-inputs (`htrue`, `hbal`), with any non-empty choice of marked outputs (`hpos`) whose
    scripts are address-shaped and whose amounts `v` have `1 ≤ v < 2 ^ 63` (`hadr`, `hval`), every
    unmarked explicit-zero output sitting on a provably unspendable script (`hzero`: the verifier's
    zero-value rule), as many spent outputs as inputs (`hlen`), and any random choices `rands`: `blind`
    returns a transaction and that transaction passes `verify` against the spent outputs. -/
theorem blind_verifies [DecidableEq A] (cv : Curve R M A) (kdf : M → K)
    (B : BPrims A R M K RP SP) (V : VPrims A M RP SP) (hB : AlgB cv kdf B) (hV : AlgV cv V)
    (spent : List (Secrets A R))
    -- completeness and totality of the two proof systems (trusted base)
    (hrange : ∀ c v vbf m spk k g rp, B.rangeProve c v vbf m spk k g = some rp →
      V.rangeVerify rp c spk g = true)
    (hsurj : ∀ a abf ins sp, B.surjProve a abf ins = some sp →
      V.surjVerify sp (B.genBlinded a abf) (ins.map (fun x => x.1)) = true)
    (hrangeTotal : ∀ c v vbf m spk k g, 1 ≤ v → v < 2 ^ 63 → (B.rangeProve c v vbf m spk k g).isSome)
    (hsurjTotal : ∀ a abf, (∃ s ∈ spent, s.asset = a) → (B.surjProve a abf (surjInputs B spent)).isSome)
    (ins : List (TxIn A M)) (utxos outputs : List (TxOut A M RP SP)) (rands : Nat → Rand R)
    (hlen : utxos.length = ins.length)
    (htrue : inputPairs V 0 ins utxos = .ok (spent.map cv.opening))
    (hbal : ∀ a, amt a spent = amt a (explicitOpenings outputs : List (Secrets A R)))
    (hexp : ∀ o ∈ outputs, o.allExplicit = true)
    (hpos : ∃ o ∈ outputs, o.marked = true)
    (hadr : ∀ o ∈ outputs, o.marked = true → addressable o.script = true)
    (hval : ∀ o ∈ outputs, o.marked = true → ∀ v, o.value = .explicit v → 1 ≤ v ∧ v < 2 ^ 63)
    (hzero : ∀ o ∈ outputs, o.marked = false → o.value = .explicit 0 →
      isProvablyUnspendable o.script = true) :
    ∃ entries, blind B outputs spent rands = .ok entries ∧
      verify V ins (entries.map Entry.out) utxos = .ok := by
  obtain ⟨entries, he⟩ :=
    blind_succeeds_balanced B outputs spent rands hrangeTotal hsurjTotal hbal hexp hpos hadr hval
  exact ⟨entries, he, blind_verifies' hB hV hrange hsurj ins utxos outputs spent rands entries
    hlen htrue hbal hzero he⟩

/-- **unblinding**: every marked output `o` (at any position) whose nonce carried the receiver's
    public key `sk•G` is, after `blind`, unblinded with `sk` to exactly the opening the blinder holds
    for it — the original asset and amount and the (abf, vbf) reported in the returned map — and that
    opening reproduces the output's asset and value commitments.  (`Forall2 (Rel ..)` between the
    unblinded outputs and the entries is what `blind_map_keys` provides.) -/
theorem unblind_blind [DecidableEq M] (cv : Curve R M A) (kdf : M → K)
    (B : BPrims A R M K RP SP) (hB : AlgB cv kdf B)
    (hrew : ∀ c v vbf a abf spk k g rp, B.rangeProve c v vbf (a, abf) spk k g = some rp →
      B.rewind rp c k spk g = some (v, vbf, a, abf))
    (spent : List (Secrets A R)) (o : TxOut A M RP SP) (e : Entry A R M RP SP)
    (h : Rel B spent o e) (hm : o.marked = true) (sk : R) (hpk : o.nonce = .conf (sk • cv.G)) :
    unblind B e.out sk = .ok e.sec ∧
    e.out.asset = .conf (cv.gen e.sec.asset e.sec.abf) ∧
    e.out.value = .conf (cv.commit e.sec) ∧
    (∃ a v, o.asset = .explicit a ∧ o.value = .explicit v ∧ e.sec.asset = a ∧ e.sec.value = v) ∧
    (∃ esk, e.esk = some esk ∧ e.out.nonce = .conf (esk • cv.G)) := by
  induction h using Rel.elim with
  | unmarked hm' => exact absurd (hm.symm.trans hm') nofun
  | marked _ ha hv hn hw =>
    obtain rfl := CNonce.conf.inj (hn.symm.trans hpk)
    obtain ⟨h1, h2, h3, h4⟩ := unblind_withTxoutSecrets cv kdf B hB hrew spent _ sk _ _ _ hw
    exact ⟨h1, h2, h3, ⟨_, _, ha, hv, rfl, rfl⟩, _, rfl, h4⟩

omit [AddCommGroup M] [Module R M] in
/-- no output marked for blinding: `TooFewBlindingOutputs` (never a panic) -/
theorem blind_none_marked_err (B : BPrims A R M K RP SP)
    (outputs : List (TxOut A M RP SP)) (spent : List (Secrets A R)) (rands : Nat → Rand R)
    (hexp : ∀ o ∈ outputs, o.allExplicit = true) (hnone : ∀ o ∈ outputs, o.marked = false) :
    blind B outputs spent rands = .err eTooFewBlindingOutputs :=
  blind_none_marked_err' B outputs spent rands hexp hnone

omit [AddCommGroup M] [Module R M] in
/-- an output that is not fully explicit: `MustHaveAllExplicitTxOuts`, before anything else -/
theorem blind_not_all_explicit_err (B : BPrims A R M K RP SP)
    (outputs : List (TxOut A M RP SP)) (spent : List (Secrets A R)) (rands : Nat → Rand R)
    (o : TxOut A M RP SP) (ho : o ∈ outputs) (hne : o.allExplicit = false) :
    blind B outputs spent rands = .err eMustHaveAllExplicit :=
  blind_not_all_explicit_err' B outputs spent rands o ho hne

/-! ### non-vacuity of `blind_verifies`: a concrete instance where every hypothesis holds
  (in the same instance `Inst.rewind_law` is the hypothesis `hrew` of `unblind_blind`) -/
section instance_
open EV.Blind.Inst

/-- p2wpkh-shaped script -/
def spk : Bytes := [0x00, 0x14] ++ List.replicate 20 7

def utxo : TxOut Bool Pt RPz SPz := ⟨.explicit true, .explicit 10, .null, spk, none, none⟩
def out1 : TxOut Bool Pt RPz SPz := ⟨.explicit true, .explicit 9, .conf ((5 : ℤ) • cv.G), spk, none, none⟩
def fee : TxOut Bool Pt RPz SPz := ⟨.explicit true, .explicit 1, .null, [], none, none⟩
def input : TxIn Bool Pt := ⟨.null, .null, false, false⟩
/-- the opening of `utxo` -/
def spent : List (Secrets Bool ℤ) := [⟨true, 10, 0, 0⟩]

example : ∃ entries, blind Bz [fee, out1] spent (fun _ => ⟨3, 4, 6⟩) = .ok entries ∧
    verify Vz [input] (entries.map Entry.out) [utxo] = .ok := by
  apply blind_verifies cv id Bz Vz algB algV spent range_complete surj_complete range_total (surj_total spent)
  · rfl
  · show Acc.ok [(cv.tag true, (10 : ℤ) • cv.tag true)] =
      Acc.ok [(cv.tag true + (0 : ℤ) • cv.G, (10 : ℤ) • (cv.tag true + (0 : ℤ) • cv.G) + (0 : ℤ) • cv.G)]
    rw [zero_smul, add_zero, add_zero]
  · intro a
    cases a <;> rfl
  · intro o ho
    rcases List.mem_pair.1 ho with rfl | rfl <;> rfl
  · exact ⟨out1, List.mem_cons_of_mem _ List.mem_cons_self, by decide⟩
  · intro o ho hm
    rcases List.mem_pair.1 ho with rfl | rfl
    · exact absurd hm (by decide)
    · decide
  · intro o ho hm v hv
    rcases List.mem_pair.1 ho with rfl | rfl
    · exact absurd hm (by decide)
    · obtain rfl : 9 = v := CValue.explicit.inj hv
      omega
  · intro o ho _ hv
    rcases List.mem_pair.1 ho with rfl | rfl <;> cases hv
end instance_

end EV.Props.C04
