/-
  C08 — PSET and transaction views agree; unique id and lock time follow BIP370.

  Model: EV.Model.Pset (`from_tx`, `extract_tx`, `unique_id`, `locktime` as coded).  Hashes are a
  parameter (`H : Hashes`); "the id commits to X" is stated as `equal ids → equal X ∨ Collision`.

  Two subjects.  First the PSET views: round trip, extraction, unique id.  Then lock times: lock times and
  sequence numbers as types, without PSETs (model EV.Model.LockTime of src/locktime.rs `LockTime`/`Height`/`Time`
  and src/transaction.rs `Sequence`), the BIP370 selection of a PSET's lock time, and the bridge from that
  selection to `LockTime::is_satisfied_by`.
-/
import EV.Proofs.PsetRoundTrip
import EV.Proofs.PsetExtract
import EV.Proofs.PsetId
import EV.Proofs.PsetLocktime
import EV.Proofs.PsetLockKind
import EV.Proofs.LockTime
import EV.Proofs.Text
namespace EV.Props.C08
open EV EV.Codec EV.Proofs.CodecTx EV.Proofs.PsetRoundTrip EV.Proofs.PsetExtract EV.Proofs.PsetId
  EV.Proofs.PsetLocktime EV.Proofs.PsetLockKind
open EV.Lock EV.Proofs.LockTime

variable (P : Prims) (H : Hashes)

/-! ### transaction → PSET → transaction -/

/-- **Converting a well-formed transaction to a PSET and extracting it again returns the identical
    transaction.**  Well-formed = canonical (`Tx.wf`, the domain of the codec laws of C01), pegin
    witnesses only on pegin inputs, issuance range proofs only on issuances, non-null output asset
    and value, and the nonce of every output is null or a confidential nonce on an output that is
    at least partially blinded (the only placements `from_txout`/`extract_tx` carry: recorded
    finding class F12bc).  `Tx.wf` (through
    `TxIn.wfBody`) also excludes the in-memory input with index 2^30-1 that is both pegin and
    issuance: its flags folded into the index give 0xffffffff, the flag-less coinbase index
    (recorded finding class IDX-3FFFFFFF; `extract_from_tx_iff` shows the exclusion is necessary). -/
theorem extract_from_tx (t : Tx) (hw : t.wf P)
    (hpeg : ∀ i ∈ t.input, i.isPegin = false → i.witness.peginWitness = [])
    (hiss : ∀ i ∈ t.input, i.hasIssuance = false →
      i.witness.amountRangeproof = none ∧ i.witness.inflationKeysRangeproof = none)
    (hout : ∀ o ∈ t.output, o.asset ≠ .null ∧ o.value ≠ .null ∧
      (o.nonce = .null ∨ ∃ pk, o.nonce = .conf pk ∧ PsetOutput.txOutPartiallyBlinded o = true)) :
    (Pset.fromTx t).extractTx = .ok t := by
  -- canonicity supplies the index, null-issuance and compressed-key clauses of `Rt`
  obtain ⟨_, _, _, _, hwi, hwo⟩ := hw
  refine (extract_fromTx_iff t).2 ⟨fun i hi => ?_, fun o ho => ?_⟩
  · obtain ⟨⟨_, hidx, _, _, hissw⟩, _⟩ := hwi i hi
    refine ⟨?_, hpeg i hi, ?_⟩
    · rcases hidx with h1 | ⟨h1, h2, _⟩
      · exact Or.inr h1
      · exact Or.inl ⟨h1, h2⟩
    · intro hq
      rw [hq] at hissw
      exact ⟨hissw, hiss i hi hq⟩
  · obtain ⟨ha, hv, hn⟩ := hout o ho
    refine ⟨ha, hv, ?_⟩
    rcases hn with hn | ⟨pk, hn, hb⟩
    · exact Or.inl hn
    · right
      refine ⟨pk, hn, ?_, hb⟩
      have hnw : o.nonce.wf P := (hwo o ho).1.2.2.1
      rw [hn] at hnw
      exact compressPk_of_length pk hnw.1

/-- the hypothesis is exact: for every in-memory transaction the round trip succeeds **iff** `Rt t`
    (the hypothesis `IndexInRange`, `u32` indices, is not used by the proof; per input: coinbase index
    without pegin flag, or index below 2^30 and not the flag/coinbase clash; pegin witness only on pegins; without issuance the default issuance
    and no issuance proofs; per output: asset, value not null; nonce null, or confidential,
    compressed, on a partially blinded output) -/
theorem extract_from_tx_iff (t : Tx) (h : IndexInRange t) : (Pset.fromTx t).extractTx = .ok t ↔ Rt t := by
  have _ := h  -- `PsetRoundTrip.index_iff` holds for every index, in range or not
  exact extract_fromTx_iff t

/-- conversion never panics -/
theorem extract_from_tx_no_panic (t : Tx) (s : String) : (Pset.fromTx t).extractTx ≠ .panic s :=
  extractTx_no_panic _ s

/-- a transaction with one explicit-value output carrying the given nonce -/
def nonceTx (n : Nonce) : Tx :=
  ⟨2, 0, [], [⟨.explicit (List.replicate 32 1), .explicit 5, n, [0x51], TxOutWitness.empty⟩]⟩

/-- **negative (finding F12bc)**: an explicit (non-null) nonce is lost -/
theorem extract_from_tx_explicit_nonce_lost :
    (Pset.fromTx (nonceTx (.explicit (List.replicate 32 7)))).extractTx = .ok (nonceTx .null) ∧
    nonceTx (.explicit (List.replicate 32 7)) ≠ nonceTx .null := by decide +kernel

/-- **negative (finding F12bc)**: a confidential nonce on an output that is not blinded goes to
    `blinding_key`, which `extract_tx` does not read -/
theorem extract_from_tx_unblinded_conf_nonce_lost :
    (Pset.fromTx (nonceTx (.conf (2 :: List.replicate 32 7)))).extractTx = .ok (nonceTx .null) ∧
    ((Pset.fromTx (nonceTx (.conf (2 :: List.replicate 32 7)))).outputs.map (·.blindingKey)) = [some (2 :: List.replicate 32 7)] := by
  decide +kernel

/-- `Output::to_txout` on the same PSET output returns the confidential nonce that `extract_tx` drops -/
theorem to_txout_keeps_unblinded_conf_nonce :
    ((Pset.fromTx (nonceTx (.conf (2 :: List.replicate 32 7)))).outputs.map PsetOutput.toTxOut) =
      (nonceTx (.conf (2 :: List.replicate 32 7))).output := by decide +kernel

/-! ### extraction is a function of the listed fields, and reflects them -/

/-- **deterministic, and determined by the listed fields only**: PSETs that agree on the fields
    of `Pset.TxEq` (global: tx version, fallback lock time, counts; input: previous txid/index,
    sequence, final script sig/witness, both required lock times, the six issuance fields, the two
    issuance range proofs, pegin witness; output: amount/asset in both forms, script, ecdh key, range
    and surjection proof) extract the same transaction or fail with the same error -/
theorem extract_deterministic {a b : Pset} (h : Pset.TxEq a b) : a.extractTx = b.extractTx := by
  -- each stage of the bind chain reads only fields on which the two agree
  have hl : a.lockReqs = b.lockReqs :=
    ListRel.map_eq (fun x y hxy => by rw [hxy.requiredTimeLocktime, hxy.requiredHeightLocktime]) h.inputs
  have hins := ListRel.map_eq (f := PsetInput.toTxIn) (fun _ _ => toTxIn_congr) h.inputs
  have houts := ListRel.map_eq (f := PsetOutput.extract) (fun _ _ => extract_congr) h.outputs
  simp only [extractTx_eq, extractOutputs_eq, Pset.sanityCheck, Pset.nInputs, Pset.nOutputs, Pset.locktime,
    h.global.txVersion, h.global.fallbackLocktime, h.global.inputCount, h.global.outputCount,
    h.inputs.length_eq, h.outputs.length_eq, hl, hins, houts]
  rfl

/-- **extraction reflects exactly the fields**: it succeeds iff the counts match, a lock time
    exists and every output has an asset and a value, and then version, lock time, every input and
    every output are the stated functions of the PSET fields -/
theorem extract_reflects_fields (p : Pset) (t : Tx) :
    p.extractTx = .ok t ↔
      (p.global.inputCount = p.inputs.length ∧ p.global.outputCount = p.outputs.length ∧
       t.version = p.global.txVersion ∧ p.locktime = .ok t.lockTime ∧
       t.input = p.inputs.map PsetInput.toTxIn ∧ p.outputs.map PsetOutput.extract = t.output.map Res.ok) :=
  extractTx_ok_iff p t

/-- the fields of an extracted input (flag masking, coinbase exemption, defaults) -/
theorem extract_input_fields (x : PsetInput) :
    x.toTxIn.previousOutput.txid = x.previousTxid ∧
    x.toTxIn.previousOutput.vout =
      (if x.previousOutputIndex = 0xffffffff then x.previousOutputIndex else x.previousOutputIndex % 2^30) ∧
    x.toTxIn.isPegin = (x.previousOutputIndex != 0xffffffff && x.previousOutputIndex.testBit 30) ∧
    x.toTxIn.scriptSig = x.finalScriptSig.getD [] ∧
    x.toTxIn.sequence = x.sequence.getD 0xffffffff ∧
    x.toTxIn.assetIssuance.nonce = x.issuanceBlindingNonce.getD zero32 ∧
    x.toTxIn.assetIssuance.entropy = x.issuanceAssetEntropy.getD zero32 ∧
    x.toTxIn.assetIssuance.amount = PsetInput.pairValue x.issuanceValueAmount x.issuanceValueComm ∧
    x.toTxIn.assetIssuance.inflationKeys = PsetInput.pairValue x.issuanceInflationKeys x.issuanceInflationKeysComm ∧
    x.toTxIn.witness.amountRangeproof = x.issuanceValueRangeproof ∧
    x.toTxIn.witness.inflationKeysRangeproof = x.issuanceKeysRangeproof ∧
    x.toTxIn.witness.scriptWitness = x.finalScriptWitness.getD [] ∧
    x.toTxIn.witness.peginWitness = x.peginWitness.getD [] :=
  ⟨rfl, rfl, rfl, rfl, rfl, rfl, rfl, rfl, rfl, rfl, rfl, rfl, rfl⟩

/-- the fields of an extracted output (commitment wins over explicit; nonce from `ecdh_pubkey` only) -/
theorem extract_output_fields (o : PsetOutput) (t : TxOut) (h : o.extract = .ok t) :
    t.asset = PsetOutput.pairAsset o.asset o.assetComm ∧ t.asset ≠ .null ∧
    t.value = PsetInput.pairValue o.amount o.amountComm ∧ t.value ≠ .null ∧
    t.nonce = PsetOutput.nonceOf o.ecdhPubkey ∧
    t.scriptPubkey = o.scriptPubkey ∧
    t.witness.surjectionProof = o.assetSurjectionProof ∧ t.witness.rangeproof = o.valueRangeproof := by
  obtain ⟨ha, hv, rfl⟩ := (extract_ok_iff o t).mp h
  exact ⟨rfl, ha, rfl, hv, rfl, rfl, rfl, rfl⟩

/-- the errors, in the order the code reports them -/
theorem extract_errors (p : Pset) :
    (p.global.inputCount ≠ p.inputs.length → p.extractTx = .err "InputCountMismatch") ∧
    (p.global.inputCount = p.inputs.length → p.global.outputCount ≠ p.outputs.length →
      p.extractTx = .err "OutputCountMismatch") ∧
    (p.global.inputCount = p.inputs.length → p.global.outputCount = p.outputs.length →
      ∀ e, p.locktime = .err e → p.extractTx = .err e) := by
  rw [extractTx_eq]
  unfold Pset.sanityCheck Pset.nInputs Pset.nOutputs
  refine ⟨fun h => ?_, fun h1 h2 => ?_, fun h1 h2 e he => ?_⟩
  · rw [if_pos h]
    rfl
  · rw [if_neg (not_not_intro h1), if_pos h2]
    rfl
  · rw [if_neg (not_not_intro h1), if_neg (not_not_intro h2), he]
    rfl

/-- an output fails exactly when it has neither form of the asset (`MissingOutputValue`, checked
    first) or neither form of the value (`MissingOutputAsset`); the two names are crossed in the source
    (src/pset/mod.rs, `extract_tx`), and the statement follows the source -/
theorem extract_output_errors (o : PsetOutput) :
    (o.extract = .err "MissingOutputValue" ↔ (o.assetComm = none ∧ o.asset = none)) ∧
    (o.extract = .err "MissingOutputAsset" ↔ (¬ (o.assetComm = none ∧ o.asset = none) ∧ o.amountComm = none ∧ o.amount = none)) := by
  -- the checks are made on the built output, whose asset (value) is null when neither form is there
  rw [extract_eq, and_comm (a := o.amountComm = none), ← pairAsset_eq_null_iff, ← pairValue_eq_null_iff]
  exact checkOut_eq_err _

/-- `extract_tx` never panics, on any PSET -/
theorem extract_no_panic (p : Pset) (s : String) : p.extractTx ≠ .panic s := extractTx_no_panic p s

/-! ### unique id -/

/-- the unique id is the txid of the extracted transaction with all sequences zeroed and all
    script sigs emptied -/
theorem unique_id_def (p : Pset) :
    p.uniqueId H = match p.extractTx with
      | .ok t => .ok (Tx.txid H { t with input := t.input.map fun i => { i with sequence := 0, scriptSig := [] } })
      | .err e => .err e
      | .panic s => .panic s := rfl

/-- the unique id is the txid of the identifying transaction `idTx` (witnesses stripped as well) -/
theorem unique_id_is_txid_of_idTx (p : Pset) :
    p.uniqueId H = match idTx p with
      | .ok t => .ok (t.txid H)
      | .err e => .err e
      | .panic s => .panic s := by
  rw [uniqueId_eq]
  cases idTx p <;> rfl

/-- **the unique id depends only on transaction-identifying data**: PSETs that agree on
    global tx version / fallback lock time / counts, per input on previous txid, index, the two
    required lock times and the six issuance fields (amount, commitment, inflation keys, their
    commitment, blinding nonce, entropy), and per output on amount, amount commitment, asset, asset
    commitment, script and ecdh key, have the same unique id -/
theorem unique_id_ignores {a b : Pset} (h : Pset.IdEq a b) : a.uniqueId H = b.uniqueId H :=
  uniqueId_congr H h

/-- ALL other input fields, enumerated: setting or changing any of them keeps the identifying
    part; among them **sequence**, final script sig and witness, the two issuance range proofs and the
    six pegin fields incl. pegin witness -/
theorem unique_id_ignores_input_fields (x : PsetInput) :
    (∀ v, PsetInput.IdEq { x with nonWitnessUtxo := v } x) ∧
    (∀ v, PsetInput.IdEq { x with witnessUtxo := v } x) ∧
    (∀ v, PsetInput.IdEq { x with partialSigs := v } x) ∧
    (∀ v, PsetInput.IdEq { x with sighashType := v } x) ∧
    (∀ v, PsetInput.IdEq { x with redeemScript := v } x) ∧
    (∀ v, PsetInput.IdEq { x with witnessScript := v } x) ∧
    (∀ v, PsetInput.IdEq { x with bip32Derivation := v } x) ∧
    (∀ v, PsetInput.IdEq { x with finalScriptSig := v } x) ∧
    (∀ v, PsetInput.IdEq { x with finalScriptWitness := v } x) ∧
    (∀ v, PsetInput.IdEq { x with ripemd160Preimages := v } x) ∧
    (∀ v, PsetInput.IdEq { x with sha256Preimages := v } x) ∧
    (∀ v, PsetInput.IdEq { x with hash160Preimages := v } x) ∧
    (∀ v, PsetInput.IdEq { x with hash256Preimages := v } x) ∧
    (∀ v, PsetInput.IdEq { x with sequence := v } x) ∧
    (∀ v, PsetInput.IdEq { x with tapKeySig := v } x) ∧
    (∀ v, PsetInput.IdEq { x with tapScriptSigs := v } x) ∧
    (∀ v, PsetInput.IdEq { x with tapScripts := v } x) ∧
    (∀ v, PsetInput.IdEq { x with tapKeyOrigins := v } x) ∧
    (∀ v, PsetInput.IdEq { x with tapInternalKey := v } x) ∧
    (∀ v, PsetInput.IdEq { x with tapMerkleRoot := v } x) ∧
    (∀ v, PsetInput.IdEq { x with issuanceValueRangeproof := v } x) ∧
    (∀ v, PsetInput.IdEq { x with issuanceKeysRangeproof := v } x) ∧
    (∀ v, PsetInput.IdEq { x with peginTx := v } x) ∧
    (∀ v, PsetInput.IdEq { x with peginTxoutProof := v } x) ∧
    (∀ v, PsetInput.IdEq { x with peginGenesisHash := v } x) ∧
    (∀ v, PsetInput.IdEq { x with peginClaimScript := v } x) ∧
    (∀ v, PsetInput.IdEq { x with peginValue := v } x) ∧
    (∀ v, PsetInput.IdEq { x with peginWitness := v } x) ∧
    (∀ v, PsetInput.IdEq { x with inUtxoRangeproof := v } x) ∧
    (∀ v, PsetInput.IdEq { x with inIssuanceBlindValueProof := v } x) ∧
    (∀ v, PsetInput.IdEq { x with inIssuanceBlindInflationKeysProof := v } x) ∧
    (∀ v, PsetInput.IdEq { x with amount := v } x) ∧
    (∀ v, PsetInput.IdEq { x with blindValueProof := v } x) ∧
    (∀ v, PsetInput.IdEq { x with asset := v } x) ∧
    (∀ v, PsetInput.IdEq { x with blindAssetProof := v } x) ∧
    (∀ v, PsetInput.IdEq { x with blindedIssuance := v } x) ∧
    (∀ v, PsetInput.IdEq { x with proprietary := v } x) ∧
    (∀ v, PsetInput.IdEq { x with unknown := v } x) := by
  and_intros <;> exact fun _ => ⟨rfl, rfl, rfl, rfl, rfl, rfl, rfl, rfl, rfl, rfl⟩

/-- ALL other output fields, enumerated -/
theorem unique_id_ignores_output_fields (x : PsetOutput) :
    (∀ v, PsetOutput.IdEq { x with redeemScript := v } x) ∧
    (∀ v, PsetOutput.IdEq { x with witnessScript := v } x) ∧
    (∀ v, PsetOutput.IdEq { x with bip32Derivation := v } x) ∧
    (∀ v, PsetOutput.IdEq { x with tapInternalKey := v } x) ∧
    (∀ v, PsetOutput.IdEq { x with tapTree := v } x) ∧
    (∀ v, PsetOutput.IdEq { x with tapKeyOrigins := v } x) ∧
    (∀ v, PsetOutput.IdEq { x with valueRangeproof := v } x) ∧
    (∀ v, PsetOutput.IdEq { x with assetSurjectionProof := v } x) ∧
    (∀ v, PsetOutput.IdEq { x with blindingKey := v } x) ∧
    (∀ v, PsetOutput.IdEq { x with blinderIndex := v } x) ∧
    (∀ v, PsetOutput.IdEq { x with blindValueProof := v } x) ∧
    (∀ v, PsetOutput.IdEq { x with blindAssetProof := v } x) ∧
    (∀ v, PsetOutput.IdEq { x with proprietary := v } x) ∧
    (∀ v, PsetOutput.IdEq { x with unknown := v } x) := by
  and_intros <;> exact fun _ => ⟨rfl, rfl, rfl, rfl, rfl, rfl⟩

/-- ALL other global fields, enumerated -/
theorem unique_id_ignores_global_fields (x : PsetGlobal) :
    (∀ v, PsetGlobal.IdEq { x with txModifiable := v } x) ∧
    (∀ v, PsetGlobal.IdEq { x with version := v } x) ∧
    (∀ v, PsetGlobal.IdEq { x with xpub := v } x) ∧
    (∀ v, PsetGlobal.IdEq { x with scalars := v } x) ∧
    (∀ v, PsetGlobal.IdEq { x with elementsTxModifiableFlag := v } x) ∧
    (∀ v, PsetGlobal.IdEq { x with proprietary := v } x) ∧
    (∀ v, PsetGlobal.IdEq { x with unknown := v } x) := by
  and_intros <;> exact fun _ => ⟨rfl, rfl, rfl, rfl⟩

/-- one updater/signer/finalizer step at input `j` -/
theorem unique_id_ignores_input_update (p : Pset) (j : Nat) (x x' : PsetInput) (hx : p.inputs[j]? = some x)
    (h : PsetInput.IdEq x' x) : Pset.uniqueId H { p with inputs := p.inputs.set j x' } = p.uniqueId H :=
  uniqueId_congr H ⟨PsetGlobal.IdEq.refl _, ListRel.set PsetInput.IdEq.refl _ j x x' hx h,
    ListRel.refl PsetOutput.IdEq.refl _⟩

/-- the same at output `j` -/
theorem unique_id_ignores_output_update (p : Pset) (j : Nat) (x x' : PsetOutput) (hx : p.outputs[j]? = some x)
    (h : PsetOutput.IdEq x' x) : Pset.uniqueId H { p with outputs := p.outputs.set j x' } = p.uniqueId H :=
  uniqueId_congr H ⟨PsetGlobal.IdEq.refl _, ListRel.refl PsetInput.IdEq.refl _,
    ListRel.set PsetOutput.IdEq.refl _ j x x' hx h⟩

/-- the same on the global map -/
theorem unique_id_ignores_global_update (p : Pset) (g : PsetGlobal) (h : PsetGlobal.IdEq g p.global) :
    Pset.uniqueId H { p with global := g } = p.uniqueId H :=
  uniqueId_congr H ⟨h, ListRel.refl PsetInput.IdEq.refl _, ListRel.refl PsetOutput.IdEq.refl _⟩

/-- any sequence of such steps (a history): the relation is an equivalence, so it composes -/
theorem unique_id_ignores_history {a b c : Pset} (h1 : Pset.IdEq a b) (h2 : Pset.IdEq b c) :
    a.uniqueId H = c.uniqueId H := by
  rw [uniqueId_congr H h1, uniqueId_congr H h2]

/-- the identifying transaction, field by field: version, selected lock time, per input plain
    outpoint / pegin flag / issuance, per output asset / value / nonce / script -/
theorem unique_id_identifying_data (p : Pset) (t : Tx) (h : idTx p = .ok t) :
    t.version = p.global.txVersion ∧ p.locktime = .ok t.lockTime ∧
    t.input = p.inputs.map (fun x =>
      { previousOutput := ⟨x.previousTxid, x.plainIndex⟩, isPegin := x.isPegin, scriptSig := [], sequence := 0,
        assetIssuance := x.assetIssuance, witness := TxInWitness.empty }) ∧
    idOuts p.outputs = .ok t.output := by
  obtain ⟨_, lt, outs, hl, ho, rfl⟩ := idTx_ok p t h
  exact ⟨rfl, hl, rfl, ho⟩

/-- **the id commits to the identifying data**: two PSETs with the same unique id have the same
    identifying transaction (`canon` only normalises the issuance record of inputs without
    issuance, which the transaction format does not serialize), or the hash collides.  Hypothesis:
    the identifying transactions are well-formed transactions in the sense of C01 (field widths as
    the Rust types guarantee, counts within the decoder's allocation bound, no flag/coinbase index
    clash). -/
theorem unique_id_commits (hs : SizesPos P) (a b : Pset) (ta tb : Tx)
    (ha : idTx a = .ok ta) (hb : idTx b = .ok tb) (wa : (canon ta).wf P) (wb : (canon tb).wf P)
    (h : a.uniqueId H = b.uniqueId H) :
    stripWit (canon ta) = stripWit (canon tb) ∨ Collision H.sha256d :=
  uniqueId_commits P hs H a b ta tb ha hb wa wb h

/-- unique id never panics -/
theorem unique_id_no_panic (p : Pset) (s : String) : p.uniqueId H ≠ .panic s := uniqueId_no_panic H p s

/-! ### non-vacuity -/

/-- a well-formed transaction with a pegin+issuance input and a blinded output with nonce survives -/
example :
    let t : Tx := ⟨2, 77,
      [⟨⟨List.replicate 32 1, 5⟩, true, [0x51], 0xfffffffe, ⟨List.replicate 32 0, List.replicate 32 9, .explicit 10, .null⟩,
        ⟨none, none, [[1]], [[2, 3]]⟩⟩,
       ⟨OutPoint.null, false, [], 0xffffffff, AssetIssuance.null, TxInWitness.empty⟩],
      [⟨.explicit (List.replicate 32 1), .conf (8 :: List.replicate 32 2), .conf (2 :: List.replicate 32 7), [0x51], TxOutWitness.empty⟩]⟩
    (Pset.fromTx t).extractTx = .ok t := by decide +kernel

/-- the sequence and the final script sig do not enter the id, the previous txid does (different
    identifying transactions) -/
example :
    let p := Pset.fromTx ⟨2, 0, [⟨⟨List.replicate 32 1, 0⟩, false, [1], 5, AssetIssuance.null, TxInWitness.empty⟩], []⟩
    let q := Pset.fromTx ⟨2, 0, [⟨⟨List.replicate 32 1, 0⟩, false, [], 0xffffffff, AssetIssuance.null, TxInWitness.empty⟩], []⟩
    let r := Pset.fromTx ⟨2, 0, [⟨⟨List.replicate 32 2, 0⟩, false, [1], 5, AssetIssuance.null, TxInWitness.empty⟩], []⟩
    idTx p = idTx q ∧ idTx p ≠ idTx r := by decide +kernel

/-! ### lock times and sequence numbers (EV.Model.LockTime)

`LockTime`, `Height`, `Time` of src/locktime.rs and `Sequence` of src/transaction.rs, over `Nat` with the
Rust widths as hypotheses where they matter.  The model reads every literal from `EV.Gen` (regenerated from
/repo); the statements below are written with the consensus numbers (BIP-65 threshold 500000000, BIP-68 bits
31 and 22, 16-bit value, 512-second granularity, BIP-125 0xfffffffe), so a changed literal in the source
breaks a proof here. -/

/-- the regenerated literals are the consensus ones -/
theorem lt_constants :
    EV.Gen.lockTimeThreshold = 500000000 ∧ LockTime.zero = .blocks ⟨0⟩ ∧ Height.zero = ⟨0⟩ ∧
    Sequence.max = ⟨0xffffffff⟩ ∧ Sequence.zero = ⟨0⟩ ∧ Sequence.minNoRbf = ⟨0xfffffffe⟩ ∧
    Sequence.enableLocktimeNoRbf = ⟨0xfffffffe⟩ ∧ Sequence.enableRbfNoLocktime = ⟨0xfffffffd⟩ ∧
    Sequence.default = Sequence.max ∧
    Sequence.lockTimeDisableFlagMask = 2^31 ∧ Sequence.lockTypeMask = 2^22 ∧
    EV.Gen.sequenceFloorGranularity = 512 ∧ EV.Gen.sequenceCeilGranularity = 512 := by decide

/-- **`LockTime::from_consensus` is total and splits exactly at the threshold**: below 500000000 a block
    height, at or above a block time, the value kept; in particular neither `expect("n is valid")` fires -/
theorem lt_from_consensus_total (n : Nat) :
    LockTime.fromConsensus n = .ok (if n < 500000000 then .blocks ⟨n⟩ else .seconds ⟨n⟩) := by
  rw [fromConsensus_eq, threshold_eq]

/-- `to_consensus_u32` undoes `from_consensus` ("`from_consensus` roundtrips as expected with `to_consensus_u32`") -/
theorem lt_consensus_roundtrip (n : Nat) (l : LockTime) (h : LockTime.fromConsensus n = .ok l) :
    l.toConsensusU32 = n := by
  rw [fromConsensus_ok n l h]
  split <;> rfl
example : LockTime.fromConsensus 500000000 = .ok (.seconds ⟨500000000⟩) := by decide

/-- **`from_consensus` / `to_consensus_u32` are inverse bijections between `u32` and the values of
    `LockTime`** (`Valid`: a `Blocks` payload below the threshold, a `Seconds` payload a `u32` at or above it) -/
theorem lt_consensus_bijection :
    (∀ n, n < 2^32 → ∃ l, LockTime.fromConsensus n = .ok l ∧ l.Valid ∧ l.toConsensusU32 = n) ∧
    (∀ l : LockTime, l.Valid → l.toConsensusU32 < 2^32 ∧ LockTime.fromConsensus l.toConsensusU32 = .ok l) := by
  constructor
  · intro n hn
    refine ⟨_, fromConsensus_eq n, fromConsensus_valid n hn _ (fromConsensus_eq n), ?_⟩
    exact lt_consensus_roundtrip n _ (fromConsensus_eq n)
  · intro l hv
    exact ⟨valid_lt_u32 l hv, fromConsensus_toConsensus l hv⟩
example : (LockTime.blocks ⟨499999999⟩).Valid ∧ (LockTime.seconds ⟨0xffffffff⟩).Valid := by decide

/-- the unit predicates are the threshold test -/
theorem lt_unit_split (n : Nat) (l : LockTime) (h : LockTime.fromConsensus n = .ok l) :
    (l.isBlockHeight = true ↔ n < 500000000) ∧ (l.isBlockTime = true ↔ 500000000 ≤ n) := by
  rw [fromConsensus_ok n l h, threshold_eq]
  by_cases hn : n < 500000000
  · simp [hn, LockTime.isBlockHeight, LockTime.isBlockTime]
  · simp [hn, LockTime.isBlockHeight, LockTime.isBlockTime]
    omega

/-- **`from_height` succeeds below the threshold (then it is that height) and fails from it on** (an error,
    never a panic) -/
theorem lt_from_height_iff (n : Nat) :
    (n < 500000000 → LockTime.fromHeight n = .ok (.blocks ⟨n⟩)) ∧
    (500000000 ≤ n → ∃ e, LockTime.fromHeight n = .err e) := by
  rw [fromHeight_eq, threshold_eq]
  constructor
  · intro h
    rw [if_pos h]
  · intro h
    rw [if_neg (by omega)]
    exact ⟨_, rfl⟩

/-- **`from_time` succeeds at or above the threshold and fails below it** -/
theorem lt_from_time_iff (n : Nat) :
    (500000000 ≤ n → LockTime.fromTime n = .ok (.seconds ⟨n⟩)) ∧
    (n < 500000000 → ∃ e, LockTime.fromTime n = .err e) := by
  rw [fromTime_eq, threshold_eq]
  constructor
  · intro h
    rw [if_pos h]
  · intro h
    rw [if_neg (by omega)]
    exact ⟨_, rfl⟩

/-- `Height::from_consensus` / `Time::from_consensus` are the same tests and produce values of the types -/
theorem lt_height_time_constructors (n : Nat) :
    (Height.fromConsensus n = if n < 500000000 then .ok ⟨n⟩ else .err "Conversion(invalid_height)") ∧
    (Time.fromConsensus n = if 500000000 ≤ n then .ok ⟨n⟩ else .err "Conversion(invalid_time)") ∧
    (∀ h, Height.fromConsensus n = .ok h → h.Valid) ∧
    (n < 2^32 → ∀ t, Time.fromConsensus n = .ok t → t.Valid) := by
  refine ⟨?_, ?_, fun h hh => ?_, fun h32 t ht => ?_⟩
  · rw [heightFromConsensus_eq, threshold_eq]
  · rw [timeFromConsensus_eq, threshold_eq]
  · obtain ⟨hlt, rfl⟩ := check_eq_ok.mp (heightFromConsensus_eq n ▸ hh)
    exact hlt
  · obtain ⟨hge, rfl⟩ := check_eq_ok.mp (timeFromConsensus_eq n ▸ ht)
    exact ⟨hge, h32⟩

/-- **`is_satisfied_by` specification**: a lock time is satisfied by (height, time) iff its value is at most
    the component of its own unit -/
theorem lt_is_satisfied_by_spec (n : Nat) (l : LockTime) (h : LockTime.fromConsensus n = .ok l)
    (hgt : Height) (tm : Time) :
    l.isSatisfiedBy hgt tm = true ↔ (if n < 500000000 then n ≤ hgt.n else n ≤ tm.n) := by
  rw [fromConsensus_ok n l h, threshold_eq]
  by_cases hn : n < 500000000 <;> simp [hn, LockTime.isSatisfiedBy, Height.le, Time.le]
example : (LockTime.blocks ⟨5⟩).isSatisfiedBy ⟨5⟩ ⟨500000000⟩ = true ∧
    (LockTime.blocks ⟨5⟩).isSatisfiedBy ⟨4⟩ ⟨0xffffffff⟩ = false ∧
    (LockTime.seconds ⟨500000001⟩).isSatisfiedBy ⟨499999999⟩ ⟨500000000⟩ = false := by decide

/-- **monotone in height and time**: what satisfies a lock time keeps satisfying it later -/
theorem lt_is_satisfied_by_monotone (l : LockTime) (hgt hgt' : Height) (tm tm' : Time)
    (h : l.isSatisfiedBy hgt tm = true) (hh : hgt.n ≤ hgt'.n) (ht : tm.n ≤ tm'.n) :
    l.isSatisfiedBy hgt' tm' = true := by
  cases l
  · exact decide_eq_true (Nat.le_trans (of_decide_eq_true h) hh)
  · exact decide_eq_true (Nat.le_trans (of_decide_eq_true h) ht)
example : (LockTime.seconds ⟨500000001⟩).isSatisfiedBy ⟨0⟩ ⟨500000001⟩ = true := by decide

/-- **`ZERO` is always satisfied** ("able to be included immediately in any block") -/
theorem lt_zero_always_satisfied (hgt : Height) (tm : Time) : LockTime.zero.isSatisfiedBy hgt tm = true := by
  rw [zero_eq]
  simp [LockTime.isSatisfiedBy, Height.le]

/-- `ZERO` is the lock time of consensus value 0 -/
theorem lt_zero_is_consensus_zero : LockTime.fromConsensus 0 = .ok LockTime.zero ∧ LockTime.zero.toConsensusU32 = 0 := by
  decide

/-- **comparison**: `partial_cmp` is the comparison of the values within a unit and `None` across units;
    `is_same_unit` is an equivalence with the two units as classes -/
theorem lt_partial_cmp_spec (a b : LockTime) :
    a.partialCmp b = (if a.isSameUnit b then some (cmpNat a.toConsensusU32 b.toConsensusU32) else none) ∧
    (a.isSameUnit b = (a.isBlockHeight == b.isBlockHeight)) ∧
    (a.le b = true ↔ a.isSameUnit b = true ∧ a.toConsensusU32 ≤ b.toConsensusU32) := by
  refine ⟨?_, ?_, le_iff a b⟩ <;> cases a <;> cases b <;> rfl

/-- a lock time that is `<=` a satisfied one is satisfied (the documented use of `partial_cmp`: `n <= lock_time`) -/
theorem lt_is_satisfied_by_antitone (q l : LockTime) (hgt : Height) (tm : Time) (hle : q.le l = true)
    (hs : l.isSatisfiedBy hgt tm = true) : q.isSatisfiedBy hgt tm = true := by
  obtain ⟨hu, hv⟩ := (le_iff q l).mp hle
  cases q <;> cases l
  · exact decide_eq_true (Nat.le_trans hv (of_decide_eq_true hs))
  · cases hu
  · cases hu
  · exact decide_eq_true (Nat.le_trans hv (of_decide_eq_true hs))
example : (LockTime.blocks ⟨3⟩).le (.blocks ⟨7⟩) = true ∧ (LockTime.blocks ⟨7⟩).isSatisfiedBy ⟨7⟩ ⟨500000000⟩ = true := by
  decide

/-- for a transaction lock time `txl` of the same unit as `n`, "`n` is satisfied" is `n <= txl` -/
theorem lt_satisfied_is_le (l : LockTime) (hgt : Height) (tm : Time) :
    l.isSatisfiedBy hgt tm = l.le (match l with | .blocks _ => .blocks hgt | .seconds _ => .seconds tm) := by
  rw [Bool.eq_iff_iff, le_iff]
  cases l <;> exact ⟨fun h => ⟨rfl, of_decide_eq_true h⟩, fun h => decide_eq_true h.2⟩

/-- **text**: `FromStr` undoes `Display` on every value of each type (decimal through `parse::int::<u32>`,
    C20 `text_roundtrip_u32`) -/
theorem lt_text_roundtrip :
    (∀ l : LockTime, l.Valid → LockTime.fromStr (l.display false) = .ok l) ∧
    (∀ h : Height, h.Valid → Height.fromStr h.display = .ok h) ∧
    (∀ t : Time, t.Valid → Time.fromStr t.display = .ok t) ∧
    (∀ s : Sequence, s.Valid → Sequence.fromStr s.display = .ok s) := by
  refine ⟨fun l hv => ?_, fun h hv => ?_, fun t hv => ?_, fun s hv => ?_⟩
  · have hd : l.display false = Text.showNat l.toConsensusU32 := by cases l <;> rfl
    rw [hd]
    simp only [LockTime.fromStr, Text.parseU32_showNat _ (valid_lt_u32 l hv)]
    exact fromConsensus_toConsensus l hv
  · have h32 : h.n < 2^32 := valid_lt_u32 (.blocks h) hv
    have hv' : h.n < Gen.lockTimeThreshold := hv
    simp [Height.fromStr, Height.display, Text.parseU32_showNat _ h32, heightFromConsensus_eq, hv']
  · have hv' : Gen.lockTimeThreshold ≤ t.n := hv.1
    simp [Time.fromStr, Time.display, Text.parseU32_showNat _ hv.2, timeFromConsensus_eq, hv']
  · simp [Sequence.fromStr, Sequence.display, Text.parseU32_showNat _ hv]
example : (Sequence.mk 0xffffffff).Valid ∧ (Height.mk 0).Valid ∧ (Time.mk 500000000).Valid := by decide

/-- the alternate `Display` names the unit -/
example : String.ofList ((LockTime.blocks ⟨100⟩).display true) = "block-height 100" ∧
    String.ofList ((LockTime.seconds ⟨500000000⟩).display true) = "block-time 500000000 (seconds since epoch)" ∧
    String.ofList ((LockTime.blocks ⟨100⟩).display false) = "100" := by decide +kernel

/-! #### Sequence -/

/-- **`is_final` ↔ 0xffffffff; `enables_absolute_lock_time` ↔ not final; `is_rbf` ↔ below 0xfffffffe** -/
theorem seq_final_rbf (s : Sequence) :
    (s.isFinal = true ↔ s.n = 0xffffffff) ∧
    (s.enablesAbsoluteLockTime = true ↔ s.n ≠ 0xffffffff) ∧
    (s.enablesAbsoluteLockTime = !s.isFinal) ∧
    (s.isRbf = true ↔ s.n < 0xfffffffe) := by
  obtain ⟨n⟩ := s
  have h1 : (Sequence.mk n).isFinal = true ↔ n = 0xffffffff := by
    simp only [Sequence.isFinal, seqMax_eq, beq_iff_eq, Sequence.mk.injEq]
  refine ⟨h1, ?_, rfl, ?_⟩
  · simp only [Sequence.enablesAbsoluteLockTime, Bool.not_eq_true', ne_eq]
    rw [← Bool.not_eq_true, h1]
  · simp only [Sequence.isRbf, seqMinNoRbf_eq, decide_eq_true_eq]

/-- **`is_relative_lock_time` ↔ bit 31 clear; height-locked and time-locked partition the relative lock
    times by bit 22**; without a relative lock time neither holds -/
theorem seq_relative_partition (s : Sequence) :
    (s.isRelativeLockTime = true ↔ s.n.testBit 31 = false) ∧
    (s.isHeightLocked = true ↔ s.n.testBit 31 = false ∧ s.n.testBit 22 = false) ∧
    (s.isTimeLocked = true ↔ s.n.testBit 31 = false ∧ s.n.testBit 22 = true) ∧
    (s.isRelativeLockTime = true → s.isHeightLocked = !s.isTimeLocked) ∧
    (s.isRelativeLockTime = false → s.isHeightLocked = false ∧ s.isTimeLocked = false) := by
  rw [isRelativeLockTime_eq, isHeightLocked_eq, isTimeLocked_eq]
  cases s.n.testBit 31 <;> cases s.n.testBit 22 <;> decide

/-- a final sequence and the two no-relative-lock constants carry no relative lock time: bit 31 is set from
    0x80000000 up -/
theorem seq_relative_iff_below_2_31 (s : Sequence) (hs : s.Valid) :
    s.isRelativeLockTime = true ↔ s.n < 2^31 := by
  rw [isRelativeLockTime_eq, Bool.not_eq_true']
  refine ⟨fun h => Nat.lt_of_not_le fun c => ?_, Nat.testBit_lt_two_pow⟩
  cases (Nat.testBit_of_two_pow_le_and_two_pow_add_one_gt c hs).symm.trans h
example : (Sequence.mk 0x7fffffff).Valid := by decide

/-- **`from_height(h)` is a height-locked relative lock time with value `h`** -/
theorem seq_from_height_spec (h : Nat) (hh : h < 2^16) :
    (Sequence.fromHeight h).isRelativeLockTime = true ∧ (Sequence.fromHeight h).isHeightLocked = true ∧
    (Sequence.fromHeight h).isTimeLocked = false ∧ (Sequence.fromHeight h).n % 2^16 = h ∧
    (Sequence.fromHeight h).n = h := by
  obtain ⟨b31, b22⟩ := fromHeight_bits h hh
  rw [isRelativeLockTime_eq, isHeightLocked_eq, isTimeLocked_eq, b31, b22]
  exact ⟨rfl, rfl, rfl, Nat.mod_eq_of_lt hh, rfl⟩
example : (65535 : Nat) < 2^16 := by decide

/-- **`from_512_second_intervals(i)` is a time-locked relative lock time with value `i`** (bit 22 added) -/
theorem seq_from_512_spec (i : Nat) (hi : i < 2^16) :
    (Sequence.from512SecondIntervals i).isRelativeLockTime = true ∧
    (Sequence.from512SecondIntervals i).isTimeLocked = true ∧
    (Sequence.from512SecondIntervals i).isHeightLocked = false ∧
    (Sequence.from512SecondIntervals i).n % 2^16 = i ∧
    (Sequence.from512SecondIntervals i).n = i + 2^22 := by
  obtain ⟨b31, b22⟩ := from512_bits i hi
  rw [isRelativeLockTime_eq, isHeightLocked_eq, isTimeLocked_eq, b31, b22]
  exact ⟨rfl, rfl, rfl, from512_mod i hi, from512_n i hi⟩

/-- **`from_seconds_floor`**: succeeds below 65536·512 seconds and fails from there on; the result is the time-locked
    sequence of `⌊s/512⌋` intervals, so `value·512 ≤ s < (value+1)·512`; otherwise `IntegerOverflow` -/
theorem seq_from_seconds_floor_spec (s : Nat) :
    (s < 2^16 * 512 → ∃ q, Sequence.fromSecondsFloor s = .ok q ∧ q = Sequence.from512SecondIntervals (s / 512) ∧
        q.isTimeLocked = true ∧ (q.n % 2^16) * 512 ≤ s ∧ s < (q.n % 2^16 + 1) * 512) ∧
    (2^16 * 512 ≤ s → Sequence.fromSecondsFloor s = .err "IntegerOverflow") := by
  rw [fromSecondsFloor_eq]
  constructor
  · intro h
    have hi := (floor_lt_iff s).mpr h
    obtain ⟨_, ht, _, hm, _⟩ := seq_from_512_spec (s / 512) hi
    rw [if_pos hi]
    refine ⟨_, rfl, rfl, ht, ?_⟩
    rw [hm]
    exact floor_bracket s
  · intro h
    rw [if_neg (mt (floor_lt_iff s).mp (Nat.not_lt.mpr h))]

/-- **`from_seconds_ceil`**: succeeds up to 65535·512 seconds and fails beyond; the result is the time-locked
    sequence of `⌈s/512⌉` intervals, so `s ≤ value·512 < s + 512`; otherwise `IntegerOverflow` -/
theorem seq_from_seconds_ceil_spec (s : Nat) :
    (s ≤ (2^16 - 1) * 512 → ∃ q, Sequence.fromSecondsCeil s = .ok q ∧
        q = Sequence.from512SecondIntervals ((s + 511) / 512) ∧
        q.isTimeLocked = true ∧ s ≤ (q.n % 2^16) * 512 ∧ (q.n % 2^16) * 512 < s + 512) ∧
    ((2^16 - 1) * 512 < s → Sequence.fromSecondsCeil s = .err "IntegerOverflow") := by
  rw [fromSecondsCeil_eq]
  constructor
  · intro h
    have hi := (ceil_lt_iff s).mpr h
    obtain ⟨_, ht, _, hm, _⟩ := seq_from_512_spec ((s + 511) / 512) hi
    rw [if_pos hi]
    refine ⟨_, rfl, rfl, ht, ?_⟩
    rw [hm]
    exact ceil_bracket s
  · intro h
    rw [if_neg (mt (ceil_lt_iff s).mp (Nat.not_le.mpr h))]

/-- **floor and ceil bracket the argument**: when both succeed, `floor·512 ≤ s ≤ ceil·512`, they differ by at
    most one interval and coincide exactly on multiples of 512 -/
theorem seq_floor_ceil_bracket (s : Nat) (f c : Sequence)
    (hf : Sequence.fromSecondsFloor s = .ok f) (hc : Sequence.fromSecondsCeil s = .ok c) :
    (f.n % 2^16) * 512 ≤ s ∧ s ≤ (c.n % 2^16) * 512 ∧ f.n % 2^16 ≤ c.n % 2^16 ∧ c.n % 2^16 ≤ f.n % 2^16 + 1 ∧
    (f = c ↔ s % 512 = 0) := by
  obtain ⟨h1, rfl⟩ := check_eq_ok.mp (fromSecondsFloor_eq s ▸ hf)
  obtain ⟨h2, rfl⟩ := check_eq_ok.mp (fromSecondsCeil_eq s ▸ hc)
  have hm1 := from512_mod _ h1
  have hm2 := from512_mod _ h2
  obtain ⟨hle, hle1, heq⟩ := floor_ceil s
  rw [hm1, hm2, ← heq]
  -- `from_512_second_intervals` is injective on `u16`: the interval is read back by `% 2^16`
  exact ⟨(floor_bracket s).1, (ceil_bracket s).1, hle, hle1, fun he => by rw [← hm1, ← hm2, he], fun he => by rw [he]⟩
example : Sequence.fromSecondsFloor 1000 = .ok ⟨0x400001⟩ ∧ Sequence.fromSecondsCeil 1000 = .ok ⟨0x400002⟩ ∧
    Sequence.fromSecondsFloor 33554431 = .ok ⟨0x40ffff⟩ ∧ Sequence.fromSecondsCeil 33553921 = .err "IntegerOverflow" := by
  decide +kernel

/-- `from_seconds_floor` / `from_seconds_ceil` never panic -/
theorem seq_from_seconds_no_panic (s : Nat) (site : String) :
    Sequence.fromSecondsFloor s ≠ .panic site ∧ Sequence.fromSecondsCeil s ≠ .panic site := by
  rw [fromSecondsFloor_eq, fromSecondsCeil_eq]
  constructor <;> split <;> intro c <;> cases c

/-- `from_consensus` / `to_consensus_u32` are the identity on the inner value -/
theorem seq_consensus_roundtrip (n : Nat) (s : Sequence) :
    (Sequence.fromConsensus n).toConsensusU32 = n ∧ Sequence.fromConsensus s.toConsensusU32 = s := ⟨rfl, rfl⟩

/-- **the constants do what their documentation says**: `MAX` disables lock time and replace-by-fee; `ZERO`
    enables both; `ENABLE_LOCKTIME_NO_RBF` enables the absolute lock time only; `ENABLE_RBF_NO_LOCKTIME`
    enables replace-by-fee and the absolute lock time; none of the three high constants is a relative lock time -/
theorem seq_constants_as_documented :
    (Sequence.max.isFinal = true ∧ Sequence.max.enablesAbsoluteLockTime = false ∧ Sequence.max.isRbf = false ∧
      Sequence.max.isRelativeLockTime = false) ∧
    (Sequence.zero.isRbf = true ∧ Sequence.zero.enablesAbsoluteLockTime = true ∧ Sequence.zero.isHeightLocked = true) ∧
    (Sequence.enableLocktimeNoRbf.enablesAbsoluteLockTime = true ∧ Sequence.enableLocktimeNoRbf.isRbf = false ∧
      Sequence.enableLocktimeNoRbf.isRelativeLockTime = false) ∧
    (Sequence.enableRbfNoLocktime.isRbf = true ∧ Sequence.enableRbfNoLocktime.enablesAbsoluteLockTime = true ∧
      Sequence.enableRbfNoLocktime.isRelativeLockTime = false) ∧
    Sequence.default = Sequence.max := by decide

/-! ### lock time of a PSET (BIP370) -/

/-- **the lock time is chosen as BIP370 prescribes** (`bip370`: the fallback, or 0, when no input
    constrains it; otherwise the maximum of the heights if every constraining input supports a
    height — height preferred when both kinds are possible —; otherwise the maximum of the times if
    every constraining input supports a time; otherwise an error), for every PSET -/
theorem locktime_spec (p : Pset) : p.locktime = bip370 p.global.fallbackLocktime p.lockReqs :=
  locktimeOf_eq_bip370 _ _

/-- the same on bare requirement lists -/
theorem locktime_spec_reqs (fb : Option Nat) (reqs : List LockReq) : locktimeOf fb reqs = bip370 fb reqs :=
  locktimeOf_eq_bip370 fb reqs

/-- **the two `unreachable!()` arms are unreachable** -/
theorem locktime_no_panic (p : Pset) (s : String) : p.locktime ≠ .panic s :=
  locktimeOf_no_panic _ _ s

/-- the loop invariant behind it: a kind is `Disallowed` only if the other is at least `Minimum` -/
theorem locktime_invariant (reqs : List LockReq) :
    ((lockFold reqs).2 = .disallowed → (lockFold reqs).1 ≠ .unconstrained) ∧
    ((lockFold reqs).1 = .disallowed → (lockFold reqs).2 ≠ .unconstrained) :=
  lockFold_invariant reqs

/-- with requirements typed as in Rust (heights below `LOCK_TIME_THRESHOLD`, times at or above;
    constant regenerated from src/locktime.rs) a constrained lock time is a block height exactly
    when every constraining input supports one: height is preferred whenever possible -/
theorem locktime_prefers_height (fb : Option Nat) (reqs : List LockReq) (hw : WellTyped reqs)
    (hc : ∃ r ∈ reqs, constraining r = true) (n : Nat) (h : locktimeOf fb reqs = .ok n) :
    (n < EV.Gen.lockTimeThreshold ↔ ∀ r ∈ reqs, constraining r = true → r.2.isSome = true) :=
  locktime_kind fb reqs hw hc n h

/-- a constrained lock time is one of the stated requirements -/
theorem locktime_is_stated (fb : Option Nat) (reqs : List LockReq)
    (hc : ∃ r ∈ reqs, constraining r = true) (n : Nat) (h : locktimeOf fb reqs = .ok n) :
    (∃ r ∈ reqs, r.2 = some n) ∨ (∃ r ∈ reqs, r.1 = some n) :=
  (ok_constrained hc h).imp (fun hH => hH.2.stated) (fun hT => hT.2.2.stated)

/-- every branch of the BIP370 selection occurs -/
example : locktimeOf (some 77) [] = .ok 77 ∧ locktimeOf none [(none, none)] = .ok 0 ∧
    locktimeOf (some 77) [(some 500000005, some 7), (some 500000009, some 3)] = .ok 7 ∧
    locktimeOf (some 77) [(some 500000005, some 7), (some 500000009, none)] = .ok 500000009 ∧
    locktimeOf (some 77) [(some 500000005, none), (none, some 3)] = .err "LocktimeConflict" := by decide +kernel

/-! ### the BIP370 lock time as a `LockTime` -/

/-- **the lock time a PSET selects, viewed as a `LockTime`, honours every input**: when some input constrains
    the lock time and `locktime()` returns `n`, then `LockTime::from_consensus(n)` is a lock time `l` such that
    * `l` is a block height exactly when every constraining input supports a height (height preferred);
    * every constraining input states a requirement of the unit of `l`;
    * `l` is `>=` every stated requirement of its unit — hence **any (height, time) that satisfies `l` (via
      `is_satisfied_by`) satisfies each of them**;
    * `l` is itself one of the stated requirements (the maximum, not more).
    `reqLocks r` are the requirements of input `r` as `LockTime`s (`LockTime::from`). -/
theorem locktime_honours_inputs (fb : Option Nat) (reqs : List LockReq) (hw : WellTyped reqs)
    (hc : ∃ r ∈ reqs, constraining r = true) (n : Nat) (h : locktimeOf fb reqs = .ok n) :
    ∃ l, LockTime.fromConsensus n = .ok l ∧
      (l.isBlockHeight = true ↔ ∀ r ∈ reqs, constraining r = true → r.2.isSome = true) ∧
      (∀ r ∈ reqs, constraining r = true → ∃ q ∈ reqLocks r, q.isSameUnit l = true) ∧
      (∀ r ∈ reqs, ∀ q ∈ reqLocks r, q.isSameUnit l = true → q.le l = true) ∧
      (∀ hgt tm, l.isSatisfiedBy hgt tm = true →
        ∀ r ∈ reqs, ∀ q ∈ reqLocks r, q.isSameUnit l = true → q.isSatisfiedBy hgt tm = true) ∧
      (∃ r ∈ reqs, l ∈ reqLocks r) := by
  obtain ⟨l, hl⟩ : ∃ l, LockTime.fromConsensus n = .ok l := ⟨_, fromConsensus_eq n⟩
  have hkind := (lt_unit_split n l hl).1.trans (threshold_eq ▸ locktime_kind fb reqs hw hc n h)
  obtain ⟨hsup, hg⟩ := bridge_core hc h l hkind
  have hn : l.toConsensusU32 = n := lt_consensus_roundtrip n l hl
  -- a requirement of the unit of `l` is what `unitReq l` reads off its input, and `n` is the greatest of those
  have hle : ∀ r ∈ reqs, ∀ q ∈ reqLocks r, q.isSameUnit l = true → q.le l = true := by
    intro r hr q hq hu
    rw [mem_reqLocks, unitReq_congr hu] at hq
    exact (le_iff q l).mpr ⟨hu, hn ▸ hg.le r hr _ hq⟩
  obtain ⟨r, hr, hs⟩ := hg.stated
  exact ⟨l, hl, hkind, fun r hr hcr => exists_mem_reqLocks (hsup r hr hcr), hle,
    fun hgt tm hs r hr q hq hu => lt_is_satisfied_by_antitone q l hgt tm (hle r hr q hq hu) hs,
    r, hr, (mem_reqLocks r l).mpr (hn ▸ hs)⟩

/-- the hypotheses are satisfiable: a time-only input forces the time unit, 500000009 dominates both times -/
example : WellTyped [(some 500000005, some 7), (some 500000009, none)] ∧
    (∃ r ∈ [((some 500000005 : Option Nat), (some 7 : Option Nat)), (some 500000009, none)], constraining r = true) ∧
    locktimeOf (some 77) [(some 500000005, some 7), (some 500000009, none)] = .ok 500000009 := by
  unfold WellTyped
  decide

/-- **the error case exactly**: `LocktimeConflict` iff some input supports only a time lock and some input
    only a height lock -/
theorem locktime_conflict_iff (fb : Option Nat) (reqs : List LockReq) :
    locktimeOf fb reqs = .err "LocktimeConflict" ↔
      (∃ r ∈ reqs, r.1.isSome = true ∧ r.2.isSome = false) ∧ (∃ r ∈ reqs, r.2.isSome = true ∧ r.1.isSome = false) := by
  -- the error is the arm `(Disallowed, Disallowed)`, and a kind is disallowed exactly when some input states the other only
  rw [locktimeOf, lockFold_eq, ← any_only_iff (·.2) (·.1), ← any_only_iff (·.1) (·.2)]
  constructor
  · intro h
    have hst : _ = (LockState.disallowed, LockState.disallowed) := lockFinal_spec h
    exact ⟨kind_eq_disallowed (congrArg Prod.snd hst), kind_eq_disallowed (congrArg Prod.fst hst)⟩
  · rintro ⟨hT, hH⟩
    rw [show reqs.any timeOnly = true from hT, show reqs.any heightOnly = true from hH]
    rfl

/-- **the fallback case exactly**: when no input constrains the lock time the result is the fallback, or
    `LockTime::ZERO` (consensus value 0) when there is none -/
theorem locktime_fallback_exact (fb : Option Nat) (reqs : List LockReq) (hno : ∀ r ∈ reqs, constraining r = false) :
    locktimeOf fb reqs = .ok (fb.getD 0) ∧
    (fb = none → LockTime.fromConsensus (fb.getD 0) = .ok LockTime.zero) := by
  refine ⟨?_, ?_⟩
  · exact locktimeOf_free fb reqs hno
  · intro h
    subst h
    decide
example : ∀ r ∈ [((none : Option Nat), (none : Option Nat))], constraining r = false := by decide

/-- **the typed function and the untyped model agree**: `locktimeTyped` keeps the `Time` / `Height` / `LockTime`
    types of the Rust code (`x.into()`, `unwrap_or(LockTime::ZERO)`); its consensus value is what `locktimeOf`
    computes on the erased numbers, error for error and (no) panic for panic -/
theorem locktime_typed_agrees (fb : Option LockTime) (reqs : List TypedReq) :
    (locktimeTyped fb reqs).map LockTime.toConsensusU32 =
      locktimeOf (fb.map LockTime.toConsensusU32) (reqs.map TypedReq.erase) := by
  unfold locktimeTyped locktimeOf
  generalize lockFold (reqs.map TypedReq.erase) = st
  obtain ⟨a, b⟩ := st
  -- arm by arm, `lockFinalTyped` wraps what `lockFinal` returns in the constructor of its unit
  cases a <;> cases b <;> cases fb <;> rfl

/-- on values of the types (`TypedValid`) the typed result is a value of `LockTime` and is exactly
    `LockTime::from_consensus` of the number the untyped model returns: the `Blocks`/`Seconds` variant chosen
    by the match arm coincides with the threshold test -/
theorem locktime_typed_view (fb : Option LockTime) (reqs : List TypedReq) (hfb : ∀ l, fb = some l → l.Valid)
    (hv : TypedValid reqs) (l : LockTime) (h : locktimeTyped fb reqs = .ok l) :
    l.Valid ∧ locktimeOf (fb.map LockTime.toConsensusU32) (reqs.map TypedReq.erase) = .ok l.toConsensusU32 ∧
    LockTime.fromConsensus l.toConsensusU32 = .ok l := by
  have hval := locktimeTyped_valid fb reqs hfb hv l h
  refine ⟨hval, ?_, fromConsensus_toConsensus l hval⟩
  rw [← locktime_typed_agrees, h]
  rfl
example : TypedValid [(some ⟨500000005⟩, some ⟨7⟩)] ∧
    locktimeTyped (some (.seconds ⟨500000000⟩)) [(some ⟨500000005⟩, some ⟨7⟩)] = .ok (.blocks ⟨7⟩) := by
  unfold TypedValid
  decide

/-- **sequences in the PSET views**: an input without `sequence` extracts to the final sequence
    (`unwrap_or(Sequence::MAX)`), which does not enable the absolute lock time -/
theorem extract_default_sequence_is_final (x : PsetInput) (h : x.sequence = none) :
    x.toTxIn.sequence = Sequence.max.n ∧ (Sequence.fromConsensus x.toTxIn.sequence).isFinal = true ∧
    (Sequence.fromConsensus x.toTxIn.sequence).enablesAbsoluteLockTime = false := by
  have hs : x.toTxIn.sequence = 0xffffffff := by
    show x.sequence.getD 0xffffffff = 0xffffffff
    rw [h]
    rfl
  rw [hs]
  decide
example : ({} : PsetInput).sequence = none := rfl

/-- `Sequence::from_height(0)`, with which the unique id overwrites every sequence (the `sequence := 0` of
    `unique_id_def`), is `Sequence::ZERO`, is not final and enables the absolute lock time; the statement is about
    the constant only -/
theorem unique_id_sequence_is_from_height_zero :
    Sequence.fromHeight 0 = Sequence.zero ∧ (Sequence.fromHeight 0).toConsensusU32 = 0 ∧
    (Sequence.fromHeight 0).isFinal = false ∧ (Sequence.fromHeight 0).enablesAbsoluteLockTime = true := by decide

end EV.Props.C08
