/-
  C15 — taproot script trees commit every leaf and nothing else.

  Model: EV.Model.Taproot (src/taproot.rs, src/schnorr.rs).  The tagged hashes (`TapHashes`) and the
  elliptic-curve primitives (`EC`) are parameters.  What is assumed of libsecp256k1 is explicit:
  `ECLaw` (tweak_add_check accepts exactly the result of add_tweak) and, for binding, `ECTweakInj`
  (for one internal key, different valid tweaks give different tweaked keys).  "Fails to verify with
  any other …" is stated as: success ⇒ genuine opening ∨ an exhibited hash collision.
-/
import EV.Proofs.CodecPrim
import EV.Proofs.TaprootBuilder
import EV.Proofs.TaprootCb
import EV.Proofs.TaprootSpend
import EV.Proofs.TaprootHuffman
import EV.Proofs.TaprootKeypair
import EV.Ref.Taproot
namespace EV.Props.C15
open EV EV.Taproot EV.Proofs.TaprootBuilder EV.Proofs.TaprootCb EV.Proofs.TaprootSpend
open EV.Proofs.TaprootHuffman EV.Proofs.TaprootKeypair

variable (E : EC) (H : TapHashes)

/-! ### constants: Elements' tags and leaf version -/

/-- the constants in the Rust source are the ones the Elements specification prescribes
    ("/elements" tags, leaf version 0xc4, 33 + 32·m control blocks with m ≤ 128, annex tag 0x50) -/
theorem consts_match_reference :
    Gen.Taproot.leafTag = Ref.Taproot.leafTag ∧ Gen.Taproot.branchTag = Ref.Taproot.branchTag ∧
    Gen.Taproot.tweakTag = Ref.Taproot.tweakTag ∧
    Gen.Taproot.controlMaxNodeCount = Ref.Taproot.controlMaxNodeCount ∧
    Gen.Taproot.controlNodeSize = Ref.Taproot.controlNodeSize ∧
    Gen.Taproot.controlBaseSize = Ref.Taproot.controlBaseSize ∧
    Gen.Taproot.leafMask = Ref.Taproot.leafMask ∧ Gen.Taproot.leafTapscript = Ref.Taproot.leafTapscript ∧
    Gen.Taproot.annexTag = Ref.Taproot.annexTag :=
  ⟨rfl, rfl, rfl, rfl, rfl, rfl, rfl, rfl, rfl⟩

/-- sorted-pair branch hashing: the branch hash does not depend on the order of the children -/
theorem branch_hash_sorted (a b : Bytes) : branchHash H a b = branchHash H b a := branchHash_comm H a b

/-! ### the builder: depth-first listings -/

/-- for every tree of height ≤ 128 the builder accepts the depth-first listing (leaves and hidden
    nodes) and finalizes to the node the tree denotes; its hash is the merkle root -/
theorem builder_dfs (t : Tree) (hh : t.height ≤ maxDepth) :
    addAll H [] (t.dfs 0) = .ok [some (info H t)] ∧ buildTree H (t.dfs 0) = .ok (info H t) ∧
    (info H t).hash = t.merkleRoot H :=
  ⟨EV.Proofs.TaprootBuilder.builder_dfs H t hh, build_dfs H t hh, info_hash H t⟩

/-- the leaves come out in depth-first order, the merkle branch of each has the length of the leaf's
    depth and is the leaf's sibling path: folding it over the leaf hash gives the merkle root -/
theorem builder_leaf_paths (t : Tree) :
    (info H t).leaves.map (fun l => (l.branch.length, l.script, l.ver)) = leafItems (t.dfs 0) ∧
    ∀ l ∈ (info H t).leaves, ControlBlock.computeRoot H l.script l.ver l.branch = t.merkleRoot H :=
  ⟨info_leaves_dfs H t 0, info_leaf_root H t⟩

/-- whatever the builder accepts and reports complete is the depth-first listing of a tree -/
theorem builder_sound (items : List (Nat × Item)) (b : Builder) (hok : addAll H [] items = .ok b)
    (hc : isComplete b = true) : ∃ t : Tree, items = t.dfs 0 ∧ b = [some (info H t)] ∧ t.height ≤ maxDepth :=
  EV.Proofs.TaprootBuilder.builder_sound H items b hok hc

/-- build-and-finalize succeeds exactly on depth-first listings of trees of height ≤ 128: incomplete,
    over-complete, out-of-order and over-deep listings are all refused -/
theorem builder_accepts_iff (items : List (Nat × Item)) (n : NodeInfo) :
    buildTree H items = .ok n ↔ ∃ t : Tree, items = t.dfs 0 ∧ t.height ≤ maxDepth ∧ n = info H t :=
  ⟨(buildTree_post H items).of_ok, fun ⟨t, e1, hh, e2⟩ => e1 ▸ e2 ▸ build_dfs H t hh⟩

/-- over-deep: any item deeper than 128 is refused with the depth error -/
theorem refuse_over_deep (b : Builder) (n : NodeInfo) (d : Nat) (h : d > maxDepth) :
    insert H b n d = .err "InvalidMerkleTreeDepth" := by
  rw [insert_eq, if_pos h]

/-- out-of-order: an item above an unfinished deeper level is refused -/
theorem refuse_out_of_order (b : Builder) (n : NodeInfo) (d : Nat) (h1 : d ≤ maxDepth) (h2 : d + 1 < b.length) :
    insert H b n d = .err "NodeNotInDfsOrder" := by
  rw [insert_eq, if_neg (Nat.not_lt.2 h1), if_pos h2]

/-- over-complete: a second node at depth 0 is refused -/
theorem refuse_over_complete (x n : NodeInfo) : insert H [some x] n 0 = .err "OverCompleteTree" :=
  insert_place H [some x] n 0 (Nat.zero_le _) (Nat.le_refl _)

/-- incomplete: finalize with more than one pending level is refused -/
theorem refuse_incomplete (b : Builder) (h : b.length > 1) : finalizeNode b = .err "IncompleteTree" := by
  unfold finalizeNode
  rw [if_pos h]

/-- finalize refuses the empty builder as well -/
theorem refuse_empty : finalizeNode [] = .err "EmptyTree" := rfl

/-- `insert` has no error class but the three above -/
theorem builder_errors (b : Builder) (n : NodeInfo) (d : Nat) (e : String) (he : insert H b n d = .err e) :
    e = "InvalidMerkleTreeDepth" ∨ e = "NodeNotInDfsOrder" ∨ e = "OverCompleteTree" :=
  (insert_post H b n d).of_err he

/-- the builder never panics, whatever listing it is fed and finalized on -/
theorem builder_no_panic (items : List (Nat × Item)) (s : String) : buildTree H items ≠ .panic s :=
  -- the `expect` of `finalize` is dead
  (buildTree_post H items).ne_panic s

/-! ### control blocks: serialization -/

/-- `from_slice (serialize cb) = cb` -/
theorem cb_roundtrip (cb : ControlBlock) (hw : cb.wf E) : ControlBlock.decode E cb.encode = .ok cb :=
  decode_encode E cb hw

/-- `serialize (from_slice bs) = bs`: the encoding is canonical, and what decodes is well formed -/
theorem cb_decode_canonical (bs : Bytes) (cb : ControlBlock) (h : ControlBlock.decode E bs = .ok cb) :
    cb.encode = bs ∧ cb.wf E := (decode_post E bs).of_ok h

/-- `from_slice` never panics -/
theorem cb_decode_no_panic (bs : Bytes) (s : String) : ControlBlock.decode E bs ≠ .panic s := (decode_post E bs).ne_panic s

/-- the length is 33 + 32·(path length), for `size()` and for the serialization -/
theorem cb_size (cb : ControlBlock) (hw : cb.wf E) :
    cb.size = 33 + 32 * cb.branch.length ∧ cb.encode.length = cb.size :=
  ⟨size_eq cb, encode_length E cb hw⟩

/-- only lengths of the form 33 + 32·m with at most 128 path elements decode -/
theorem cb_decode_length (bs : Bytes) (cb : ControlBlock) (h : ControlBlock.decode E bs = .ok cb) :
    bs.length = 33 + 32 * cb.branch.length ∧ cb.branch.length ≤ maxDepth := by
  obtain ⟨he, hw⟩ := (decode_post E bs).of_ok h
  exact ⟨he ▸ (encode_length E cb hw).trans (size_eq cb), hw.2.2.2.1⟩

/-! ### output key -/

/-- the output key (and parity) is the internal key tweaked by TapTweak(internal ‖ merkle root) -/
theorem output_key_def (key : Bytes) (n : NodeInfo) (si : SpendInfo) (h : fromNodeInfo E H key n = .ok si) :
    si.internalKey = key ∧ si.merkleRoot = some n.hash ∧
    E.tweakAdd key (tweakHash H key (some n.hash)) = some (si.outputKey, si.parity) :=
  let hn := fromNodeInfo_ok E H key n si h
  ⟨hn.internalKey, hn.merkleRoot, hn.tweakAdd⟩

/-- key-path-only outputs commit to TapTweak(internal) -/
theorem output_key_def_keyspend (key : Bytes) (root : Option Bytes) (si : SpendInfo)
    (h : newKeySpend E H key root = .ok si) :
    E.tweakAdd key (tweakHash H key root) = some (si.outputKey, si.parity) :=
  ((tapTweak_eq_ok E H key root _ _).1 (newKeySpend_ok E H key root si h).2.2.2).2.1

/-- when the tweak hash is a valid scalar (`hs`) and the addition returns `(q, par)` (`ht`), `from_node_info` succeeds
    with that output key and parity: under the tweak law the `debug_assert!` of `tap_tweak` does not fire.  (The
    two cases that `hs` and `ht` exclude are the documented panics of `tap_tweak`; the statement is silent on them.) -/
theorem spend_info_total (law : ECLaw E) (key : Bytes) (n : NodeInfo) (q : Bytes) (par : Bool)
    (hs : E.scalarOk (tweakHash H key (some n.hash)) = true)
    (ht : E.tweakAdd key (tweakHash H key (some n.hash)) = some (q, par)) :
    ∃ si, fromNodeInfo E H key n = .ok si ∧ si.outputKey = q ∧ si.parity = par := by
  have hc : E.tweakAddCheck key q par (tweakHash H key (some n.hash)) = true := (law _ _ _ _).mpr ht
  exact ⟨_, fromNodeInfo_of_tweak E H key n q par ((tapTweak_eq_ok E H key _ q par).2 ⟨hs, ht, hc⟩), rfl, rfl⟩

/-- tweaking the matching key pair yields the secret key of exactly the output key (abstract group) -/
theorem keypair_tweak_matches {S G X : Type} (A : KeyAlgebra S G X) (sk t : S) :
    (A.xonly (A.pub (A.keypairTweak sk t)), A.odd (A.pub (A.keypairTweak sk t))) =
      A.xonlyTweakAdd (A.xonly (A.pub sk)) t := by
  simp only [KeyAlgebra.xonlyTweakAdd, KeyAlgebra.keypairTweak_pub]

/-! ### control blocks: every leaf verifies -/

/-- every leaf gets a control block with its version, the internal key and the output parity; the
    path is a (shortest) sibling path of that (script, version); it verifies against the output key -/
theorem cb_verifies (law : ECLaw E) (key : Bytes) (t : Tree) (si : SpendInfo)
    (hsi : fromNodeInfo E H key (info H t) = .ok si) :
    ∀ l ∈ (info H t).leaves, ∃ cb, controlBlock si l.script l.ver = some (some cb) ∧
      cb.leafVersion = l.ver ∧ cb.internalKey = key ∧ cb.parity = si.parity ∧
      (⟨l.script, l.ver, cb.branch⟩ : LeafInfo) ∈ (info H t).leaves ∧
      cb.branch.length ≤ l.branch.length ∧
      cb.verify E H si.outputKey l.script = .ok true :=
  EV.Proofs.TaprootSpend.cb_verifies E H law key t si hsi

/-- the control block built from the own sibling path of every single occurrence of a leaf verifies too
    (duplicate scripts at different depths) -/
theorem cb_each_occurrence_verifies (law : ECLaw E) (key : Bytes) (t : Tree) (si : SpendInfo)
    (hsi : fromNodeInfo E H key (info H t) = .ok si) :
    ∀ l ∈ (info H t).leaves,
      (⟨l.ver, si.parity, key, l.branch⟩ : ControlBlock).verify E H si.outputKey l.script = .ok true :=
  EV.Proofs.TaprootSpend.cb_each_occurrence_verifies E H law key t si hsi

/-- nothing that is not a leaf gets a control block, and `control_block` does not panic -/
theorem cb_only_for_leaves (key : Bytes) (n : NodeInfo) (si : SpendInfo) (hsi : fromNodeInfo E H key n = .ok si)
    (s : Bytes) (v : UInt8) :
    controlBlock si s v ≠ none ∧ ((¬ ∃ l ∈ n.leaves, l.script = s ∧ l.ver = v) → controlBlock si s v = some none) := by
  rcases controlBlock_cases E H key n si hsi s v with ⟨_, hcb⟩ | ⟨br, hcb, hbr, _⟩
  · exact ⟨hcb ▸ nofun, fun _ => hcb⟩
  · exact ⟨hcb ▸ nofun, fun h => absurd ⟨_, hbr, rfl, rfl⟩ h⟩

/-! ### control blocks: nothing else verifies -/

/-- verification is exactly "output key and parity = tweak of the internal key by
    TapTweak(internal ‖ recomputed root)" -/
theorem verify_iff (law : ECLaw E) (cb : ControlBlock) (Q s : Bytes) :
    cb.verify E H Q s = .ok true ↔
      (E.scalarOk (tweakHash H cb.internalKey (some (ControlBlock.computeRoot H s cb.leafVersion cb.branch))) = true ∧
       E.tweakAdd cb.internalKey (tweakHash H cb.internalKey (some (ControlBlock.computeRoot H s cb.leafVersion cb.branch)))
         = some (Q, cb.parity)) := EV.Proofs.TaprootSpend.verify_iff E H law cb Q s

/-- the flipped parity bit fails -/
theorem cb_other_parity_fails (law : ECLaw E) (cb : ControlBlock) (Q s : Bytes)
    (h : cb.verify E H Q s = .ok true) : ({ cb with parity := !cb.parity } : ControlBlock).verify E H Q s = .ok false :=
  verify_unique E H law cb Q s h Q (!cb.parity) fun e => (Bool.not_eq_self _).1 (congrArg Prod.snd e)

/-- any other output key fails -/
theorem cb_other_output_key_fails (law : ECLaw E) (cb : ControlBlock) (Q Q' s : Bytes)
    (h : cb.verify E H Q s = .ok true) (hq : Q' ≠ Q) : cb.verify E H Q' s = .ok false :=
  verify_unique E H law cb Q s h Q' cb.parity fun e => hq (congrArg Prod.fst e)

/-- any other script, leaf version or sibling path fails: a control block (with the committed internal
    key and parity) that verifies is a genuine opening of the tree — the path of a leaf with exactly
    that script and version, or a path into a hidden node — or a tagged hash collides (the proof does not use `hb`) -/
theorem cb_binds (law : ECLaw E) (inj : ECTweakInj E) (L : Len32 H) (key : Bytes) (t : Tree) (si : SpendInfo)
    (hsi : fromNodeInfo E H key (info H t) = .ok si) (ht : ScriptsOk t)
    (cb : ControlBlock) (s : Bytes) (hk : cb.internalKey = key) (hp : cb.parity = si.parity)
    (hb : ∀ e ∈ cb.branch, e.length = 32) (hs : s.length < 2 ^ 64)
    (hv : cb.verify E H si.outputKey s = .ok true) :
    Opens H t s cb.leafVersion cb.branch ∨ Collision H.tweak ∨ Collision H.leaf ∨ Collision H.branch ∨
      Cross H.leaf H.branch :=
  EV.Proofs.TaprootSpend.cb_binds E H law inj L key t si hsi ht cb s hk hp hb hs hv

/-- without hidden nodes the genuine openings are exactly the leaves with their sibling paths -/
theorem opens_are_leaves (t : Tree) (hn : t.noHidden = true) (s : Bytes) (v : UInt8) (b : List Bytes) :
    Opens H t s v b ↔ (⟨s, v, b⟩ : LeafInfo) ∈ (info H t).leaves :=
  ⟨opens_mem_leaves H t hn s v b, mem_leaves_opens H t s v b⟩

set_option linter.unusedVariables false in
/-- the root itself is binding: a (script, version, path) from which `verify_taproot_commitment` recomputes the
    merkle root of `t` is a genuine opening of `t`, or a tagged hash collides (the proof does not use `hb`) -/
theorem root_binds (L : Len32 H) (t : Tree) (s : Bytes) (v : UInt8) (b : List Bytes)
    (ht : ScriptsOk t) (hs : s.length < 2 ^ 64) (hb : ∀ e ∈ b, e.length = 32)
    (h : ControlBlock.computeRoot H s v b = t.merkleRoot H) :
    Opens H t s v b ∨ Collision H.leaf ∨ Collision H.branch ∨ Cross H.leaf H.branch :=
  opens_of_root_eq H L t s v b ht hs h

/-- equal tweak hashes commit to the same internal key and merkle root -/
theorem tweak_binds (k k' r r' : Bytes) (hk : k.length = 32) (hk' : k'.length = 32)
    (h : tweakHash H k (some r) = tweakHash H k' (some r')) : (k = k' ∧ r = r') ∨ Collision H.tweak := by
  simp only [tweakHash, Option.getD_some] at h
  exact (Proofs.CodecPrim.eq_or_collision h).imp_left fun he => List.append_inj he (hk.trans hk'.symm)

/-! ### Huffman construction -/

/-- the Huffman construction returns the node of a weighted tree over exactly the given leaves in
    which no heavier leaf is deeper than a lighter one (no saturation: Σ weights < 2^64, true for
    fewer than 2^32 `u32` weights); depth = merkle branch length = (control block size − 33) / 32.  The entries of
    `T.leafDepths 0` are (weight, script, depth) of the leaves. -/
theorem huffman_heavier_not_deeper (ws : List (Nat × Bytes)) (n : NodeInfo)
    (hsum : (ws.map (·.1)).sum < 2 ^ 64) (h : huffmanNode H ws = .ok n) :
    ∃ T : WT, n = info H T.toTree ∧ T.leaves.Perm ws ∧
      (info H T.toTree).leaves.map (fun l => (l.script, l.branch.length)) =
        (T.leafDepths 0).map (fun x => (x.2.1, x.2.2)) ∧
      ∀ a ∈ T.leafDepths 0, ∀ b ∈ T.leafDepths 0, a.1 < b.1 → b.2.2 ≤ a.2.2 := by
  obtain ⟨T, h1, h2, h3⟩ := EV.Proofs.TaprootHuffman.huffman_heavier_not_deeper H ws n hsum h
  exact ⟨T, h1, h2, info_leaf_depths H T, h3⟩

/-- on a non-empty list of leaves the Huffman construction does not panic: a node, or the depth error when the
    tree would exceed 128 levels -/
theorem huffman_total (ws : List (Nat × Bytes)) (hne : ws ≠ []) (hsum : (ws.map (·.1)).sum < 2 ^ 64) :
    (∃ n, huffmanNode H ws = .ok n) ∨ huffmanNode H ws = .err "InvalidMerkleTreeDepth" :=
  EV.Proofs.TaprootHuffman.huffman_total H ws hne hsum

/-- the empty list of leaves is refused -/
theorem huffman_empty_refused : huffmanNode H [] = .err "IncompleteTree" := rfl

/-- Huffman trees are script trees: all the control-block theorems above apply to them -/
theorem huffman_cb_verifies (law : ECLaw E) (key : Bytes) (ws : List (Nat × Bytes)) (si : SpendInfo)
    (hsum : (ws.map (·.1)).sum < 2 ^ 64) (h : withHuffmanTree E H key ws = .ok si) :
    ∃ T : WT, T.leaves.Perm ws ∧ ∀ l ∈ (info H T.toTree).leaves, ∃ cb,
      controlBlock si l.script l.ver = some (some cb) ∧ cb.verify E H si.outputKey l.script = .ok true := by
  rw [withHuffmanTree_eq] at h
  obtain ⟨n, hn, h⟩ := Res.bind_eq_ok.1 h
  obtain ⟨T, rfl, h2, _⟩ := EV.Proofs.TaprootHuffman.huffman_heavier_not_deeper H ws n hsum hn
  refine ⟨T, h2, fun l hl => ?_⟩
  obtain ⟨cb, hcb, _, _, _, _, _, hv⟩ := EV.Proofs.TaprootSpend.cb_verifies E H law key T.toTree si h l hl
  exact ⟨cb, hcb, hv⟩

/-! ### non-vacuity -/

/-- the assumed EC laws are satisfiable (a toy "curve": tweaking appends the tweak) -/
example : ∃ E : EC, ECLaw E ∧ ECTweakInj E :=
  ⟨{ xonlyOk := fun _ => true, scalarOk := fun _ => true,
     tweakAdd := fun P t => some (P ++ t, false),
     tweakAddCheck := fun P Q par t => decide (some (P ++ t, false) = some (Q, par)) },
   by intro P t Q par
      simp,
   by intro P t t' r _ _ h1 h2
      simp only at h1 h2
      rw [← h2] at h1
      simpa using h1⟩

/-- the unit-test tree of src/taproot.rs (A, B, C at depth 2, D, E at depth 3) is covered -/
example : buildTree H ((Tree.node (.node (.leaf [0x51] tapscriptVer) (.leaf [0x52] tapscriptVer))
    (.node (.leaf [0x53] tapscriptVer) (.node (.leaf [0x54] tapscriptVer) (.leaf [0x55] tapscriptVer)))).dfs 0) =
    .ok (info H (Tree.node (.node (.leaf [0x51] tapscriptVer) (.leaf [0x52] tapscriptVer))
    (.node (.leaf [0x53] tapscriptVer) (.node (.leaf [0x54] tapscriptVer) (.leaf [0x55] tapscriptVer))))) :=
  build_dfs H _ (by decide)

/-- the key algebra is inhabited -/
example : ∃ A : KeyAlgebra Int Int Nat, A.keypairTweak 3 4 = 7 := ⟨intAlgebra, by decide⟩

end EV.Props.C15
