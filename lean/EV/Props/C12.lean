/-
  C12 — size, weight, vsize and discount weight equal the real serialized sizes.
  `Tx.scaledSize` is the hand arithmetic of `Transaction::scaled_size` transcribed term by term;
  the theorems compare it with the length of the modelled encoder output for every shape.

  Two further sections.  `TxAccessors`: the transaction-level accessors of EV.Model.TxAccessors (fees, pegout
  template, pegin witness, classification flags, the `Sequence` predicates), which meet the sizes in
  `new_fee_size`, `fee_output_scaled`, `with_fee_sizes`, `not_blinded_discount`.  Then the bridge from PSETs: the
  transaction `extract_tx` returns is canonical under conditions on the PSET fields, so the size theorems apply
  to it.
-/
import EV.Proofs.CodecTx
import EV.Proofs.CodecBlock
import EV.Proofs.Sizes
import EV.Proofs.Accessors
import EV.Proofs.ScriptBuilder
import EV.Proofs.TxAccessors
import EV.Proofs.LockTime
import EV.Proofs.PsetExtract
import EV.Proofs.BridgePsetSize
namespace EV.Props.C12
open EV EV.Codec EV.Proofs.CodecTx EV.Proofs.CodecBlock

variable (P : Prims)

/-- the reported size is the byte length of the consensus serialization -/
theorem size_eq (t : Tx) (h : t.wf P) : t.size = t.enc.length := size_eq_enc_length P t h

/-- weight = 3 × witness-stripped length + full length -/
theorem weight_eq (t : Tx) (h : t.wf P) : t.weight = 3 * t.encStripped.length + t.enc.length :=
  EV.Proofs.CodecTx.weight_eq P t h

/-- vsize = weight / 4 rounded up -/
theorem vsize_eq (t : Tx) : t.vsize = (t.weight + 3) / 4 ∧ 4 * t.vsize ≥ t.weight ∧ 4 * t.vsize < t.weight + 4 := by
  unfold Tx.vsize
  omega

/-- what `discount_weight` subtracts for one output: the bytes its witness occupies beyond the two
    of an empty witness, 4·24 for a confidential value, 4·32 for a confidential nonce -/
def discount (o : TxOut) : Nat := EV.Proofs.Sizes.discount o

theorem discount_def (o : TxOut) : discount o =
    (o.witness.enc.length - 2) + (if o.value.isConf then 4 * 24 else 0) + (if o.nonce.isConf then 4 * 32 else 0) := rfl

/-- the discount weight is the weight minus the per-output discounts, and the `usize` subtraction
    never underflows (no panic); the proof does not use canonicity (`h`) -/
theorem discount_weight_eq (t : Tx) (h : t.wf P) :
    (t.output.map discount).sum ≤ t.weight ∧
    t.discountWeight = some (t.weight - (t.output.map discount).sum) :=
  EV.Proofs.Sizes.discount_weight_eq P t h

theorem discount_vsize_eq (t : Tx) (h : t.wf P) :
    t.discountVsize = some ((t.weight - (t.output.map discount).sum + 3) / 4) := by
  simp [Tx.discountVsize, (discount_weight_eq P t h).2]

/-- a block's size is its serialized length -/
theorem block_size_eq (b : Block) (h : b.wf P) : b.size = b.enc.length := EV.Proofs.CodecBlock.block_size_eq P b h

/-- a block's weight is 4 × (header + count bytes) + the weights of its transactions -/
theorem block_weight_eq (P : Prims) (b : Block) :
    b.weight = 4 * (b.header.enc.length + varintSize b.txdata.length) + (b.txdata.map Tx.weight).sum :=
  EV.Proofs.CodecBlock.block_weight_eq P b

/-- non-vacuity: an output with witness and confidential value/nonce has a positive discount -/
example : discount ⟨.null, .conf (List.replicate 33 8), .conf (List.replicate 33 2), [],
    ⟨some (List.replicate 67 0), some (List.replicate 65 0)⟩⟩ = 132 + 96 + 128 := by decide

/-! ## Transaction-level accessors and classification (model: `EV.Model.TxAccessors`)

  Fee accounting (`TxOut::{new_fee, is_fee}`, `Transaction::{fee_in, all_fees}`), the pegout template
  (`TxOut::{is_null_data, is_pegout, pegout_data}`), the pegin witness layout
  (`PeginData::{from_pegin_witness, to_pegin_witness}`, `TxIn::pegin_data`), the input/transaction flags
  and the `Sequence` predicates, with bridges to the size arithmetic and the encoders above.
  `checks = true` is a build with overflow checks (an overflowing `u64` `+` panics), `false` wraps. -/
section TxAccessors
open EV.TxAcc EV.Acc EV.Proofs.TxAccessors

/-- the fee outputs are exactly those with an empty script and an explicit value and asset (as coded) -/
theorem is_fee_iff (o : TxOut) :
    isFee o = true ↔ o.scriptPubkey = [] ∧ (∃ v, o.value = .explicit v) ∧ (∃ a, o.asset = .explicit a) :=
  EV.Proofs.TxAccessors.isFee_iff o

/-- `fee_in(asset)` under overflow checks: the sum of the explicit values of exactly the fee outputs in
    that asset (`feeSum`, a sum over `feeOutputs`), and a panic exactly when that sum does not fit a `u64` -/
theorem fee_in_checked (t : Tx) (a : Bytes) :
    feeIn true t a = if feeSum t.output a < 2^64 then .ok (feeSum t.output a) else .panic feeOverflowSite := by
  rw [feeIn_eq, addU64_checked, Nat.zero_add]

/-- `fee_in(asset)` without overflow checks (release profile): the same sum modulo 2^64, never a panic -/
theorem fee_in_wrapping (t : Tx) (a : Bytes) : feeIn false t a = .ok (feeSum t.output a % 2^64) := by
  rw [feeIn_eq, addU64_wrapping, Nat.zero_add]

/-- the outputs `feeSum` adds up are exactly the `is_fee` outputs whose explicit asset is `a` -/
theorem fee_outputs_spec (outs : List TxOut) (a : Bytes) (o : TxOut) :
    o ∈ feeOutputs outs a ↔ o ∈ outs ∧ isFee o = true ∧ o.asset = .explicit a := by
  simp [feeOutputs, List.mem_filter]

/-- `all_fees` when no per-asset sum overflows: one entry per asset that has a fee output, no duplicates,
    and every entry is that asset's `feeSum` -/
theorem all_fees_ok (t : Tx) (h : ∀ a, feeSum t.output a < 2^64) :
    ∃ m, allFees true t = .ok m ∧ (∀ a, feeMapGet m a = feeSum t.output a) ∧
      (∀ a, a ∈ m.map Prod.fst ↔ ∃ o ∈ t.output, isFee o = true ∧ o.asset = .explicit a) ∧
      (m.map Prod.fst).Nodup := by
  have hin : ∀ a, feeIn true t a = .ok (feeSum t.output a) := fun a => by rw [fee_in_checked, if_pos (h a)]
  obtain ⟨m, e, hm⟩ := allFees_of_feeIn (checks := true) (t := t) fun a => hin a ▸ nofun
  exact ⟨m, e, fun a => Res.ok.inj ((hm.get a).symm.trans (hin a)), hm.keys, hm.nodup⟩

/-- `all_fees` under overflow checks panics as soon as one asset's fee sum exceeds `u64::MAX`
    (recorded in DESIGN §3 as observed behaviour of the real code; it is not a `Result` API) -/
theorem all_fees_overflow (t : Tx) (h : ∃ a, 2^64 ≤ feeSum t.output a) :
    allFees true t = .panic feeOverflowSite := by
  obtain ⟨a, ha⟩ := h
  refine allFees_panic (a := a) ?_
  rw [fee_in_checked, if_neg (Nat.not_lt.mpr ha)]

/-- `all_fees` without overflow checks (release profile): never a panic; the same keys, every entry is its
    asset's `feeSum` modulo 2^64 -/
theorem all_fees_wrapping (t : Tx) :
    ∃ m, allFees false t = .ok m ∧ (∀ a, feeMapGet m a = feeSum t.output a % 2^64) ∧
      (∀ a, a ∈ m.map Prod.fst ↔ ∃ o ∈ t.output, isFee o = true ∧ o.asset = .explicit a) ∧
      (m.map Prod.fst).Nodup := by
  obtain ⟨m, e, hm⟩ := allFees_of_feeIn (checks := false) (t := t) fun a => fee_in_wrapping t a ▸ nofun
  exact ⟨m, e, fun a => Res.ok.inj ((hm.get a).symm.trans (fee_in_wrapping t a)), hm.keys, hm.nodup⟩

/-- `fee_in asset` is the lookup of `asset` in `all_fees` (0 when absent) -/
theorem fee_in_eq_all_fees_lookup (t : Tx) (m : FeeMap) (h : allFees true t = .ok m) (a : Bytes) :
    feeIn true t a = .ok (feeMapGet m a) :=
  (allFees_ok h).get a

/-- fees do not depend on the order of the outputs (also not whether the call panics) -/
theorem fee_in_perm (checks : Bool) (t t' : Tx) (h : t.output.Perm t'.output) (a : Bytes) :
    feeIn checks t a = feeIn checks t' a := by
  rw [feeIn_eq, feeIn_eq, feeSum_perm h]

/-- `all_fees` of a permuted output list: the same entries (as a finite map) -/
theorem all_fees_perm (t t' : Tx) (h : t.output.Perm t'.output) (m : FeeMap) (hm : allFees true t = .ok m) :
    ∃ m', allFees true t' = .ok m' ∧ ∀ a, feeMapGet m' a = feeMapGet m a ∧ (a ∈ m'.map Prod.fst ↔ a ∈ m.map Prod.fst) := by
  -- `all_fees` is determined by `fee_in`, asset by asset, and `fee_in` does not see the order
  have hm := allFees_ok hm
  have hin : ∀ a, feeIn true t' a = .ok (feeMapGet m a) := fun a => (fee_in_perm true t' t h.symm a).trans (hm.get a)
  obtain ⟨m', e', hm'⟩ := allFees_of_feeIn (checks := true) (t := t') fun a => hin a ▸ nofun
  refine ⟨m', e', fun a => ⟨Res.ok.inj ((hm'.get a).symm.trans (hin a)), (hm'.keys a).trans (.trans ?_ (hm.keys a).symm)⟩⟩
  exact exists_congr fun o => and_congr_left fun _ => h.symm.mem_iff

theorem fee_sum_append (xs ys : List TxOut) (a : Bytes) : feeSum (xs ++ ys) a = feeSum xs a + feeSum ys a := by
  simp only [feeSum, feeOutputs, List.filter_append, List.map_append, List.sum_append]

/-- `fee_in` is additive under appending outputs: if it succeeds on the longer transaction it succeeds on both
    parts and adds up -/
theorem fee_in_additive (t : Tx) (more : List TxOut) (a : Bytes) (v : Nat)
    (h : feeIn true { t with output := t.output ++ more } a = .ok v) :
    ∃ v1 v2, feeIn true t a = .ok v1 ∧ feeIn true { t with output := more } a = .ok v2 ∧ v = v1 + v2 := by
  rw [fee_in_checked] at h
  simp only [fee_sum_append] at h
  by_cases hlt : feeSum t.output a + feeSum more a < 2^64
  · rw [if_pos hlt] at h
    refine ⟨feeSum t.output a, feeSum more a, ?_, ?_, by cases h; rfl⟩
    · rw [fee_in_checked, if_pos (Nat.lt_of_le_of_lt (Nat.le_add_right _ _) hlt)]
    · rw [fee_in_checked, if_pos (Nat.lt_of_le_of_lt (Nat.le_add_left _ _) hlt)]
  · rw [if_neg hlt] at h
    cases h

/-- BRIDGE to the sizes: a `new_fee` output is a fee output, is canonical, serializes to exactly 44 bytes,
    contributes `44·scale` (+2 for its empty witness when the transaction has witnesses) to `scaled_size`,
    and nothing to the ELIP-200 discount -/
theorem new_fee_size (P : Prims) (v : Nat) (a : Bytes) (hv : v < 2^64) (ha : a.length = 32) :
    isFee (newFee v a) = true ∧ (newFee v a).wf P ∧ (newFee v a).enc.length = 44 ∧
    (∀ scale wit, Tx.outputScaled scale wit (newFee v a) = scale * 44 + (if wit then 2 else 0)) ∧
    discount (newFee v a) = 0 ∧ isPartiallyBlinded (newFee v a) = false := by
  refine ⟨rfl, newFee_wf P v a hv ha, newFee_enc_length v a ha, fun s w => newFee_outputScaled s w v a, ?_, rfl⟩
  · simp [discount, EV.Proofs.Sizes.discount, newFee, TxOutWitness.enc, TxOutWitness.empty, encOptProof, encBytesVec,
      encVarint, Value.isConf, Nonce.isConf]

/-- any fee output: 43 bytes plus its nonce (1 or 33), plus its witness when witnesses are serialized -/
theorem fee_output_scaled (o : TxOut) (h : isFee o = true) (scale : Nat) (wit : Bool) :
    Tx.outputScaled scale wit o = scale * (43 + o.nonce.encodedLength) + (if wit then o.witness.enc.length else 0) := by
  obtain ⟨hs, ⟨v, hv⟩, ⟨a, ha⟩⟩ := (isFee_iff o).mp h
  rw [txOutWitness_enc_length]
  unfold Tx.outputScaled
  rw [hs, hv, ha]
  simp only [Asset.encodedLength, Value.encodedLength, List.length_nil, varintSize]
  simp only [Nat.zero_le, if_true]
  have e : 33 + 9 + o.nonce.encodedLength + 1 + 0 = 43 + o.nonce.encodedLength := by omega
  rw [e]

/-- appending a `new_fee` output: size +44, weight +176 (+2 with witnesses), plus the growth of the
    output counter; the witness flag is unchanged -/
theorem with_fee_sizes (t : Tx) (v : Nat) (a : Bytes) :
    (withFee t v a).hasWitness = t.hasWitness ∧
    (withFee t v a).size + varintSize t.output.length =
      t.size + varintSize (t.output.length + 1) + 44 + (if t.hasWitness then 2 else 0) ∧
    (withFee t v a).weight + 4 * varintSize t.output.length =
      t.weight + 4 * varintSize (t.output.length + 1) + 176 + (if t.hasWitness then 2 else 0) :=
  ⟨withFee_hasWitness t v a,
   by have := withFee_scaledSize t v a 1; unfold Tx.size; omega,
   by have := withFee_scaledSize t v a 4; unfold Tx.weight; omega⟩

/-- an output that is not partially blinded gets no discount except for a confidential nonce -/
theorem not_blinded_discount (o : TxOut) (h : isPartiallyBlinded o = false) :
    discount o = if o.nonce.isConf then 4 * 32 else 0 := by
  unfold isPartiallyBlinded at h
  simp only [Bool.or_eq_false_iff, Bool.not_eq_eq_eq_not, Bool.not_false] at h
  obtain ⟨⟨_, hv⟩, hw⟩ := h
  unfold TxOutWitness.isEmpty at hw
  rw [Bool.and_eq_true, Option.isNone_iff_eq_none, Option.isNone_iff_eq_none] at hw
  unfold discount EV.Proofs.Sizes.discount
  simp [TxOutWitness.enc, hw.1, hw.2, hv, encOptProof, encBytesVec, encVarint]

/-- the deprecated aliases `get_size` / `get_weight` (transaction and block) are `size` / `weight`, hence
    the serialized length and 3·stripped + full -/
theorem get_size_weight_aliases (t : Tx) (ht : t.wf P) (b : Block) (hb : b.wf P) :
    txGetSize t = t.size ∧ txGetWeight t = t.weight ∧ blockGetSize b = b.size ∧ blockGetWeight b = b.weight ∧
    txGetSize t = t.enc.length ∧ txGetWeight t = 3 * t.encStripped.length + t.enc.length ∧
    blockGetSize b = b.enc.length :=
  ⟨rfl, rfl, rfl, rfl, size_eq P t ht, weight_eq P t ht, block_size_eq P b hb⟩

/-- BRIDGE: the instruction iterator of the accessor model (C10, explicit bounds checks) and the one of
    the script model (C16) are the same function, step by step and run to the end -/
theorem instruction_models_agree (minimal : Bool) (s : Bytes) :
    Acc.step minimal s = stepOfScript (Script.next minimal s) ∧
    Acc.instructions minimal s = .ok (pairOfScript (Script.collect minimal s.length s)) :=
  ⟨EV.Proofs.Accessors.step_eq_next minimal s, EV.Proofs.Accessors.instructions_eq minimal s⟩

/-- EXACT CLASS of `pegout_data`: `Some(d)` exactly when the value is explicit and the iterator reads the
    script, without error, as `OP_RETURN`, a 32-byte push, a non-empty push, then data pushes only; `d`
    is exactly (value, asset, those pushes).  Every other script / value gives `None` (`pegout_data_total`). -/
theorem pegout_data_iff (o : TxOut) (d : PegoutData) :
    pegoutData o = .ok (some d) ↔
      o.value = .explicit d.value ∧ d.asset = o.asset ∧ d.genesisHash.length = 32 ∧ d.scriptPubkey ≠ [] ∧
      Acc.instructions false o.scriptPubkey = .ok (accPegoutInstrs d.genesisHash d.scriptPubkey d.extraData, none) :=
  pegoutData_iff o d

/-- `pegout_data` is total: no panic, no error, on any script and any value/asset -/
theorem pegout_data_total (o : TxOut) : ∃ r, pegoutData o = .ok r := EV.Proofs.Accessors.pegoutData_total o

/-- `is_pegout()` ⇔ `pegout_data().is_some()` -/
theorem is_pegout_iff (o : TxOut) : isPegout o = .ok true ↔ ∃ d, pegoutData o = .ok (some d) := by
  unfold isPegout
  obtain ⟨r, hr⟩ := EV.Proofs.Accessors.pegoutData_total o
  rw [hr]
  cases r <;> simp

/-- PARTIAL INVERSE: for every genesis hash of 32 bytes, non-empty destination script and extra pushes
    (all below 4 GiB), the template script parses back to exactly these components, for every explicit
    value and every asset, nonce and witness -/
theorem pegout_template_roundtrip (g spk : Bytes) (extra : List Bytes) (h : PegoutArgsOk g spk extra)
    (hg : g.length = 32) (hs : spk ≠ []) (asset : Asset) (v : Nat) (nonce : Nonce) (w : TxOutWitness) :
    pegoutData ⟨asset, .explicit v, nonce, pegoutScript g spk extra, w⟩ = .ok (some ⟨v, asset, g, spk, extra⟩) :=
  (pegoutData_iff _ _).mpr ⟨rfl, rfl, hg, hs, instructions_pegoutScript g spk extra h⟩

/-- BRIDGE to the `script::Builder` model (C16): the template is what
    `push_opcode(OP_RETURN).push_slice(genesis).push_slice(script).push_slice(extra)…` writes -/
theorem pegout_template_builder (g spk : Bytes) (extra : List Bytes) (h : PegoutArgsOk g spk extra) :
    Script.build (pegoutBuilderCalls g spk extra) = some (pegoutScript g spk extra) := by
  rw [(EV.Proofs.ScriptBuilder.build_eq_serialize false _ (pegoutBuilderCalls_ok g spk extra h) nofun).1,
    expected_pegoutBuilderCalls]
  rfl

/-- value must be explicit (as coded): a null or confidential value is never a pegout -/
theorem pegout_requires_explicit_value (o : TxOut) (h : ∀ v, o.value ≠ .explicit v) : pegoutData o = .ok none := by
  obtain ⟨r, hr⟩ := EV.Proofs.Accessors.pegoutData_total o
  cases r with
  | none => exact hr
  | some d => exact absurd ((pegoutData_iff o d).mp hr).1 (h d.value)

/-- EXACT CLASS of `from_pegin_witness` and the documented slices: accepted exactly for 6 items with an
    8-byte value, 32-byte asset, 32-byte genesis hash and a proof of at least 80 bytes; the fields are
    items 0..5 verbatim (value little endian), the outpoint is the given one, and the referenced block is
    the hash of the first 80 bytes of the proof -/
theorem from_pegin_witness_iff (H : Bytes → Bytes) (w : List Bytes) (txid : Bytes) (vout : Nat) (d : PeginData) :
    fromPeginWitness H w txid vout = .ok d ↔
      peginWitnessOk w = true ∧
      d = ⟨txid, vout, leNat (w.getD 0 []), w.getD 1 [], w.getD 2 [], w.getD 3 [], w.getD 4 [], w.getD 5 [],
           H ((w.getD 5 []).take 80)⟩ := by
  rcases EV.Proofs.Accessors.fromPeginWitness_cases H w txid vout with ⟨hk, h⟩ | ⟨hk, e, h⟩ <;> rw [h, hk]
  · exact ⟨fun hd => ⟨rfl, (Res.ok.inj hd).symm⟩, fun hd => congrArg Res.ok hd.2.symm⟩
  · exact ⟨nofun, fun hd => Bool.noConfusion hd.1⟩

/-- total: every other witness is an error, never a panic -/
theorem from_pegin_witness_err_iff (H : Bytes → Bytes) (w : List Bytes) (txid : Bytes) (vout : Nat) :
    (∃ e, fromPeginWitness H w txid vout = .err e) ↔ peginWitnessOk w = false := by
  rcases EV.Proofs.Accessors.fromPeginWitness_cases H w txid vout with ⟨hk, h⟩ | ⟨hk, e, h⟩ <;> rw [h, hk]
  · exact ⟨fun he => he.elim nofun, nofun⟩
  · exact ⟨fun _ => rfl, fun _ => ⟨e, rfl⟩⟩

/-- `from_pegin_witness ∘ to_pegin_witness = id` on well-formed data; the witness has the 6 items -/
theorem pegin_witness_roundtrip (H : Bytes → Bytes) (d : PeginData) (h : PeginDataOk H d) :
    (toPeginWitness d).length = EV.Gen.txaccPeginWitnessItems ∧
    fromPeginWitness H (toPeginWitness d) d.outpointTxid d.outpointVout = .ok d := by
  refine ⟨rfl, ?_⟩
  obtain ⟨hv, ha, hg, hm, hr⟩ := h
  rw [toPeginWitness, EV.Proofs.Accessors.fromPeginWitness_six,
    if_neg (show ¬ d.merkleProof.length < 80 from Nat.not_lt.mpr hm),
    if_neg (fun h => h (EV.Proofs.CodecPrim.leBytes_length 8 _)), if_neg (fun h => h ha), if_neg (fun h => h hg),
    EV.Proofs.CodecPrim.leNat_leBytes 8 _ (by omega), ← show d.referencedBlock = H (d.merkleProof.take 80) from hr]

/-- `to_pegin_witness ∘ from_pegin_witness = id`: an accepted witness is reproduced item by item, and what
    was parsed is well formed -/
theorem pegin_witness_roundtrip_inv (H : Bytes → Bytes) (w : List Bytes) (txid : Bytes) (vout : Nat) (d : PeginData)
    (h : fromPeginWitness H w txid vout = .ok d) : toPeginWitness d = w ∧ PeginDataOk H d := by
  obtain ⟨hk, rfl⟩ := (from_pegin_witness_iff H w txid vout d).mp h
  obtain ⟨w0, w1, w2, w3, w4, w5, rfl, h0, h1, h2, h5⟩ := (EV.Proofs.Accessors.peginWitnessOk_iff w).mp hk
  refine ⟨?_, EV.Proofs.CodecPrim.leNat_lt h0, h1, h2, h5, rfl⟩
  show [leBytes 8 (leNat w0), w1, w2, w3, w4, w5] = _
  rw [EV.Proofs.CodecPrim.leBytes_leNat h0]

/-- `TxIn::pegin_data`: `Some` exactly for a pegin input with an accepted witness, parsed against the
    input's own previous output; total -/
theorem pegin_data_iff (H : Bytes → Bytes) (i : TxIn) (d : PeginData) :
    (peginData H i = .ok (some d) ↔
      i.isPegin = true ∧ fromPeginWitness H i.witness.peginWitness i.previousOutput.txid i.previousOutput.vout = .ok d) ∧
    (∃ r, peginData H i = .ok r) ∧ (peginPrevout i = if i.isPegin then some i.previousOutput else none) := by
  refine ⟨?_, EV.Proofs.Accessors.peginData_total H i, rfl⟩
  unfold peginData
  cases i.isPegin with
  | false => simp
  | true =>
    cases fromPeginWitness H i.witness.peginWitness i.previousOutput.txid i.previousOutput.vout <;> simp

/-- pegout ⊂ null data ⊂ OP_RETURN scripts, and fee outputs are disjoint from all three -/
theorem classification_lattice (o : TxOut) :
    (isPegout o = .ok true → outIsNullData o = .ok true) ∧
    (outIsNullData o = .ok true → Acc.isOpReturn o.scriptPubkey = .ok true) ∧
    (isFee o = true → outIsNullData o = .ok false ∧ Acc.isOpReturn o.scriptPubkey = .ok false ∧ isPegout o = .ok false) := by
  refine ⟨fun h => ?_, fun h => ?_, fun h => ?_⟩
  · obtain ⟨d, hd⟩ := (is_pegout_iff o).mp h
    exact (isNullData_true_iff _).mpr ⟨_, ((pegoutData_iff o d).mp hd).2.2.2.2,
      nullDataTail_pushes (d.genesisHash :: d.scriptPubkey :: d.extraData)⟩
  · obtain ⟨rest, e⟩ := isNullData_true_head h
    rw [e]
    rfl
  · have hs := ((isFee_iff o).mp h).1
    have h1 : outIsNullData o = .ok false := by rw [outIsNullData, hs]; decide
    refine ⟨h1, by rw [hs]; decide, ?_⟩
    unfold isPegout pegoutData
    rw [show Acc.isNullData o.scriptPubkey = .ok false from h1]
    rfl

/-- `outpoint_flag` is bit 6 for a pegin and bit 7 for an issuance; BRIDGE to the encoder: it is the top
    byte of the serialized index word -/
theorem outpoint_flag_spec (i : TxIn) :
    outpointFlag i = (if i.isPegin then 64 else 0) + (if i.hasIssuance then 128 else 0) ∧
    i.voutWord = i.previousOutput.vout ||| (outpointFlag i <<< 24) := by
  refine ⟨outpointFlag_eq i, ?_⟩
  rw [outpointFlag_eq]
  unfold TxIn.voutWord
  generalize i.isPegin = p
  generalize i.hasIssuance = q
  cases p <;> cases q <;> simp [Nat.or_assoc]

/-- a canonical coinbase input carries no flags, hence is neither a pegin nor an issuance -/
theorem coinbase_input_no_flags (i : TxIn) (hw : i.wfBody P) (hc : inIsCoinbase i = true) :
    i.isPegin = false ∧ i.hasIssuance = false ∧ outpointFlag i = 0 ∧ peginPrevout i = none := by
  have e : i.previousOutput = OutPoint.null := of_decide_eq_true hc
  obtain ⟨_, hv, _⟩ := hw
  obtain ⟨h1, h2⟩ : i.isPegin = false ∧ i.hasIssuance = false := by
    rcases hv with ⟨h, _⟩ | ⟨_, h1, h2⟩
    · rw [e] at h
      simp [OutPoint.null] at h
    · exact ⟨h1, h2⟩
  refine ⟨h1, h2, ?_, ?_⟩
  · rw [outpointFlag_eq, h1, h2]
    rfl
  · unfold peginPrevout
    rw [h1]
    rfl

/-- `Transaction::is_coinbase` never panics (the index is guarded by the length test) and holds exactly
    for a single input spending the null outpoint -/
theorem tx_is_coinbase_iff (t : Tx) :
    (∃ b, txIsCoinbase t = .ok b) ∧
    (txIsCoinbase t = .ok true ↔ ∃ i, t.input = [i] ∧ i.previousOutput = OutPoint.null) := by
  rw [txIsCoinbase_eq]
  refine ⟨⟨_, rfl⟩, ?_⟩
  match t.input with
  | [] => simp
  | [i] => simp [inIsCoinbase]
  | _ :: _ :: _ => simp

/-- BRIDGE to the encoder: `has_witness` is the flag byte (offset 4) of the serialization -/
theorem has_witness_is_flag_byte (t : Tx) : (t.enc.drop 4).head? = some (if t.hasWitness then 1 else 0) := by
  have hl : (encLe 4 t.version).length = 4 := EV.Proofs.CodecPrim.leBytes_length 4 _
  unfold Tx.enc Tx.encStripped
  cases t.hasWitness with
  | true =>
    simp only [if_true, List.append_assoc]
    rw [List.drop_left' hl]
    rfl
  | false =>
    simp only [Bool.false_eq_true, if_false, List.append_assoc]
    rw [List.drop_left' hl]
    rfl

/-- final ⇔ 0xffffffff; absolute lock time enabled ⇔ not final; RBF ⇔ below 0xfffffffe -/
theorem seq_final_rbf (n : Nat) :
    (seqIsFinal n = true ↔ n = 0xffffffff) ∧ seqEnablesAbsoluteLockTime n = !seqIsFinal n ∧
    (seqIsRbf n = true ↔ n < 0xfffffffe) ∧ (seqIsFinal n = true → seqIsRbf n = false) := by
  have h1 : seqIsFinal n = true ↔ n = 0xffffffff := by simp [seqIsFinal, EV.Gen.txaccSeqMax]
  refine ⟨h1, rfl, by unfold seqIsRbf; exact decide_eq_true_iff, fun h => ?_⟩
  rw [h1.mp h]
  decide

/-- BIP68: bit 31 disables the relative lock time, bit 22 selects time (set) or height (clear);
    a relative lock is exactly one of the two kinds -/
theorem seq_bip68 (n : Nat) :
    seqIsRelativeLockTime n = !n.testBit 31 ∧ seqIsHeightLocked n = (!n.testBit 31 && !n.testBit 22) ∧
    seqIsTimeLocked n = (!n.testBit 31 && n.testBit 22) ∧
    seqIsRelativeLockTime n = (seqIsHeightLocked n != seqIsTimeLocked n) := by
  -- the three predicates are those of `EV.Lock.Sequence` (C08): the same text over the same regenerated masks
  have h1 : seqIsRelativeLockTime n = _ := EV.Proofs.LockTime.isRelativeLockTime_eq ⟨n⟩
  have h2 : seqIsHeightLocked n = _ := EV.Proofs.LockTime.isHeightLocked_eq ⟨n⟩
  have h3 : seqIsTimeLocked n = _ := EV.Proofs.LockTime.isTimeLocked_eq ⟨n⟩
  refine ⟨h1, h2, h3, ?_⟩
  rw [h1, h2, h3]
  cases n.testBit 31 <;> cases n.testBit 22 <;> rfl

/-- the constructors produce what they say: a height lock, a 512-second-interval lock carrying the
    interval in its low 16 bits -/
theorem seq_constructors (x : Nat) (hx : x < 2^16) :
    seqIsHeightLocked (seqFromHeight x) = true ∧ seqFromHeight x = x ∧
    seqIsTimeLocked (seqFrom512 x) = true ∧ seqFrom512 x % 2^16 = x ∧ seqFrom512 x < 2^32 := by
  -- `seqFromHeight x`, `seqFrom512 x` are the numbers of `Sequence::from_height`, `from_512_second_intervals` of C08
  obtain ⟨a31, a22⟩ := EV.Proofs.LockTime.fromHeight_bits x hx
  obtain ⟨b31, b22⟩ := EV.Proofs.LockTime.from512_bits x hx
  have hn : seqFrom512 x = x + 2^22 := EV.Proofs.LockTime.from512_n x hx
  refine ⟨?_, rfl, ?_, EV.Proofs.LockTime.from512_mod x hx, by omega⟩
  · have h := EV.Proofs.LockTime.isHeightLocked_eq (EV.Lock.Sequence.fromHeight x)
    rw [a31, a22] at h
    exact h
  · have h := EV.Proofs.LockTime.isTimeLocked_eq (EV.Lock.Sequence.from512SecondIntervals x)
    rw [b31, b22] at h
    exact h

/-- `from_seconds_floor` / `from_seconds_ceil`: 512-second granularity, error exactly when the interval
    count does not fit 16 bits -/
theorem seq_from_seconds (s : Nat) :
    seqFromSecondsFloor s = (if s / 512 < 2^16 then .ok (seqFrom512 (s / 512)) else .err "IntegerOverflow") ∧
    seqFromSecondsCeil s = (if (s + 511) / 512 < 2^16 then .ok (seqFrom512 ((s + 511) / 512)) else .err "IntegerOverflow") ∧
    s / 512 * 512 ≤ s ∧ s ≤ (s + 511) / 512 * 512 ∧ (s + 511) / 512 * 512 < s + 512 := by
  refine ⟨rfl, rfl, Nat.div_mul_le_self s 512, ?_⟩
  omega

/-! non-vacuity and strictness of the lattice -/

/-- two fee outputs in one asset and one in another; the confidential-value output does not count -/
example : allFees true ⟨2, 0, [], [newFee 5 [1], newFee 7 [2], newFee 6 [1],
    ⟨.explicit [1], .conf [9], .null, [], TxOutWitness.empty⟩]⟩ = .ok [([1], 11), ([2], 7)] := by decide +kernel
example : feeIn true ⟨2, 0, [], [newFee 5 [1], newFee 7 [2], newFee 6 [1]]⟩ [1] = .ok 11 := by decide +kernel
/-- overflow: panic with checks, wrap without -/
example : feeIn true ⟨2, 0, [], [newFee (2^64 - 1) [1], newFee 2 [1]]⟩ [1] = .panic feeOverflowSite := by
  rw [fee_in_checked, if_neg (by decide +kernel)]
example : feeIn false ⟨2, 0, [], [newFee (2^64 - 1) [1], newFee 2 [1]]⟩ [1] = .ok 1 := by decide +kernel
example : ∃ a, 2^64 ≤ feeSum [newFee (2^64 - 1) [1], newFee 2 [1]] a := ⟨[1], by decide +kernel⟩
example : ∀ a, feeSum [newFee 5 [1], newFee 7 [2]] a < 2^64 := by
  intro a
  simp only [EV.Proofs.TxAccessors.feeSum_cons, EV.Proofs.TxAccessors.feeSum_nil]
  have : ∀ (c : Bool) (x : Nat), (if c = true then x else 0) ≤ x := by intro c x; cases c <;> simp
  have h1 := this (EV.Proofs.TxAccessors.sel a (newFee 5 [1])) (explicitValueD (newFee 5 [1]))
  have h2 := this (EV.Proofs.TxAccessors.sel a (newFee 7 [2])) (explicitValueD (newFee 7 [2]))
  have e1 : explicitValueD (newFee 5 [1]) = 5 := rfl
  have e2 : explicitValueD (newFee 7 [2]) = 7 := rfl
  omega
example : PegoutArgsOk (List.replicate 32 7) [0x51] [[], [5]] ∧ (List.replicate 32 7).length = 32 := by
  refine ⟨⟨by decide +kernel, by decide +kernel, ?_⟩, by decide +kernel⟩
  intro e he
  simp at he
  rcases he with rfl | rfl <;> decide
example : pegoutScript (List.replicate 32 7) [0x51] [[], [5]] =
    [0x6a, 32] ++ List.replicate 32 7 ++ [1, 0x51, 0, 1, 5] := by decide +kernel
example : PeginDataOk (fun b => b) ⟨List.replicate 32 1, 3, 1000, List.replicate 32 2, List.replicate 32 3, [0x51], [9],
    List.replicate 80 4, List.replicate 80 4⟩ := by unfold PeginDataOk; decide
example : peginWitnessOk [List.replicate 8 0, List.replicate 32 2, List.replicate 32 3, [], [], List.replicate 80 4] = true := by decide +kernel
example : peginWitnessOk [List.replicate 8 0, List.replicate 32 2, List.replicate 32 3, [], [], List.replicate 79 4] = false := by decide +kernel
/-- strictness: OP_RETURN script that is not null data; null data that is no pegout; a pegout -/
example : Acc.isOpReturn [0x6a, 0x61] = .ok true ∧ Acc.isNullData [0x6a, 0x61] = .ok false := by decide +kernel
example : outIsNullData ⟨.null, .explicit 1, .null, [0x6a, 0x51], TxOutWitness.empty⟩ = .ok true ∧
    isPegout ⟨.null, .explicit 1, .null, [0x6a, 0x51], TxOutWitness.empty⟩ = .ok false := by decide +kernel
example : isPegout ⟨.null, .explicit 1, .null, pegoutScript (List.replicate 32 7) [0x51] [], TxOutWitness.empty⟩ = .ok true := by decide +kernel
example : isFee (newFee 1 (List.replicate 32 0)) = true := rfl
/-- a coinbase input that is canonical -/
example : inIsCoinbase ⟨OutPoint.null, false, [], 0xffffffff, AssetIssuance.null, TxInWitness.empty⟩ = true := by decide +kernel
example : seqFromSecondsFloor 33554431 = .ok (65535 ||| 0x400000) ∧ (seqFromSecondsCeil 33554431).isOk = false := by decide +kernel

end TxAccessors

/-! ### bridge to C08: the size of an extracted PSET transaction

  `PartiallySignedTransaction::extract_tx` (C08, model `Pset.extractTx`) assembles a `Transaction` from
  PSET fields; `Transaction::size`/`weight`/`vsize` (above) and the codec laws (C01) speak about canonical
  transactions.  `PsetFieldsOk` states canonicity on the PSET FIELDS: global `tx_version` and every stated lock
  time are `u32`s, the two vector bounds, and per input / output `InputFieldsOk` / `OutputFieldsOk`, which are
  *equivalent* to the canonicity of the `TxIn` / `TxOut` that `extract_tx` builds. -/
section PsetBridge
open EV.Proofs.BridgePsetSize

/-- the per-input field conditions (`previous_txid` 32 bytes; an index with low 30 bits all ones and
    the pegin bit set allows no issuance; `final_script_sig` within `MAX_VEC_SIZE`; `sequence` a `u32`;
    with an issuance: nonce accepted by `Tweak::from_inner`, 32-byte entropy, valid amounts — without:
    nonce/entropy absent or zero; issuance range proofs valid; witness stacks within bounds) hold
    exactly when the `TxIn` built by `extract_tx` is canonical -/
theorem extract_tx_input_fields_iff (i : PsetInput) : InputFieldsOk P i ↔ i.toTxIn.wf P :=
  inputFieldsOk_iff P i

/-- the per-output field conditions (asset id 32 bytes / generator valid, amount `u64` / commitment
    valid, compressed `ecdh_pubkey` a valid 33-byte nonce, script within `MAX_VEC_SIZE`, proofs valid)
    hold exactly when the `TxOut` built by `extract_tx` is canonical -/
theorem extract_tx_output_fields_iff (o : PsetOutput) (t : TxOut) (h : o.extract = .ok t) :
    OutputFieldsOk P o ↔ t.wf P := by
  rw [EV.Proofs.PsetExtract.extract_eq_outOf o t h]
  exact outputFieldsOk_iff P o

/-- `PartiallySignedTransaction::locktime` returns a `u32` when the fallback and every per-input
    requirement are `u32`s (it returns one of them, or 0) -/
theorem extract_tx_locktime_u32 (p : Pset) (lt : Nat) (hl : LockFieldsOk p) (h : p.locktime = .ok lt) :
    lt < 2^32 := locktime_lt p lt hl h

/-- **`PartiallySignedTransaction::extract_tx` of a PSET whose fields are in range returns a canonical
    transaction** -/
theorem extract_tx_wf (p : Pset) (t : Tx) (h : p.extractTx = .ok t) (hp : PsetFieldsOk P p) : t.wf P := by
  obtain ⟨h1, hl, h3, h4, h5, h6⟩ := hp
  have hlt := (EV.Proofs.PsetExtract.extractTx_ok h).lockTime
  exact (extract_wf_iff P p t h).2 ⟨h1, locktime_lt p t.lockTime hl hlt, h3, h4, h5, h6⟩

/-- exactness: for a successful `extract_tx` the result is canonical **iff** version and selected lock
    time are `u32`s, the vector bounds hold and every input and output satisfies its field conditions -/
theorem extract_tx_wf_iff (p : Pset) (t : Tx) (h : p.extractTx = .ok t) :
    t.wf P ↔
      (p.global.txVersion < 2^32 ∧ t.lockTime < 2^32 ∧
       p.inputs.length * P.sizeTxIn ≤ maxVecSize ∧ p.outputs.length * P.sizeTxOut ≤ maxVecSize ∧
       (∀ i ∈ p.inputs, InputFieldsOk P i) ∧ (∀ o ∈ p.outputs, OutputFieldsOk P o)) :=
  extract_wf_iff P p t h

/-- **`Transaction::size()` of what `extract_tx` returns is the number of bytes its consensus
    serialization writes** -/
theorem extract_tx_size_eq (p : Pset) (t : Tx) (h : p.extractTx = .ok t) (hp : PsetFieldsOk P p) :
    t.size = t.enc.length := size_eq P t (extract_tx_wf P p t h hp)

/-- `Transaction::weight()` of the extracted transaction = 3 × witness-stripped length + full length -/
theorem extract_tx_weight_eq (p : Pset) (t : Tx) (h : p.extractTx = .ok t) (hp : PsetFieldsOk P p) :
    t.weight = 3 * t.encStripped.length + t.enc.length := weight_eq P t (extract_tx_wf P p t h hp)

/-- `Transaction::vsize()` of the extracted transaction is that weight divided by 4, rounded up -/
theorem extract_tx_vsize_bracket (p : Pset) (t : Tx) (h : p.extractTx = .ok t) (hp : PsetFieldsOk P p) :
    3 * t.encStripped.length + t.enc.length ≤ 4 * t.vsize ∧
    4 * t.vsize < 3 * t.encStripped.length + t.enc.length + 4 := by
  rw [← extract_tx_weight_eq P p t h hp]
  exact (vsize_eq t).2

/-- **what `extract_tx` returns is serializable and decodes back to itself** (C01 round trip): the
    partial decoder stops exactly at its end, `deserialize` returns it -/
theorem extract_tx_roundtrip (hs : SizesPos P) (p : Pset) (t : Tx) (h : p.extractTx = .ok t)
    (hp : PsetFieldsOk P p) :
    (∀ rest, Tx.dec P (t.enc ++ rest) = .ok (t, rest)) ∧ Tx.deserialize P t.enc = .ok t :=
  ⟨fun rest => (tx_lawful P hs).complete t rest (extract_tx_wf P p t h hp),
    by rw [Tx.deserialize, (tx_lawful P hs).complete_nil (extract_tx_wf P p t h hp)]⟩

/-- the witness flag of the extracted transaction from the PSET fields: some input has an issuance
    range proof or a non-empty final script / pegin witness, or some output has a proof -/
theorem extract_tx_has_witness (p : Pset) (t : Tx) (h : p.extractTx = .ok t) :
    t.hasWitness =
      (p.inputs.any (fun i => i.issuanceValueRangeproof.isSome || i.issuanceKeysRangeproof.isSome ||
          !(i.finalScriptWitness.getD []).isEmpty || !(i.peginWitness.getD []).isEmpty) ||
       p.outputs.any (fun o => o.assetSurjectionProof.isSome || o.valueRangeproof.isSome)) :=
  extract_hasWitness p t h

/-- **the serialized length of `extract_tx`'s result as a sum over the PSET's inputs and outputs**
    (`outOf o` is the `TxOut` built from output `o`: `extract_tx_output_of`) -/
theorem extract_tx_size_formula (p : Pset) (t : Tx) (h : p.extractTx = .ok t) (hp : PsetFieldsOk P p) :
    t.enc.length =
      9 + varintSize p.inputs.length + varintSize p.outputs.length +
      (p.inputs.map (fun i => Tx.inputScaled 1 (pHasWitness p) i.toTxIn)).sum +
      (p.outputs.map (fun o => Tx.outputScaled 1 (pHasWitness p) (outOf o))).sum := by
  rw [← extract_tx_size_eq P p t h hp]
  unfold Tx.size
  rw [extract_scaledSize_formula p t h 1]
  omega

/-- `outOf`, field by field -/
theorem extract_tx_output_of (p : Pset) (t : Tx) (h : p.extractTx = .ok t) :
    t.input = p.inputs.map PsetInput.toTxIn ∧ t.output = p.outputs.map outOf ∧
    ∀ o, outOf o = ⟨PsetOutput.pairAsset o.asset o.assetComm, PsetInput.pairValue o.amount o.amountComm,
      PsetOutput.nonceOf o.ecdhPubkey, o.scriptPubkey, ⟨o.assetSurjectionProof, o.valueRangeproof⟩⟩ := by
  have ht := EV.Proofs.PsetExtract.extractTx_ok h
  exact ⟨ht.input, ht.output, fun _ => rfl⟩

/-- converse: **every PSET made by `PartiallySignedTransaction::from_tx` from a canonical transaction
    satisfies the field conditions** (no side condition on nonces or witness placement) -/
theorem from_tx_fields_ok (t : Tx) (h : t.wf P) : PsetFieldsOk P (Pset.fromTx t) := fromTx_fieldsOk P t h

/-- whatever `extract_tx(from_tx(tx))` returns for a canonical `tx` (`tx` itself on the class
    `Rt` of C08; otherwise `tx` with the nonces that `from_txout` does not carry nulled) is canonical and
    reports its serialized length as its size -/
theorem from_tx_extract_size (t t' : Tx) (h : t.wf P) (he : (Pset.fromTx t).extractTx = .ok t') :
    t'.wf P ∧ t'.size = t'.enc.length :=
  ⟨extract_tx_wf P _ t' he (fromTx_fieldsOk P t h), extract_tx_size_eq P _ t' he (fromTx_fieldsOk P t h)⟩

/-! non-vacuity: a literal PSET with a pegin input carrying an issuance, a height requirement and
    witnesses, a plain input, an explicit output and a blinded output with an uncompressed ECDH key -/

/-- concrete primitives: a commitment / generator / key "parses" iff it has 33 bytes, a tweak iff 32;
    proofs always; `size_of` values of a 64-bit build -/
def exPrims : Prims :=
  ⟨fun b => b.length == 33, fun b => b.length == 33, fun b => b.length == 33, fun b => b.length == 32,
   fun _ => true, fun _ => true, 328, 160, 56⟩

def exPset : Pset :=
  { global := { txVersion := 2, fallbackLocktime := some 7, inputCount := 2, outputCount := 2 }
    inputs := [
      { previousTxid := List.replicate 32 7, previousOutputIndex := 5 + 2^30 + 2^31,
        sequence := some 0xfffffffe, finalScriptSig := some [0x51], requiredHeightLocktime := some 500000,
        issuanceValueAmount := some 1000, issuanceAssetEntropy := some (List.replicate 32 9),
        finalScriptWitness := some [[1, 2, 3]], peginWitness := some [[4]] },
      { previousTxid := List.replicate 32 8, previousOutputIndex := 0 } ]
    outputs := [
      { asset := some (List.replicate 32 1), amount := some 5, scriptPubkey := [0x51] },
      { assetComm := some (0x0a :: List.replicate 32 1), amountComm := some (8 :: List.replicate 32 2),
        amount := some (2^64), ecdhPubkey := some (4 :: List.replicate 64 3), scriptPubkey := [0x51],
        valueRangeproof := some [1], assetSurjectionProof := some [2] } ] }

/-- what `extract_tx` returns for it: lock time = the height requirement, flags out of the index, the
    commitment shadows the (out-of-range) explicit amount, the ECDH key compressed -/
def exTx : Tx :=
  ⟨2, 500000,
   [⟨⟨List.replicate 32 7, 5⟩, true, [0x51], 0xfffffffe,
     ⟨List.replicate 32 0, List.replicate 32 9, .explicit 1000, .null⟩, ⟨none, none, [[1, 2, 3]], [[4]]⟩⟩,
    ⟨⟨List.replicate 32 8, 0⟩, false, [], 0xffffffff, AssetIssuance.null, TxInWitness.empty⟩],
   [⟨.explicit (List.replicate 32 1), .explicit 5, .null, [0x51], TxOutWitness.empty⟩,
    ⟨.conf (0x0a :: List.replicate 32 1), .conf (8 :: List.replicate 32 2), .conf (3 :: List.replicate 32 3),
     [0x51], ⟨some [2], some [1]⟩⟩]⟩

example : PsetFieldsOk exPrims exPset := by decide +kernel
example : exPset.extractTx = .ok exTx := by decide +kernel
example : SizesPos exPrims := ⟨by decide +kernel, by decide +kernel, by decide +kernel⟩
example : exTx.size = 334 ∧ exTx.enc.length = 334 ∧ exTx.encStripped.length = 314 ∧
    exTx.weight = 3 * 314 + 334 ∧ exTx.vsize = 319 := by decide +kernel
example : Tx.deserialize exPrims exTx.enc = .ok exTx :=
  (extract_tx_roundtrip exPrims ⟨by decide +kernel, by decide +kernel, by decide +kernel⟩ exPset exTx (by decide +kernel) (by decide +kernel)).2
/-- strictness: each kind of condition can fail — a version beyond `u32`, a lock-time requirement beyond
    `u32`, an issuance on the coinbase index, a stray nonce without an issuance, a 31-byte asset id -/
example : ¬ PsetFieldsOk exPrims { exPset with global := { exPset.global with txVersion := 2^32 } } := by decide +kernel
example : ¬ PsetFieldsOk exPrims { exPset with inputs := [{ requiredTimeLocktime := some (2^32) }, {}] } := by decide +kernel
example : ¬ InputFieldsOk exPrims { previousOutputIndex := 0xffffffff, issuanceValueAmount := some 1 } := by decide +kernel
example : ¬ InputFieldsOk exPrims { issuanceBlindingNonce := some (List.replicate 32 1) } := by decide +kernel
example : InputFieldsOk exPrims { issuanceBlindingNonce := some (List.replicate 32 0) } := by decide +kernel
example : ¬ OutputFieldsOk exPrims { asset := some (List.replicate 31 1), amount := some 1 } := by decide +kernel

end PsetBridge

end EV.Props.C12
