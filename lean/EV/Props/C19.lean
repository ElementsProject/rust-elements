/-
  C19 — dynafed parameter roots survive compaction and match the commitment layout.
  `H.sha256d` and `H.comb` are parameters; `none` would be a panic of the Rust code.
-/
import EV.Model.Block
import EV.Proofs.FastMerkle
namespace EV.Props.C19
open EV EV.Codec

variable (H : Hashes)

/-- two- and three-leaf fast merkle roots, computed by the loop as coded -/
theorem fmr_two (a b : Bytes) : H.fmr [a, b] = some (H.comb a b) :=
  Proofs.FastMerkle.fast_two H.comb _ a b

theorem fmr_three (a b c : Bytes) : H.fmr [a, b, c] = some (H.comb (H.comb a b) c) :=
  Proofs.FastMerkle.fast_three H.comb _ a b c

/-- the commitment layout: two-level commitment to (signblockscript, witness limit) and to
    (fedpeg program, fedpeg script, extension space) -/
theorem root_layout (f : FullParams) :
    f.calculateRoot H = some (H.comb
      (H.comb (H.sha256d (encBytesVec f.signblockscript)) (H.sha256d (encLe 4 f.signblockWitnessLimit)))
      (H.comb (H.comb (H.sha256d (encBytesVec f.fedpegProgram)) (H.sha256d (encBytesVec f.fedpegscript)))
              (H.sha256d (encBytesVecVec f.extensionSpace)))) := by
  simp [FullParams.calculateRoot, FullParams.extraRoot, fmr_two, fmr_three]

theorem extraRoot_layout (f : FullParams) :
    f.extraRoot H = some (H.comb (H.comb (H.sha256d (encBytesVec f.fedpegProgram)) (H.sha256d (encBytesVec f.fedpegscript)))
              (H.sha256d (encBytesVecVec f.extensionSpace))) := by
  simp [FullParams.extraRoot, fmr_three]

/-- `Params::calculate_root` on the `Full` variant is `FullParams::calculate_root` -/
theorem full_root_eq (f : FullParams) : (Params.full f).calculateRoot H = f.calculateRoot H := by
  cases f
  simp [Params.calculateRoot, Params.extraRoot, FullParams.calculateRoot]

/-- compaction never changes the root -/
theorem compact_root_eq (f : FullParams) :
    ∃ c, f.intoCompact H = some c ∧ c.calculateRoot H = (Params.full f).calculateRoot H ∧
         c.calculateRoot H = f.calculateRoot H := by
  refine ⟨_, by rw [FullParams.intoCompact, extraRoot_layout], ?_⟩
  rw [full_root_eq, and_self, root_layout]
  simp [Params.calculateRoot, Params.extraRoot, fmr_two]

/-- `Params::into_compact`: null has none, compact is itself, full is compacted; roots agree -/
theorem into_compact_root (p : Params) :
    ∃ r, p.intoCompact H = some r ∧ ∀ c, r = some c → c.calculateRoot H = p.calculateRoot H := by
  cases p with
  | null => exact ⟨none, rfl, by simp⟩
  | compact s l e =>
    refine ⟨some (.compact s l e), rfl, fun c hc => ?_⟩
    cases hc
    rfl
  | full f =>
    obtain ⟨c, hc, h1, _⟩ := compact_root_eq H f
    refine ⟨some c, by simp [Params.intoCompact, hc], fun c' hc' => ?_⟩
    cases hc'
    exact h1

/-- the elided root carried by the compact form is the extra root of the full form -/
theorem compact_elided_root (f : FullParams) :
    f.intoCompact H = (f.extraRoot H).map (fun er => .compact f.signblockscript f.signblockWitnessLimit er) := by
  simp only [FullParams.intoCompact]
  cases f.extraRoot H <;> rfl

theorem null_root_zero : Params.null.calculateRoot H = some (List.replicate 32 0) := rfl

/-- a compact entry commits to (script, limit) and to the elided root it carries -/
theorem compact_root_layout (s : Bytes) (l : Nat) (e : Bytes) :
    (Params.compact s l e).calculateRoot H =
      some (H.comb (H.comb (H.sha256d (encBytesVec s)) (H.sha256d (encLe 4 l))) e) := by
  simp [Params.calculateRoot, Params.extraRoot, fmr_two]

/-- root computation never panics -/
theorem root_no_panic (p : Params) : p.calculateRoot H ≠ none := by
  cases p with
  | null => simp [Params.calculateRoot]
  | compact s l e => simp [compact_root_layout]
  | full f =>
    rw [full_root_eq, root_layout]
    exact Option.some_ne_none _

/-- a header's dynafed root is the fast-merkle root of the current and proposed roots; legacy: none -/
theorem header_root_def (h : BlockHeader) :
    h.dynafedParamsRoot H =
      match h.ext with
      | .proof _ _ => some none
      | .dynafed c p _ =>
        match c.calculateRoot H, p.calculateRoot H with
        | some rc, some rp => some (some (H.comb rc rp))
        | _, _ => none := by
  unfold BlockHeader.dynafedParamsRoot
  cases h.ext with
  | proof c s => rfl
  | dynafed c p w =>
    simp only
    cases c.calculateRoot H <;> cases p.calculateRoot H <;> simp [fmr_two]

theorem header_root_no_panic (h : BlockHeader) : h.dynafedParamsRoot H ≠ none := by
  rw [header_root_def]
  cases h.ext with
  | proof c s => simp
  | dynafed c p w =>
    obtain ⟨rc, hc⟩ := Option.ne_none_iff_exists'.1 (root_no_panic H c)
    obtain ⟨rp, hp⟩ := Option.ne_none_iff_exists'.1 (root_no_panic H p)
    simp only [hc, hp]
    exact Option.some_ne_none _

/-- non-vacuity: the Elements Core test vector shape (scripts of one opcode, two extension entries) -/
example : ∃ c, (FullParams.mk [1] 2 [3] [4] [[5, 6], [7]]).intoCompact H = some c :=
  let ⟨c, hc, _⟩ := compact_root_eq H (FullParams.mk [1] 2 [3] [4] [[5, 6], [7]])
  ⟨c, hc⟩

end EV.Props.C19
