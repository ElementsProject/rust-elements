/-
  C03 — signature hashes follow the Elements legacy, segwit-v0 and taproot algorithms.

  Model: `EV/Model/Sighash.lean`.  Part 1 is src/sighash.rs AS CODED (`msgLegacy`, `msgSegwit`,
  `msgTaproot` = the bytes the three `*encode*_signing_data_to` functions write; `legacySighash`,
  `segwitSighash`, `taprootSighash` = the digests).  Part 2 is an INDEPENDENT transcription of the
  specifications (Core's `CTransactionSignatureSerializer` / `SignatureHash`, BIP143 + issuance
  extension, BIP341 + Elements extensions): the record of committed fields (`LegacyView`,
  `SegwitView`, `TaprootView`) is assembled from the numeric hash type with the masks of the
  specifications and then serialised (`serLegacy`, `serSegwit`, `serTaproot`).
  The hash functions are parameters (`SigHashes`); a collision is
  `Collision f := ∃ x y, x ≠ y ∧ f x = f y`.

  After the four groups of clauses: the transport of the correspondence run, and the bridges to C15 (the leaf hash
  of a script-path spend) and to C01/C02 (the encoders of the messages).
-/
import EV.Proofs.SighashAgree
import EV.Proofs.SighashCommitsT
import EV.Proofs.SighashErrors
import EV.Proofs.MemTx
import EV.Proofs.BridgeTapLeaf
import EV.Proofs.BridgeSighashCodec
import EV.Driver.SighashUtil
import EV.Driver.C15
namespace EV.Props.C03
open EV EV.Codec EV.Sighash EV.Proofs.CodecTx

variable (P : Prims) (H : SigHashes)

/-! ### 1. as coded = specification -/

/-- LEGACY message: for an existing input (and, with SIGHASH_SINGLE, an existing output at its
    index) the bytes written by `encode_legacy_signing_data_to` are the serialization of the record
    Core's index-driven `CTransactionSignatureSerializer` describes, followed by the hash type -/
theorem legacy_msg_refines (tx : Tx) (idx : Nat) (script : Bytes) (ty : EcdsaTy) (h : InRange ty idx tx) :
    msgLegacy tx idx script ty = .ok (serLegacy (specLegacyView tx idx script ty.asU32)) ∧
    msgLegacy tx idx script ty = specLegacy tx idx script ty.asU32 := by
  have h1 := legacy_refines tx idx script ty h
  exact ⟨h1, by rw [h1, specLegacy, if_neg (not_not_intro h.1)]⟩

/-- LEGACY digest: `legacy_sighash` equals Core's `SignatureHash(SigVersion::BASE)` for every
    existing input, INCLUDING SIGHASH_SINGLE without a corresponding output (the constant ONE) -/
theorem legacy_digest_refines (tx : Tx) (idx : Nat) (script : Bytes) (ty : EcdsaTy) (h : idx < tx.input.length) :
    legacySighash H tx idx script ty = specLegacySighash H tx idx script ty.asU32 :=
  Sighash.legacy_digest_refines H tx idx script ty h

/-- the documented panic of the legacy functions = Core's `assert(nIn < txTo.vin.size())` -/
theorem legacy_out_of_range_panics (tx : Tx) (idx : Nat) (script : Bytes) (ty : EcdsaTy) (h : ¬ idx < tx.input.length) :
    (∃ s, msgLegacy tx idx script ty = .panic s) ∧ (∃ s, specLegacy tx idx script ty.asU32 = .panic s) ∧
    (∃ s, legacySighash H tx idx script ty = .panic s) ∧ (∃ s, specLegacySighash H tx idx script ty.asU32 = .panic s) :=
  ⟨⟨_, if_pos h⟩, ⟨_, if_pos h⟩, ⟨_, if_pos h⟩, ⟨_, if_pos h⟩⟩

/-- SEGWIT v0: BIP143 with the issuance extension.  The code hashes its cached SHA-256 values once
    more where BIP143 says double SHA-256 (`Dbl H : ∀ x, sha256d x = sha256 (sha256 x)`) -/
theorem segwit_msg_refines (hd : Dbl H) (tx : Tx) (idx : Nat) (sc : Bytes) (v : Value) (ty : EcdsaTy)
    (h : idx < tx.input.length) :
    ∃ vw, specSegwitView tx idx sc v ty.asU32 = some vw ∧ msgSegwit H tx idx sc v ty = .ok (serSegwit H vw) ∧
      specSegwit H tx idx sc v ty.asU32 = msgSegwit H tx idx sc v ty := by
  obtain ⟨vw, h1, h2⟩ := segwit_refines H hd tx idx sc v ty h
  exact ⟨vw, h1, h2, (segwit_msg_eq_spec H hd tx idx sc v ty h).symm⟩

/-- the documented panic of the segwit functions -/
theorem segwit_out_of_range_panics (tx : Tx) (idx : Nat) (sc : Bytes) (v : Value) (ty : EcdsaTy)
    (h : ¬ idx < tx.input.length) :
    (∃ s, msgSegwit H tx idx sc v ty = .panic s) ∧ (∃ s, specSegwit H tx idx sc v ty.asU32 = .panic s) := by
  have hme : tx.input[idx]? = none := List.getElem?_eq_none_iff.mpr (Nat.le_of_not_lt h)
  constructor
  · unfold msgSegwit
    simp only [hme]
    exact ⟨_, rfl⟩
  · unfold specSegwit specSegwitView
    simp only [hme]
    exact ⟨_, rfl⟩

/-- TAPROOT: for the seven hash types `SchnorrSighashType::from_u8` accepts, the bytes written by
    `taproot_encode_signing_data_to` — and every error, in the same order — are those of the
    Elements taproot signature message (genesis hash twice, hash type, version, lock time,
    sha_outpoint_flags, sha_prevouts, sha_asset_amounts, sha_scriptpubkeys, sha_sequences,
    sha_issuances, sha_issuance_rangeproofs, sha_outputs, sha_output_witnesses, spend_type, input
    data or index, sha_annex, single output + witness hashes, leaf hash, key version, codesep) -/
theorem taproot_msg_refines (tx : Tx) (idx : Nat) (pv : Prevouts) (annex : Option Bytes)
    (leaf : Option (Bytes × Nat)) (ty : SchnorrTy) (genesis : Bytes) (hty : ty ≠ .reserved) :
    msgTaproot H tx idx pv annex leaf ty genesis = specTaproot H tx idx pv annex leaf ty.byte genesis :=
  taproot_refines H tx idx pv annex leaf ty genesis hty

/-- `from_u8` is the inverse of the `as u8` cast on exactly those seven types -/
theorem schnorr_from_u8_table :
    (∀ ty ∈ SchnorrTy.standard, SchnorrTy.fromU8 ty.byte = some ty) ∧
    (∀ n, n < 256 → ∀ ty, SchnorrTy.fromU8 n = some ty → ty.byte = n ∧ ty ∈ SchnorrTy.standard) := by
  -- every row of the table names a standard type whose byte is the row's key
  have row : ∀ p ∈ Gen.schnorrFromU8Table, ∀ ty, SchnorrTy.ofName p.2 = some ty →
      ty.byte = p.1 ∧ ty ∈ SchnorrTy.standard := by decide
  refine ⟨by decide, fun n _ ty h => ?_⟩
  unfold SchnorrTy.fromU8 at h
  cases hf : Gen.schnorrFromU8Table.find? (fun p => p.1 == n) with
  | none => rw [hf] at h; cases h
  | some p =>
    rw [hf] at h
    have hn : p.1 = n := by simpa using List.find?_some hf
    exact hn ▸ row p (List.mem_of_find?_eq_some hf) ty h

/-- the key-spend and script-spend wrappers are the general function with no annex, and no leaf resp.
    the given leaf hash with code separator position `0xFFFFFFFF` -/
theorem taproot_wrappers (tx : Tx) (idx : Nat) (pv : Prevouts) (ty : SchnorrTy) (g lh : Bytes) :
    taprootKeySighash H tx idx pv ty g = taprootSighash H tx idx pv none none ty g ∧
    taprootScriptSighash H tx idx pv lh ty g = taprootSighash H tx idx pv none (some (lh, 0xFFFFFFFF)) ty g :=
  ⟨rfl, rfl⟩

/-! ### 2. fields the algorithms do not commit to -/

/-- LEGACY.  `legacyAgree ty idx a b` (EV/Proofs/SighashDefs.lean) says: same version and lock time;
    the signed input has the same outpoint, pegin flag, issuance and sequence; unless ANYONECANPAY all
    inputs have the same outpoint, pegin flag, issuance — and, for ALL only, sequence; the outputs
    (without witnesses) agree: all of them (ALL), the one at the input's index (SINGLE), none (NONE).
    Everything else — every `script_sig`, all four witness fields of every input, output witnesses,
    other inputs under ANYONECANPAY, other sequences under NONE/SINGLE, other outputs under
    NONE/SINGLE — does not influence the message (nor the panic, nor the SINGLE constant) -/
theorem legacy_ignores (ty : EcdsaTy) (idx : Nat) (script : Bytes) (a b : Tx) (h : legacyAgree ty idx a b) :
    msgLegacy a idx script ty = msgLegacy b idx script ty ∧
    legacySighash H a idx script ty = legacySighash H b idx script ty :=
  ⟨msgLegacy_ignores ty idx script a b h, legacySighash_ignores H ty idx script a b h⟩

/-- SEGWIT v0.  `segwitAgree`: as for legacy, except that the pegin flag of NO input is committed -/
theorem segwit_ignores (ty : EcdsaTy) (idx : Nat) (sc : Bytes) (v : Value) (a b : Tx) (h : segwitAgree ty idx a b) :
    msgSegwit H a idx sc v ty = msgSegwit H b idx sc v ty ∧
    segwitSighash H a idx sc v ty = segwitSighash H b idx sc v ty :=
  ⟨msgSegwit_ignores H ty idx sc v a b h, segwitSighash_ignores H ty idx sc v a b h⟩

/-- TAPROOT.  `taprootAgree`: same version, lock time, same outcome of the prevout-count check;
    with ANYONECANPAY the signed input has the same outpoint, pegin flag, sequence, issuance (and, if
    it has one, issuance range proofs) and its spent output the same asset, amount and script;
    otherwise all inputs have the same outpoint, pegin flag, issuance, sequence, issuance range
    proofs and all spent outputs the same asset, amount, script; the outputs WITH witnesses agree:
    all (DEFAULT/ALL), the one at the input's index (SINGLE), none (NONE).
    Not committed: every `script_sig`, script witness and pegin witness, nonces and witnesses of
    spent outputs, other inputs/spent outputs under ANYONECANPAY, other outputs under NONE/SINGLE -/
theorem taproot_ignores (ty : SchnorrTy) (idx : Nat) (annex : Option Bytes) (leaf : Option (Bytes × Nat)) (g : Bytes)
    (a b : Tx) (pa pb : Prevouts) (h : taprootAgree ty idx a b pa pb) :
    msgTaproot H a idx pa annex leaf ty g = msgTaproot H b idx pb annex leaf ty g ∧
    taprootSighash H a idx pa annex leaf ty g = taprootSighash H b idx pb annex leaf ty g :=
  ⟨msgTaproot_ignores H ty idx annex leaf g a b pa pb h, taprootSighash_ignores H ty idx annex leaf g a b pa pb h⟩

/-- no algorithm reads a script witness or a `script_sig` (the two things a signer fills in), nor a
    pegin witness: replacing them in one input keeps all three `…Agree` predicates, for every hash type
    and index -/
theorem script_sig_and_witness_irrelevant (tx : Tx) (k : Nat) (sig : Bytes) (st pw : List Bytes) :
    let tx' : Tx := { tx with input := tx.input.modify k (fun i =>
      { i with scriptSig := sig, witness := { i.witness with scriptWitness := st, peginWitness := pw } }) }
    (∀ ty idx, legacyAgree ty idx tx tx') ∧ (∀ ty idx, segwitAgree ty idx tx tx') ∧
    (∀ ty idx pv, taprootAgree ty idx tx tx' pv pv) := by
  exact agree_modify tx k _ (fun _ => rfl)

/-! ### 3. committed fields: equal digests ⇒ equal committed records ∨ collision -/

/-- LEGACY: two in-range queries with the same digest sign the same record (version, inputs as
    signed — outpoint with flags, script, sequence, issuance —, outputs as signed, lock time, hash
    type), or a SHA-256d collision is exhibited -/
theorem legacy_commits (hs : SizesPos P) (a b : Tx) (ha : a.wf P) (hb : b.wf P) (i j : Nat) (sa sb : Bytes)
    (ta tb : EcdsaTy) (hsa : sa.length ≤ maxVecSize) (hsb : sb.length ≤ maxVecSize)
    (ra : InRange ta i a) (rb : InRange tb j b)
    (h : legacySighash H a i sa ta = legacySighash H b j sb tb) :
    specLegacyView a i sa ta.asU32 = specLegacyView b j sb tb.asU32 ∨ Collision H.sha256d := by
  rw [legacySighash_inRange H a i sa ta ra, legacySighash_inRange H b j sb tb rb] at h
  exact (Proofs.CodecPrim.eq_or_collision (Res.ok.inj h)).imp_left
    (serLegacy_injective P _ _ (specLegacyView_wf P hs a ha i sa ta hsa ra) (specLegacyView_wf P hs b hb j sb tb hsb rb))

theorem legacy_commits_type (a b : Tx) (i j : Nat) (sa sb : Bytes) (ta tb : EcdsaTy)
    (h : specLegacyView a i sa ta.asU32 = specLegacyView b j sb tb.asU32) :
    ta = tb ∧ a.version = b.version ∧ a.lockTime = b.lockTime := by
  have h1 := congrArg LegacyView.hashType h
  have h2 := congrArg LegacyView.version h
  have h3 := congrArg LegacyView.lockTime h
  simp only [specLegacyView] at h1 h2 h3
  refine ⟨?_, h2, h3⟩
  revert h1
  cases ta <;> cases tb <;> decide

/-- SEGWIT v0: two queries on existing inputs with the same digest have the same BIP143 record
    (`sameCommitted`: every field; the per-input issuances through their concatenation only, see
    `serSegwit_injective`), or a SHA-256d collision is exhibited, or a preimage of the all-zero
    hash (which BIP143 uses for "SIGHASH_SINGLE without output") -/
theorem segwit_commits (hl : HashLen H) (hd : Dbl H) (a b : Tx) (ha : a.wf P) (hb : b.wf P) (i j : Nat)
    (sca scb : Bytes) (va vb : Value) (ta tb : EcdsaTy)
    (hsa : sca.length ≤ maxVecSize) (hsb : scb.length ≤ maxVecSize) (hva : va.wf P) (hvb : vb.wf P)
    (hi : i < a.input.length) (hj : j < b.input.length)
    (h : segwitSighash H a i sca va ta = segwitSighash H b j scb vb tb) :
    ∃ x y, specSegwitView a i sca va ta.asU32 = some x ∧ specSegwitView b j scb vb tb.asU32 = some y ∧
      (x.sameCommitted y ∨ Collision H.sha256d ∨ ZeroPreimage H.sha256d) := by
  obtain ⟨x, hx, mx⟩ := segwit_refines H hd a i sca va ta hi
  obtain ⟨y, hy, my⟩ := segwit_refines H hd b j scb vb tb hj
  refine ⟨x, y, hx, hy, ?_⟩
  simp only [segwitSighash, mx, my, Res.map, Res.bind, Res.ok.injEq] at h
  rcases Proofs.CodecPrim.eq_or_collision h with hser | hc
  · exact serSegwit_injective P H hl x y (specSegwitView_wf P a ha i sca va _ (asU32_lt ta) hsa hva x hx)
      (specSegwitView_wf P b hb j scb vb _ (asU32_lt tb) hsb hvb y hy) hser
  · exact Or.inr (Or.inl hc)

/-- TAPROOT: two successful queries (any of the seven hash types) with the same digest have the same
    Elements-taproot record — genesis hash, hash type, version, lock time, input data (all inputs
    and spent outputs, or the signed one), outputs with witnesses, annex, leaf hash and code
    separator position — or a collision of SHA-256 or of the tagged hash is exhibited -/
theorem taproot_commits (hl : HashLen H) (a b : Tx) (ha : a.wf P) (hb : b.wf P) (i j : Nat) (pa pb : Prevouts)
    (anna annb : Option Bytes) (la lb : Option (Bytes × Nat)) (ta tb : SchnorrTy) (ga gb : Bytes)
    (hta : ta ≠ .reserved) (htb : tb ≠ .reserved) (hpa : pa.wf P) (hpb : pb.wf P)
    (hga : ga.length = 32) (hgb : gb.length = 32)
    (hanna : ∀ x, anna = some x → x.length ≤ maxVecSize) (hannb : ∀ x, annb = some x → x.length ≤ maxVecSize)
    (hla : ∀ h p, la = some (h, p) → h.length = 32 ∧ p < 2^32) (hlb : ∀ h p, lb = some (h, p) → h.length = 32 ∧ p < 2^32)
    (d : Bytes) (h1 : taprootSighash H a i pa anna la ta ga = .ok d) (h2 : taprootSighash H b j pb annb lb tb gb = .ok d) :
    (∃ v, specTaprootView a i pa anna la ta.byte ga = .ok v ∧ specTaprootView b j pb annb lb tb.byte gb = .ok v) ∨
    Collision H.sha256 ∨ Collision (H.tagged Gen.tapSighashTag) := by
  rw [taprootSighash, taproot_refines H _ _ _ _ _ _ _ hta, specTaproot, Res.map, Res.map, Res.bind_assoc] at h1
  rw [taprootSighash, taproot_refines H _ _ _ _ _ _ _ htb, specTaproot, Res.map, Res.map, Res.bind_assoc] at h2
  obtain ⟨va, hva, e1⟩ := Res.bind_eq_ok.mp h1
  obtain ⟨vb, hvb, e2⟩ := Res.bind_eq_ok.mp h2
  rcases Proofs.CodecPrim.eq_or_collision (Res.ok.inj (e1.trans e2.symm)) with hser | hc
  · rcases serTaproot_injective P H hl va vb
      (specTaprootView_wf P a ha i pa anna la ta hta ga hpa hga hanna hla va hva)
      (specTaprootView_wf P b hb j pb annb lb tb htb gb hpb hgb hannb hlb vb hvb) hser with heq | hc
    · exact Or.inl ⟨va, hva, by rw [heq]; exact hvb⟩
    · exact Or.inr (Or.inl hc)
  · exact Or.inr (Or.inr hc)

/-! ### 3b. "exactly": for a fixed hash type and input index, equal digests ⇒ agreement on the named
    fields, or a collision.  For legacy and taproot this is the converse of `*_ignores`.  For segwit v0 the digest
    gives `segwitAgreeC` only, which is weaker than the hypothesis `segwitAgree` of `segwit_ignores`
    (`segwit_agree_weaken`); the converse of `segwit_commits_agree` is `Sighash.segwit_ignoresC`. -/

theorem legacy_commits_agree (hs : SizesPos P) (a b : Tx) (ha : a.wf P) (hb : b.wf P) (ty : EcdsaTy) (idx : Nat)
    (sa sb : Bytes) (hsa : sa.length ≤ maxVecSize) (hsb : sb.length ≤ maxVecSize)
    (ra : InRange ty idx a) (rb : InRange ty idx b)
    (h : legacySighash H a idx sa ty = legacySighash H b idx sb ty) :
    (legacyAgree ty idx a b ∧ sa = sb) ∨ Collision H.sha256d := by
  rcases legacy_commits P H hs a b ha hb idx idx sa sb ty ty hsa hsb ra rb h with hv | hc
  · exact Or.inl ((legacyView_eq_iff ty idx a b sa sb ra rb).mp hv)
  · exact Or.inr hc

/-- SEGWIT v0: same digest ⇒ same script code, same amount and `segwitAgreeC` (= `segwitAgree` with the
    per-input issuances known through their concatenation), or a collision / zero-hash preimage -/
theorem segwit_commits_agree (hl : HashLen H) (hd : Dbl H) (a b : Tx) (ha : a.wf P) (hb : b.wf P) (ty : EcdsaTy)
    (idx : Nat) (sca scb : Bytes) (va vb : Value)
    (hsa : sca.length ≤ maxVecSize) (hsb : scb.length ≤ maxVecSize) (hva : va.wf P) (hvb : vb.wf P)
    (hi : idx < a.input.length) (hj : idx < b.input.length)
    (h : segwitSighash H a idx sca va ty = segwitSighash H b idx scb vb ty) :
    (segwitAgreeC ty idx a b ∧ sca = scb ∧ va = vb) ∨ Collision H.sha256d ∨ ZeroPreimage H.sha256d := by
  obtain ⟨x, y, hx, hy, hr⟩ := segwit_commits P H hl hd a b ha hb idx idx sca scb va vb ty ty hsa hsb hva hvb hi hj h
  rcases hr with hs | hc
  · exact Or.inl (segwitAgreeC_of_view ty idx a b sca scb va vb x y hx hy hs)
  · exact Or.inr hc

/-- not conversely: the concatenation of the per-input issuances does not determine them -/
theorem segwit_agree_weaken (ty : EcdsaTy) (idx : Nat) (a b : Tx) (h : segwitAgree ty idx a b) :
    segwitAgreeC ty idx a b :=
  segwitAgreeC_of_agree ty idx a b h

theorem taproot_commits_agree (hl : HashLen H) (a b : Tx) (ha : a.wf P) (hb : b.wf P) (ty : SchnorrTy) (idx : Nat)
    (pa pb : Prevouts) (anna annb : Option Bytes) (la lb : Option (Bytes × Nat)) (ga gb : Bytes)
    (hty : ty ≠ .reserved) (hpa : pa.wf P) (hpb : pb.wf P) (hga : ga.length = 32) (hgb : gb.length = 32)
    (hanna : ∀ x, anna = some x → x.length ≤ maxVecSize) (hannb : ∀ x, annb = some x → x.length ≤ maxVecSize)
    (hla : ∀ h p, la = some (h, p) → h.length = 32 ∧ p < 2^32) (hlb : ∀ h p, lb = some (h, p) → h.length = 32 ∧ p < 2^32)
    (d : Bytes) (h1 : taprootSighash H a idx pa anna la ty ga = .ok d) (h2 : taprootSighash H b idx pb annb lb ty gb = .ok d) :
    (taprootAgree ty idx a b pa pb ∧ anna = annb ∧ la = lb ∧ ga = gb) ∨
    Collision H.sha256 ∨ Collision (H.tagged Gen.tapSighashTag) := by
  rcases taproot_commits P H hl a b ha hb idx idx pa pb anna annb la lb ty ty ga gb hty hty hpa hpb hga hgb
    hanna hannb hla hlb d h1 h2 with ⟨v, hva, hvb⟩ | hc
  · exact Or.inl (taprootAgree_of_view ty hty idx a b pa pb anna annb la lb ga gb v hva hvb)
  · exact Or.inr hc

/-! ### 4. SIGHASH_SINGLE without a corresponding output; index out of range -/

/-- LEGACY: index ≥ #outputs with SINGLE (with or without ANYONECANPAY): the encoder writes the
    32 bytes `01 00 … 00` and the digest is that constant (Core's `uint256::ONE`) — for every
    transaction, script and (SINGLE) type -/
theorem single_oob_legacy (tx : Tx) (idx : Nat) (script : Bytes) (ty : EcdsaTy)
    (h1 : idx < tx.input.length) (h2 : ty.base = .single) (h3 : idx ≥ tx.output.length) :
    msgLegacy tx idx script ty = .ok uint256One ∧ legacySighash H tx idx script ty = .ok uint256One ∧
    specLegacySighash H tx idx script ty.asU32 = .ok uint256One := by
  have c := legacy_constants
  have h4 : ¬ ¬ idx < tx.input.length := fun x => x h1
  have b : legacySighash H tx idx script ty = .ok uint256One := by
    rw [legacySighash_single_oob H tx idx script ty h1 ⟨h2, h3⟩, c.2]
  refine ⟨?_, b, by rw [← Sighash.legacy_digest_refines H tx idx script ty h1, b]⟩
  simp only [msgLegacy, if_neg h4, if_pos (And.intro h2 h3), c.1]

/-- the taproot encoder never panics: a message or one of its five error classes -/
theorem taproot_never_panics (tx : Tx) (idx : Nat) (pv : Prevouts) (annex : Option Bytes)
    (leaf : Option (Bytes × Nat)) (ty : SchnorrTy) (g : Bytes) :
    (∃ m, msgTaproot H tx idx pv annex leaf ty g = .ok m) ∨
    (∃ e, e ∈ [ePrevoutsSize, ePrevoutKind, eIndex, ePrevoutIndex, eSingle] ∧
      msgTaproot H tx idx pv annex leaf ty g = .err e) :=
  (msgTaproot_post H tx idx pv annex leaf ty g).outcome.imp_left fun ⟨m, hm, _⟩ => ⟨m, hm⟩

/-- TAPROOT: SINGLE without a corresponding output is always an error, and it is
    `SingleWithoutCorrespondingOutput` when the earlier checks pass -/
theorem single_oob_taproot_err (tx : Tx) (idx : Nat) (pv : Prevouts) (annex : Option Bytes)
    (leaf : Option (Bytes × Nat)) (ty : SchnorrTy) (g : Bytes)
    (hs : ty.isSingle = true) (h : idx ≥ tx.output.length) :
    (∃ e, msgTaproot H tx idx pv annex leaf ty g = .err e) ∧
    (∃ e, taprootSighash H tx idx pv annex leaf ty g = .err e) ∧
    (∀ b1 b2, pv.checkAll tx = .ok () → tapInsPart H tx pv ty = .ok b1 → tapThisPart H tx idx pv ty = .ok b2 →
      msgTaproot H tx idx pv annex leaf ty g = .err eSingle) := by
  have hnone : tx.output[idx]? = none := List.getElem?_eq_none_iff.mpr h
  have h3 : tapSinglePart H tx idx ty = .err eSingle := by
    simp only [tapSinglePart, hs, if_true, hnone]
  have he : ∃ e, msgTaproot H tx idx pv annex leaf ty g = .err e := by
    rcases taproot_never_panics H tx idx pv annex leaf ty g with ⟨m, hm⟩ | ⟨e, _, he⟩
    · -- a message would need the hash of the missing output
      obtain ⟨_, _, hm⟩ := Res.bind_eq_ok.mp hm
      obtain ⟨_, _, hm⟩ := Res.bind_eq_ok.mp hm
      obtain ⟨_, _, hm⟩ := Res.bind_eq_ok.mp hm
      obtain ⟨_, h3', _⟩ := Res.bind_eq_ok.mp hm
      rw [h3] at h3'
      cases h3'
    · exact ⟨e, he⟩
  obtain ⟨e, he⟩ := he
  refine ⟨⟨e, he⟩, ⟨e, by simp only [taprootSighash, he, Res.map, Res.bind]⟩, fun b1 b2 h0 h1 h2 => ?_⟩
  simp only [msgTaproot, h0, h1, h2, h3, Res.bind]

/-- TAPROOT with ANYONECANPAY: an input index that does not exist is `IndexOutOfInputsBounds`
    (`PrevoutsSize` if a prevout list of the wrong size was passed) -/
theorem taproot_index_err (tx : Tx) (idx : Nat) (pv : Prevouts) (annex : Option Bytes)
    (leaf : Option (Bytes × Nat)) (ty : SchnorrTy) (g : Bytes)
    (hacp : ty.acp = true) (h : ¬ idx < tx.input.length) :
    (pv.checkAll tx = .ok () → msgTaproot H tx idx pv annex leaf ty g = .err eIndex) ∧
    (pv.checkAll tx ≠ .ok () → msgTaproot H tx idx pv annex leaf ty g = .err ePrevoutsSize) := by
  have hnone : tx.input[idx]? = none := List.getElem?_eq_none_iff.mpr (by omega)
  constructor
  · intro h0
    simp only [msgTaproot, h0, tapInsPart, tapThisPart, hacp, if_true, hnone, Res.bind]
  · intro h0
    rcases checkAll_cases pv tx with h0' | h0'
    · exact absurd h0' h0
    · simp only [msgTaproot, h0', Res.bind]

/-- OBSERVATION (as coded, not a defect of the digest): without ANYONECANPAY the input index is not checked against
    the number of inputs.  For a type that is neither ANYONECANPAY nor SINGLE and `Prevouts::All` with one spent
    output per input, EVERY index `idx` yields a message (in it the index appears only serialized as a `u32`, see
    the witness in the proof) -/
theorem taproot_index_unchecked_without_anyonecanpay (tx : Tx) (idx : Nat) (ps : List TxOut) (annex : Option Bytes)
    (leaf : Option (Bytes × Nat)) (ty : SchnorrTy) (g : Bytes)
    (hacp : ty.acp = false) (hs : ty.isSingle = false) (hlen : ps.length = tx.input.length) :
    ∃ m, msgTaproot H tx idx (.all ps) annex leaf ty g = .ok m := by
  have h0 : (Prevouts.all ps).checkAll tx = .ok () := by
    simp only [Prevouts.checkAll, hlen, ne_eq, not_true_eq_false, if_false]
  refine ⟨tapHead tx ty g ++ tapAllInputs H tx ps ++ tapOutsPart H tx ty ++ [spendType annex leaf] ++ encLe 4 idx ++
    tapAnnexPart H annex ++ [] ++ tapLeafPart leaf, ?_⟩
  simp only [msgTaproot, h0, tapInsPart, tapThisPart, tapSinglePart, hacp, hs, Prevouts.getAll,
    Res.bind, Bool.false_eq_true, if_false]

/-! ### tie machinery: the in-memory transport of the correspondence run is faithful

  The digests are functions of in-memory `Transaction` values, some of which the consensus encoding cannot carry
  (an all-ones outpoint index together with a pegin flag or an issuance: the taproot outpoint flag is computed from
  the FIELDS). For those the harness sends the transaction field by field (`m:` argument); this theorem is why the
  model then evaluates the query on exactly the value the real code holds. -/

/-- decoding what the transport wrote returns the transaction, under field-size conditions only (no relation
    between index and flags is required) -/
theorem transport_faithful (P : Prims) (t : Tx) (r : Bytes) (h : EV.Proofs.MemTx.wfTx P t) :
    EV.Driver.MemTx.dec P (EV.Driver.MemTx.enc t ++ r) = .ok (t, r) :=
  EV.Proofs.MemTx.dec_complete P t r h

/-! ### non-vacuity -/

/-- a canonical two-input / one-output transaction: input 1 is out of range for SINGLE -/
def exTx : Tx :=
  ⟨2, 0, [⟨⟨List.replicate 32 1, 0⟩, false, [0x51], 0xfffffffe, AssetIssuance.null, TxInWitness.empty⟩,
          ⟨⟨List.replicate 32 2, 1⟩, true, [], 7, AssetIssuance.null, ⟨none, none, [[1, 2]], []⟩⟩],
         [⟨.explicit (List.replicate 32 3), .explicit 5, .null, [0x6a], TxOutWitness.empty⟩]⟩

example : InRange .all 1 exTx ∧ InRange .single 0 exTx ∧ ¬ InRange .single 1 exTx := by
  simp only [InRange]; decide

/-- setting the script witness of input 1 changes the transaction, while
    `script_sig_and_witness_irrelevant` keeps all three `…Agree` predicates: they relate transactions
    that differ -/
example : (setScriptWitness exTx 1 [[9]] ≠ exTx) := by decide

example : msgLegacy exTx 1 [0xac] .single = .ok uint256One := by decide

/-! ### bridge to C15: the leaf a script-path digest commits to is the leaf a control block opens

  `taproot_script_spend_signature_hash` takes the tapleaf hash as 32 opaque bytes; callers obtain it from
  `TapLeafHash::from_script(script, leaf_version)` (`tapLeafHash`).  The script-tree model of C15 has its own
  `leafHash`, from which `ControlBlock::verify_taproot_commitment` recomputes the root.  With C15's hash record
  instantiated the way both drivers do it (`tapHashesOf H`, `tap_hashes_of_drivers`), the two are the same function,
  so the theorems of the two properties compose. -/

section bridgeC15
open EV.Proofs.BridgeTapLeaf EV.Proofs.TaprootSpend

/-- the leaf tag extracted for this property is the one extracted for C15 -/
theorem tap_hashes_of_drivers :
    EV.Driver.C15.tapHashes = tapHashesOf EV.Driver.SighashUtil.sigHashes ∧ Gen.tapLeafTag = Gen.Taproot.leafTag :=
  ⟨rfl, leafTag_agree⟩

/-- **the two models of `TapLeafHash::from_script` agree** -/
theorem tapleaf_hash_is_c15_leaf_hash (script : Bytes) (ver : UInt8) (n : Nat) :
    tapLeafHash H script ver.toNat = Taproot.leafHash (tapHashesOf H) script ver ∧
    tapLeafHash H script n = Taproot.leafHash (tapHashesOf H) script (UInt8.ofNat n) :=
  ⟨tapLeafHash_eq' H script ver, tapLeafHash_eq H script n⟩

/-- the message hashed for a script-path spend of leaf `(script, ver)` ends in C15's leaf hash of that leaf — the
    value `verify_taproot_commitment` folds the control block's path over (`computeRoot`) —, the key version byte and
    the code separator position -/
theorem script_spend_message_ends_in_leaf_hash (tx : Tx) (idx : Nat) (pv : Prevouts) (annex : Option Bytes)
    (script : Bytes) (ver : UInt8) (pos : Nat) (ty : SchnorrTy) (g m : Bytes) (branch : List Bytes)
    (h : msgTaproot H tx idx pv annex (some (tapLeafHash H script ver.toNat, pos)) ty g = .ok m) :
    (∃ pre, m = pre ++ (Taproot.leafHash (tapHashesOf H) script ver ++ [UInt8.ofNat Gen.sighashKeyVersion0] ++ encLe 4 pos)) ∧
    Taproot.ControlBlock.computeRoot (tapHashesOf H) script ver branch =
      branch.foldl (fun cur e => Taproot.branchHash (tapHashesOf H) cur e) (Taproot.leafHash (tapHashesOf H) script ver) := by
  rw [tapLeafHash_eq'] at h
  exact ⟨msgTaproot_leaf_suffix H tx idx pv annex _ pos ty g m h, rfl⟩

/-- **a script-path digest commits to (script, leaf version)**: two successful script-spend digests (same hash type
    and input index) that are equal were computed for the same script and leaf version (and `taprootAgree`
    transactions, same genesis hash), or a collision of SHA-256, of the TapSighash hash or of the TapLeaf hash is
    exhibited -/
theorem script_spend_commits_to_leaf (hl : HashLen H) (hlt : ∀ tag x, (H.tagged tag x).length = 32)
    (a b : Tx) (ha : a.wf P) (hb : b.wf P) (ty : SchnorrTy) (idx : Nat) (pa pb : Prevouts)
    (sa sb : Bytes) (va vb : UInt8) (ga gb : Bytes)
    (hty : ty ≠ .reserved) (hpa : pa.wf P) (hpb : pb.wf P) (hga : ga.length = 32) (hgb : gb.length = 32)
    (hsa : sa.length < 2 ^ 64) (hsb : sb.length < 2 ^ 64) (d : Bytes)
    (h1 : taprootScriptSighash H a idx pa (tapLeafHash H sa va.toNat) ty ga = .ok d)
    (h2 : taprootScriptSighash H b idx pb (tapLeafHash H sb vb.toNat) ty gb = .ok d) :
    (taprootAgree ty idx a b pa pb ∧ sa = sb ∧ va = vb ∧ ga = gb) ∨
    Collision H.sha256 ∨ Collision (H.tagged Gen.tapSighashTag) ∨ Collision (H.tagged Gen.Taproot.leafTag) := by
  have hlen : ∀ (s : Bytes) (v : UInt8) (h : Bytes) (p : Nat),
      (some (tapLeafHash H s v.toNat, 0xFFFFFFFF) : Option (Bytes × Nat)) = some (h, p) → h.length = 32 ∧ p < 2 ^ 32 := by
    intro s v h p e
    cases e
    exact ⟨hlt _ _, by decide⟩
  rcases taproot_commits_agree P H hl a b ha hb ty idx pa pb none none _ _ ga gb hty hpa hpb hga hgb
    (fun x hx => by cases hx) (fun x hx => by cases hx) (hlen sa va) (hlen sb vb) d h1 h2 with ⟨hag, _, hleaf, hg⟩ | hc | hc
  · simp only [Option.some.injEq, Prod.mk.injEq, and_true] at hleaf
    rw [tapLeafHash_eq', tapLeafHash_eq'] at hleaf
    rcases leafHash_binds (tapHashesOf H) sa sb va vb hsa hsb hleaf with ⟨e1, e2⟩ | hc
    · exact Or.inl ⟨hag, e1, e2, hg⟩
    · exact Or.inr (Or.inr (Or.inr hc))
  · exact Or.inr (Or.inl hc)
  · exact Or.inr (Or.inr (Or.inl hc))

/-- **a script-path digest commits to the leaf the control block opens** (C03 `taproot_commits_agree` ∘ C15
    `cb_binds`).  A verifier holds an
    output key committing to tree `t` (internal key `key`), a revealed script `s` and a control block `cb` (carrying the
    committed internal key and parity) that passes `verify_taproot_commitment`; it computes the script-spend digest for
    the leaf `(s, cb.leaf_version)`.  A signer computed its digest for a leaf `(s', v')`.  If the two digests are equal
    (so that the signature checks), then the signer's leaf IS the revealed one, and it is a genuine opening of `t` —
    the sibling path of a leaf of `t` with exactly that script and version (or a path into a hidden node) —, or one of
    the hash functions collides, or a TapLeaf hash equals a TapBranch hash (`TaprootCb.Cross`).  Assumed of
    the curve: its laws `ECLaw E`, and `ECTweakInj E` (for a fixed internal key, different valid tweaks give different
    tweaked keys). -/
theorem script_spend_commits_to_opened_leaf (E : Taproot.EC) (law : ECLaw E) (inj : ECTweakInj E)
    (hl : HashLen H) (hlt : ∀ tag x, (H.tagged tag x).length = 32)
    (key : Bytes) (t : Taproot.Tree) (si : Taproot.SpendInfo)
    (hsi : Taproot.fromNodeInfo E (tapHashesOf H) key (Taproot.info (tapHashesOf H) t) = .ok si) (ht : EV.Proofs.TaprootCb.ScriptsOk t)
    (cb : Taproot.ControlBlock) (s : Bytes) (hk : cb.internalKey = key) (hp : cb.parity = si.parity)
    (hbr : ∀ e ∈ cb.branch, e.length = 32) (hs : s.length < 2 ^ 64)
    (hv : cb.verify E (tapHashesOf H) si.outputKey s = .ok true)
    (a b : Tx) (ha : a.wf P) (hb : b.wf P) (ty : SchnorrTy) (idx : Nat) (pa pb : Prevouts) (s' : Bytes) (v' : UInt8)
    (ga gb : Bytes) (hty : ty ≠ .reserved) (hpa : pa.wf P) (hpb : pb.wf P) (hga : ga.length = 32) (hgb : gb.length = 32)
    (hs' : s'.length < 2 ^ 64) (d : Bytes)
    (hverifier : taprootScriptSighash H a idx pa (tapLeafHash H s cb.leafVersion.toNat) ty ga = .ok d)
    (hsigner : taprootScriptSighash H b idx pb (tapLeafHash H s' v'.toNat) ty gb = .ok d) :
    (s' = s ∧ v' = cb.leafVersion ∧ taprootAgree ty idx a b pa pb ∧ ga = gb ∧
      EV.Proofs.TaprootCb.Opens (tapHashesOf H) t s' v' cb.branch) ∨
    Collision H.sha256 ∨ Collision (H.tagged Gen.tapSighashTag) ∨ Collision (H.tagged Gen.Taproot.leafTag) ∨
    Collision (H.tagged Gen.Taproot.branchTag) ∨ Collision (H.tagged Gen.Taproot.tweakTag) ∨
    EV.Proofs.TaprootCb.Cross (H.tagged Gen.Taproot.leafTag) (H.tagged Gen.Taproot.branchTag) := by
  rcases script_spend_commits_to_leaf P H hl hlt a b ha hb ty idx pa pb s s' cb.leafVersion v' ga gb hty hpa hpb hga hgb
    hs hs' d hverifier hsigner with ⟨hag, e1, e2, hg⟩ | hc | hc | hc
  · rcases cb_binds E (tapHashesOf H) law inj (len32_of H hlt) key t si hsi ht cb s hk hp hbr hs hv with ho | hc | hc | hc | hc
    · exact Or.inl ⟨e1.symm, e2.symm, hag, hg, by rw [← e1, ← e2]; exact ho⟩
    · exact Or.inr (Or.inr (Or.inr (Or.inr (Or.inr (Or.inl hc)))))
    · exact Or.inr (Or.inr (Or.inr (Or.inl hc)))
    · exact Or.inr (Or.inr (Or.inr (Or.inr (Or.inl hc))))
    · exact Or.inr (Or.inr (Or.inr (Or.inr (Or.inr (Or.inr hc)))))
  · exact Or.inr (Or.inl hc)
  · exact Or.inr (Or.inr (Or.inl hc))
  · exact Or.inr (Or.inr (Or.inr (Or.inl hc)))

/-- conversely every leaf of a tree gets a control block that verifies (C15 `cb_verifies`), and the digest a signer
    computes for that leaf is the digest computed from the C15 leaf hash the control block opens -/
theorem every_leaf_signable (E : Taproot.EC) (law : ECLaw E) (key : Bytes) (t : Taproot.Tree) (si : Taproot.SpendInfo)
    (hsi : Taproot.fromNodeInfo E (tapHashesOf H) key (Taproot.info (tapHashesOf H) t) = .ok si)
    (tx : Tx) (idx : Nat) (pv : Prevouts) (ty : SchnorrTy) (g : Bytes) :
    ∀ l ∈ (Taproot.info (tapHashesOf H) t).leaves, ∃ cb, Taproot.controlBlock si l.script l.ver = some (some cb) ∧
      cb.verify E (tapHashesOf H) si.outputKey l.script = .ok true ∧
      taprootScriptSighash H tx idx pv (tapLeafHash H l.script cb.leafVersion.toNat) ty g =
        taprootSighash H tx idx pv none (some (Taproot.leafHash (tapHashesOf H) l.script l.ver, 0xFFFFFFFF)) ty g := by
  intro l hl
  obtain ⟨cb, h1, h2, _, _, _, _, h7⟩ := cb_verifies E (tapHashesOf H) law key t si hsi l hl
  exact ⟨cb, h1, h7, by rw [tapLeafHash_eq', h2]; rfl⟩

/-- the hypotheses on the hash record are satisfiable together -/
example : ∃ H : SigHashes, HashLen H ∧ ∀ tag x, (H.tagged tag x).length = 32 :=
  ⟨⟨fun _ => List.replicate 32 0, fun _ => List.replicate 32 0, fun _ _ => List.replicate 32 0⟩,
   ⟨fun _ => List.length_replicate, fun _ => List.length_replicate⟩, fun _ _ => List.length_replicate⟩

/-- a two-leaf tree, its second leaf and the control block C15 hands out for it: the script-spend query with the
    leaf hash of that leaf succeeds on `exTx` (key-path-free example of `hverifier`) -/
example : (taprootScriptSighash ⟨fun b => b.take 32, fun b => b.take 32, fun _ b => b.take 32⟩ exTx 0
    (.all [txOutDefault, txOutDefault])
    (tapLeafHash ⟨fun b => b.take 32, fun b => b.take 32, fun _ b => b.take 32⟩ [0x51] Taproot.tapscriptVer.toNat) .default
    (List.replicate 32 0)).isOk = true := by decide

end bridgeC15

/-! ### bridge to C01/C02: the messages are built from the SAME encoders as the transaction serialization

  `EV.Model.Sighash` has no encoder of its own for a transaction part: the as-coded messages and the specification
  serializers are written with the encoders of `EV.Model.Transaction` / `EV.Model.Codec` — the functions C01 proves
  lawful (`tx_laws` …) and C02 injective.  The three local re-definitions of the specification part are equal to them
  (`sighash_spec_encoders_agree`). -/

section bridgeC01
open EV.Proofs.BridgeSighashCodec

/-- the only encoders Part 2 of the model defines for itself (`encIssuanceOpt`, `flagByte`, `encProofs`) are the
    as-coded ones, i.e. C01's `AssetIssuance.enc` (or the byte `00`), the outpoint flag byte, C01's `encOptProof` twice -/
theorem sighash_spec_encoders_agree (i : TxIn) :
    encIssuanceOpt (issuanceOf i) = issuanceOrZero i ∧
    issuanceOrZero i = (if i.hasIssuance then i.assetIssuance.enc else [0]) ∧
    flagByte (inFlag i) = outpointFlag i ∧
    encProofs (proofsOf i) = issuanceProofs i ∧
    issuanceProofs i = encOptProof i.witness.amountRangeproof ++ encOptProof i.witness.inflationKeysRangeproof :=
  ⟨(issuanceOrZero_eq i).symm, rfl, (outpointFlag_eq i).symm, rfl, rfl⟩

/-- **LEGACY message format in C01 terms.**  The specification message is C01's witness-stripped transaction encoding
    `Tx.encStripped` (the txid preimage of C02) of the transaction to sign (`legacyTx`), with the Elements flag byte at
    offset 4 removed (`dropFlag`), followed by the hash type — the Rust comment "cannot encode tx directly because of
    different consensus encoding of elements tx" as a theorem; conversely the stripped encoding is the message with the
    byte `00` put back -/
theorem legacy_message_is_stripped_tx_encoding (v : LegacyView) :
    serLegacy v = dropFlag (legacyTx v).encStripped ++ encLe 4 v.hashType ∧
    (legacyTx v).encStripped =
      (serLegacy v).take 4 ++ [0] ++ ((serLegacy v).drop 4).take ((serLegacy v).length - 8) := by
  refine ⟨serLegacy_eq v, ?_⟩
  have hs : serLegacy v = encLe 4 v.version ++
      ((encVec TxIn.enc v.inputs ++ encVec TxOut.enc v.outputs ++ encLe 4 v.lockTime) ++ encLe 4 v.hashType) := by
    simp only [serLegacy, List.append_assoc]
  have hlen : (serLegacy v).length - 8 =
      (encVec TxIn.enc v.inputs ++ encVec TxOut.enc v.outputs ++ encLe 4 v.lockTime).length := by
    rw [hs]; simp only [List.length_append, encLe_length]; omega
  rw [hlen, hs, List.take_left' (encLe_length 4 _), List.drop_left' (encLe_length 4 _), List.take_left' rfl]
  simp only [Tx.encStripped, legacyTx, List.append_assoc]

/-- **LEGACY, as coded.**  For an in-range query on a canonical transaction the bytes `encode_legacy_signing_data_to`
    writes are that encoding of the transaction to sign `t'`; `t'` carries no witness, so C01's `Tx.enc t'` IS the
    stripped encoding, its txid (C02) is the double SHA-256 of it, and C01's decoder returns `t'` from it -/
theorem legacy_msg_is_tx_encoding (hs : SizesPos P) (tx : Tx) (htx : tx.wf P) (idx : Nat) (script : Bytes)
    (ty : EcdsaTy) (hsc : script.length ≤ maxVecSize) (hr : InRange ty idx tx) (Hh : Hashes) :
    let t' := legacyTx (specLegacyView tx idx script ty.asU32)
    msgLegacy tx idx script ty = .ok (dropFlag t'.encStripped ++ encLe 4 ty.asU32) ∧
    t'.enc = t'.encStripped ∧ t'.txid Hh = Hh.sha256d t'.encStripped ∧ t'.wf P ∧
    (∀ r, Tx.dec P (t'.encStripped ++ r) = .ok (t', r)) := by
  intro t'
  have hwf := legacyTx_wf P hs tx htx idx script ty hsc hr
  have henc := legacyTx_enc P _ (specLegacyView_wf P hs tx htx idx script ty hsc hr)
  refine ⟨?_, henc, rfl, hwf, fun r => ?_⟩
  · rw [legacy_refines tx idx script ty hr, serLegacy_eq]
    rfl
  · have := (tx_lawful P hs).complete t' r hwf
    rwa [henc] at this

/-- **SEGWIT v0 / TAPROOT: the hashed preimages are C01 vector encodings.**  `sha_prevouts`, `sha_sequences`,
    `sha_outputs`, `sha_output_witnesses`, `sha_scriptpubkeys` hash the element concatenation of C01's `encVec` of the
    outpoints / sequences / outputs / output witnesses / spent scripts, i.e. the vector encoding without its length prefix -/
theorem sighash_preimages_are_vector_encodings (tx : Tx) (ps : List TxOut) :
    encVec OutPoint.enc (tx.input.map (fun i => i.previousOutput)) = encVarint tx.input.length ++ preOutpoints tx ∧
    encVec (encLe 4) (tx.input.map (fun i => i.sequence)) = encVarint tx.input.length ++ preSequences tx ∧
    encVec TxOut.enc tx.output = encVarint tx.output.length ++ preOutputs tx ∧
    encVec TxOutWitness.enc (tx.output.map (fun o => o.witness)) = encVarint tx.output.length ++ preOutputWitnesses tx ∧
    encVec encBytesVec (ps.map (fun p => p.scriptPubkey)) = encVarint ps.length ++ preScriptPubkeys ps := by
  simp only [encVec, List.length_map, List.flatMap_map, preOutpoints, preSequences, preOutputs, preOutputWitnesses,
    preScriptPubkeys, and_self]

/-- `sha_outputs` / `sha_output_witnesses` hash literal SEGMENTS of the consensus serialization of the transaction
    (C01 `Tx.encStripped` = txid preimage, `Tx.enc`); the witness of an input starts with its issuance range proofs as
    `sha_issuance_rangeproofs` hashes them -/
theorem sighash_preimages_are_segments_of_tx_encoding (tx : Tx) :
    tx.encStripped = encLe 4 tx.version ++ [0] ++ encVarint tx.input.length ++ tx.input.flatMap TxIn.enc ++
      encVarint tx.output.length ++ preOutputs tx ++ encLe 4 tx.lockTime ∧
    (tx.hasWitness = true →
      tx.enc = encLe 4 tx.version ++ [1] ++ encVarint tx.input.length ++ tx.input.flatMap TxIn.enc ++
        encVarint tx.output.length ++ preOutputs tx ++ encLe 4 tx.lockTime ++
        tx.input.flatMap (fun i => i.witness.enc) ++ preOutputWitnesses tx) ∧
    (∀ i : TxIn, i.witness.enc = issuanceProofs i ++ encBytesVecVec i.witness.scriptWitness ++
      encBytesVecVec i.witness.peginWitness) := by
  refine ⟨?_, fun h => ?_, fun _ => rfl⟩
  · simp only [Tx.encStripped, encVec, preOutputs, List.append_assoc]
  · simp only [Tx.enc, h, if_true, encVec, preOutputs, preOutputWitnesses, List.append_assoc]

/-- the one place where the sighash input data and C01's `TxIn.enc` differ: `TxIn.enc` writes the outpoint with the
    pegin / issuance flags inside the vout word, the sighash algorithms commit to the PLAIN outpoint `OutPoint.enc
    previousOutput` (and, in taproot, to the flags as a separate byte; in segwit v0 the pegin flag is not committed at
    all — `segwit_ignores`).  On inputs without flags the two coincide.  The issuance bytes are the same. -/
theorem sighash_outpoint_vs_txin_encoding (i : TxIn) :
    TxIn.enc i = OutPoint.enc ⟨i.previousOutput.txid, i.voutWord⟩ ++ encBytesVec i.scriptSig ++ encLe 4 i.sequence ++
      (if i.hasIssuance then i.assetIssuance.enc else []) ∧
    (i.isPegin = false → i.hasIssuance = false →
      TxIn.enc i = OutPoint.enc i.previousOutput ++ encBytesVec i.scriptSig ++ encLe 4 i.sequence) ∧
    (i.hasIssuance = true → issuanceOrZero i = i.assetIssuance.enc) := by
  refine ⟨by simp only [TxIn.enc, OutPoint.enc, List.append_assoc], fun hp hi => ?_, fun hi => ?_⟩
  · simp only [TxIn.enc, OutPoint.enc, TxIn.voutWord, hp, hi, Bool.false_eq_true, if_false, Nat.or_zero,
      List.append_nil, List.append_assoc]
  · simp only [issuanceOrZero, hi, if_true]

/-- the hypotheses of `legacy_msg_is_tx_encoding` are satisfiable: `exTx` is canonical for permissive primitives, and
    the ALL query on input 1 is in range -/
example : let P0 : Prims := ⟨fun _ => true, fun _ => true, fun _ => true, fun _ => true, fun _ => true, fun _ => true, 1, 1, 1⟩
    SizesPos P0 ∧ exTx.wf P0 ∧ InRange .all 1 exTx ∧ ([0xac] : Bytes).length ≤ maxVecSize := by
  refine ⟨⟨by decide, by decide, by decide⟩, ?_, by simp only [InRange]; decide, by decide⟩
  refine ⟨by decide, by decide, by decide, by decide, ?_, ?_⟩
  · intro i hi
    rcases List.mem_cons.mp hi with rfl | hi
    · exact ⟨⟨by decide, by decide, by decide, by decide, rfl⟩, txInWitness_empty_wf _⟩
    · obtain rfl := List.mem_singleton.mp hi
      exact ⟨⟨by decide, by decide, by decide, by decide, rfl⟩, trivial, trivial, ⟨by decide, by decide⟩, ⟨by decide, nofun⟩⟩
  · intro o ho
    obtain rfl := List.mem_singleton.mp ho
    exact ⟨⟨List.length_replicate, (by decide : 5 < 2 ^ 64), trivial, by decide⟩, txOutWitness_empty_wf _⟩

end bridgeC01

end EV.Props.C03
