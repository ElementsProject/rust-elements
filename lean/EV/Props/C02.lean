/-
  C02 — transaction and block ids are the consensus hashes and ignore witness data.
  The hash `H.sha256d` is a parameter; "the id changes whenever a committed field changes" is
  stated in the only form that is true without axioms: equal ids ⇒ equal committed data, or an
  explicit collision of the hash function.
-/
import EV.Proofs.CodecPrim
import EV.Proofs.CodecTx
import EV.Proofs.CodecBlock
import EV.Proofs.Genesis
import EV.Proofs.GenesisKernel
namespace EV.Props.C02
open EV EV.Codec EV.Proofs.CodecPrim EV.Proofs.CodecTx EV.Proofs.CodecBlock

def Collision (f : Bytes → Bytes) : Prop := ∃ x y, x ≠ y ∧ f x = f y

variable (P : Prims) (H : Hashes)

/-- txid is the double-SHA256 of the witness-stripped serialization -/
theorem txid_def (t : Tx) : t.txid H = H.sha256d t.encStripped := rfl

/-- wtxid is the double-SHA256 of the full serialization -/
theorem wtxid_def (t : Tx) : t.wtxid H = H.sha256d t.enc := rfl

/-- what the txid hashes is the serialization of the transaction with all witnesses removed -/
theorem encStripped_is_enc_of_stripped (t : Tx) : t.encStripped = (stripWit t).enc := (enc_stripWit t).symm

/-- changing only witness data never changes the txid -/
theorem txid_witness_irrelevant (a b : Tx) (h : stripWit a = stripWit b) : a.txid H = b.txid H := by
  simp only [Tx.txid, ← encStripped_stripWit a, ← encStripped_stripWit b, h]

/-- changing any serialized field other than witness data always changes the txid (or exhibits a hash collision), for
    canonical transactions (`a.wf P`, `b.wf P`, positive platform sizes): on those the encoder is injective -/
theorem txid_commits (hs : SizesPos P) (a b : Tx) (ha : a.wf P) (hb : b.wf P)
    (h : a.txid H = b.txid H) : stripWit a = stripWit b ∨ Collision H.sha256d :=
  (eq_or_collision h).imp_left (encStripped_injective P hs a b ha hb)

/-- the wtxid commits to everything, for canonical transactions as in `txid_commits` -/
theorem wtxid_commits (hs : SizesPos P) (a b : Tx) (ha : a.wf P) (hb : b.wf P)
    (h : a.wtxid H = b.wtxid H) : a = b ∨ Collision H.sha256d :=
  (eq_or_collision h).imp_left (enc_injective P hs a b ha hb)

/-- wtxid equals txid when the transaction carries no witness -/
theorem wtxid_eq_txid_of_no_witness (t : Tx) (h : t.hasWitness = false) : t.wtxid H = t.txid H := by
  simp only [Tx.wtxid, Tx.txid, (enc_eq_encStripped_iff t).2 h]

/-- wtxid differs from txid when the transaction carries a witness (or a hash collision is exhibited) -/
theorem wtxid_ne_txid_of_witness (t : Tx) (h : t.hasWitness = true) :
    t.wtxid H ≠ t.txid H ∨ Collision H.sha256d := by
  by_cases he : t.wtxid H = t.txid H
  · exact .inr ((eq_or_collision he).resolve_left fun heq =>
      Bool.false_ne_true (((enc_eq_encStripped_iff t).1 heq).symm.trans h))
  · exact .inl he

/-- the block hash is the double-SHA256 of the header serialization without the solution /
    signblock witness, dynafed marker bit included -/
theorem block_hash_def (h : BlockHeader) : h.blockHash H = H.sha256d h.hashPreimage := rfl

/-- the preimage is the full serialization of the witness-cleared header minus its final,
    empty witness field (one zero byte) -/
theorem hashPreimage_is_cleared_enc (h : BlockHeader) : h.clearWitness.enc = h.hashPreimage ++ [0] :=
  clearWitness_enc h

/-- `clear_witness` does not change the block hash -/
theorem block_hash_clear_witness (h : BlockHeader) : h.clearWitness.blockHash H = h.blockHash H := by
  simp only [BlockHeader.blockHash, hashPreimage_clearWitness]

/-- witness data never changes the block hash -/
theorem block_hash_witness_irrelevant (a b : BlockHeader) (h : a.clearWitness = b.clearWitness) :
    a.blockHash H = b.blockHash H := by
  rw [← block_hash_clear_witness H a, ← block_hash_clear_witness H b, h]

/-- every field other than witness data changes the block hash (dynafed marker included), or a collision is exhibited,
    for canonical headers (`a.wf`, `b.wf`) -/
theorem block_hash_commits (a b : BlockHeader) (ha : a.wf) (hb : b.wf)
    (h : a.blockHash H = b.blockHash H) : a.clearWitness = b.clearWitness ∨ Collision H.sha256d :=
  (eq_or_collision h).imp_left (hashPreimage_injective a b ha hb)

/-- `clear_witness` keeps the five fixed fields and the kind of the extension data -/
theorem clear_witness_exact (h : BlockHeader) :
    h.clearWitness.version = h.version ∧ h.clearWitness.prevBlockhash = h.prevBlockhash ∧
    h.clearWitness.merkleRoot = h.merkleRoot ∧ h.clearWitness.time = h.time ∧
    h.clearWitness.height = h.height ∧ h.clearWitness.ext.isDynafed = h.ext.isDynafed := by
  refine ⟨rfl, rfl, rfl, rfl, rfl, ?_⟩
  obtain ⟨version, prev, mr, time, height, ext⟩ := h
  cases ext <;> rfl

/-- non-vacuity: a transaction with a witness exists, and stripping changes it -/
example : let t : Tx := ⟨2, 0, [⟨⟨List.replicate 32 1, 0⟩, false, [], 0, AssetIssuance.null, ⟨none, none, [[1]], []⟩⟩], []⟩
    t.hasWitness = true ∧ stripWit t ≠ t := by decide

/-! ## Genesis blocks and chain hashes (src/genesis.rs — model: EV.Model.Genesis)

  `genesis_block(params)` composes what the sections above are about: two transactions whose `txid`s
  are merkle-ized into a header whose `block_hash` is the chain hash.  `G : GHashes` carries the three
  hash functions as parameters (double SHA-256, the midstate combiner, single SHA-256 of the parameter
  commitment); `Option` results are `none` where the Rust code would panic.
  Hypotheses: `Len32 G` (the hashes return 32 bytes), `ParamsOk p` (`initial_free_coins` is a `u64`, the
  sign-block script is within `MAX_VEC_SIZE`), `SizesFit P` / `SizesPos P` (platform `size_of` facts),
  `P.tweak 0^32` (secp256k1-zkp: "the value 0 is also a valid tweak"). -/
section Genesis
open EV.Genesis EV.Proofs.Genesis

variable (G : GHashes) (p : NetworkParams)

/-! ### (a) structure -/

/-- `genesis_block` never panics -/
theorem genesis_block_total (hl : Len32 G) : ∃ b, genesisBlock G p = some b :=
  ⟨_, genesisBlock_of_len G p (hl.sha256 _)⟩

/-- the second transaction of the block is exactly what `liquid_genesis_asset_tx` returns (`None` ⇒ absent) -/
theorem genesis_block_asset_tx (b : Block) (hb : genesisBlock G p = some b) :
    genesisAssetTx G p = some b.txdata[1]? ∧ b.txdata.length ≤ 2 := by
  obtain ⟨t, -, rfl⟩ := genesisBlock_some G p hb
  by_cases h0 : p.initialFreeCoins = 0
  · rw [genesisAssetTx_zero G p h0, genesisTxs_zero h0]
    exact ⟨rfl, Nat.le_succ 1⟩
  · rw [genesisAssetTx_nonzero G p h0, genesisTxs_nonzero h0]
    exact ⟨rfl, Nat.le_refl 2⟩

/-- `liquid_genesis_asset_tx` returns `None` exactly when there are no free coins: the block has 1 or 2 transactions
    accordingly -/
theorem genesis_tx_count (b : Block) (hb : genesisBlock G p = some b) :
    b.txdata.length = if p.initialFreeCoins = 0 then 1 else 2 := by
  obtain ⟨t, -, rfl⟩ := genesisBlock_some G p hb
  by_cases h0 : p.initialFreeCoins = 0
  · rw [genesisTxs_zero h0, if_pos h0]
    rfl
  · rw [genesisTxs_nonzero h0, if_neg h0]
    rfl

/-- the header's merkle root is the bitcoin merkle root of the txids of the block's transactions -/
theorem genesis_merkle_root (b : Block) (hb : genesisBlock G p = some b) :
    btcMerkleRoot G.sha256d (b.txdata.map (Tx.txid G.toHashes)) = some b.header.merkleRoot := by
  obtain ⟨t, -, rfl⟩ := genesisBlock_some G p hb
  by_cases h0 : p.initialFreeCoins = 0
  · rw [genesisTxs_zero h0, genesisRoot_zero h0]
    rfl
  · rw [genesisTxs_nonzero h0, genesisRoot_nonzero h0]
    rfl

/-- `bitcoin::merkle_tree::calculate_root`: one hash is its own root -/
theorem btc_merkle_single (h : Bytes → Bytes) (a : Bytes) : btcMerkleRoot h [a] = some a := rfl

/-- `calculate_root`: two hashes give the double SHA-256 of their concatenation -/
theorem btc_merkle_pair (h : Bytes → Bytes) (a b : Bytes) : btcMerkleRoot h [a, b] = some (h (a ++ b)) := rfl

/-- `calculate_root`: two or more hashes reduce to the root of the pair level (the last hash of an odd level is
    paired with itself) -/
theorem btc_merkle_level (h : Bytes → Bytes) (a b : Bytes) (rest : List Bytes) :
    btcMerkleRoot h (a :: b :: rest) = btcMerkleRoot h (btcPairs h (a :: b :: rest)) := by
  have hlen := btcPairs_length h (a :: b :: rest)
  simp only [List.length_cons] at hlen
  obtain ⟨r, hm, hr⟩ := btcRootR_some h (btcPairs h (a :: b :: rest)) (by simp [btcPairs])
  rw [hm]
  exact hr (rest.length + 2) (by omega)

/-- `calculate_root`: the computation never fails on a non-empty list -/
theorem btc_merkle_total (h : Bytes → Bytes) (l : List Bytes) (hne : l ≠ []) : ∃ r, btcMerkleRoot h l = some r :=
  (btcRootR_some h l hne).imp fun _ hr => hr.1

/-- `calculate_root`: `None` on the empty list -/
theorem btc_merkle_empty (h : Bytes → Bytes) : btcMerkleRoot h [] = none := rfl

/-- with one transaction the root is its txid and with two it is `sha256d(txid₀ ‖ txid₁)` -/
theorem genesis_merkle_root_cases (b : Block) (hb : genesisBlock G p = some b) :
    (∃ t, b.txdata = [t] ∧ b.header.merkleRoot = t.txid G.toHashes) ∨
    (∃ t a, b.txdata = [t, a] ∧ b.header.merkleRoot = G.sha256d (t.txid G.toHashes ++ a.txid G.toHashes)) := by
  obtain ⟨t, -, rfl⟩ := genesisBlock_some G p hb
  by_cases h0 : p.initialFreeCoins = 0
  · exact .inl ⟨t, genesisTxs_zero h0, genesisRoot_zero h0⟩
  · exact .inr ⟨t, _, genesisTxs_nonzero h0, genesisRoot_nonzero h0⟩

/-- the rest of the header: no previous block, height 0, the extracted time and version, the sign-block
    script as challenge and an empty solution -/
theorem genesis_header (b : Block) (hb : genesisBlock G p = some b) :
    b.header = genesisHeader p b.header.merkleRoot ∧
    b.header.prevBlockhash = List.replicate 32 0 ∧ b.header.height = 0 ∧
    b.header.time = EV.Gen.genesisHeaderTime ∧ b.header.ext = .proof p.signBlockScript [] := by
  obtain ⟨t, -, rfl⟩ := genesisBlock_some G p hb
  exact ⟨rfl, prev_zero, height_zero, rfl, rfl⟩

/-- the chain hash is the block hash (`block_hash_def`) of the genesis header -/
theorem chain_hash_def (b : Block) (hb : genesisBlock G p = some b) :
    chainHash G p = some (G.sha256d b.header.hashPreimage) := by
  simp only [chainHash, hb, Option.map_some, BlockHeader.blockHash]

/-- the first transaction is coinbase-like: one input with the null outpoint, no pegin, no issuance, no
    witness, whose scriptSig is the 32-byte push (opcode 0x20) of the parameter commitment; one
    unspendable (`OP_RETURN`) output of value 0 -/
theorem genesis_coinbase (hl : Len32 G) (b : Block) (hb : genesisBlock G p = some b) :
    ∃ t rest i o, b.txdata = t :: rest ∧ genesisTx G p = some t ∧ t.input = [i] ∧ t.output = [o] ∧
      i.previousOutput = OutPoint.null ∧ i.scriptSig = 0x20 :: commit G.sha256 p ∧
      i.isPegin = false ∧ i.hasIssuance = false ∧ t.hasWitness = false ∧
      o.scriptPubkey = [EV.Gen.opReturn] ∧ o.value = .explicit 0 := by
  rw [genesisBlock_of_len G p (hl.sha256 _)] at hb
  cases hb
  refine ⟨coinbaseTx _, _, _, _, rfl, genesisTx_eq G p (hl.sha256 _), rfl, rfl, ?_⟩
  -- the last two are extracted constants
  exact ⟨rfl, rfl, rfl, rfl, rfl, by decide, by decide⟩

/-- bridge to the script model (C16): that scriptSig, read by `Script::instructions()` /
    `instructions_minimal()`, is exactly one data push of the commitment -/
theorem genesis_script_sig_parses (hl : Len32 G) :
    EV.Script.instructions (0x20 :: commit G.sha256 p) = ([.push (commit G.sha256 p)], none) ∧
    EV.Script.instructionsMinimal (0x20 :: commit G.sha256 p) = ([.push (commit G.sha256 p)], none) :=
  ⟨push32_parses _ (hl.sha256 _) false, push32_parses _ (hl.sha256 _) true⟩

/-! ### (b) the asset transaction is a self-consistent issuance -/

/-- the asset of its single output is the asset id that the C11 model (`TxIn::issuance_ids`, equally
    `AssetId::new_issuance` with the zero contract hash) derives for its own single input; the issued
    amount equals the output amount, which is `initial_free_coins`; the input spends output 0 of the
    parameter commitment read as a txid -/
theorem genesis_asset_tx_self_consistent (t : Tx) (ht : genesisAssetTx G p = some (some t)) :
    ∃ i o id, t.input = [i] ∧ t.output = [o] ∧
      (i.issuanceIds G.toHashes).map Prod.fst = some id ∧ o.asset = .explicit id ∧
      Issuance.newIssuance G.toHashes i.previousOutput (List.replicate 32 0) = some id ∧
      i.assetIssuance.amount = o.value ∧ o.value = .explicit p.initialFreeCoins ∧
      i.previousOutput = ⟨commit G.sha256 p, 0⟩ ∧ i.hasIssuance = true ∧ i.isPegin = false ∧
      t.hasWitness = false := by
  cases genesisAssetTx_some G p ht
  exact ⟨_, _, _, rfl, rfl, assetTx_issuanceIds _ _ _ _ rfl, rfl, newIssuance_genesis _ _, rfl, rfl, rfl, rfl, rfl, rfl⟩

/-! ### (c) well-formedness: the C01 round trip applies -/

/-- the genesis block and its transactions are canonical values of the C01 codec model -/
theorem genesis_block_wf (hl : Len32 G) (hp : ParamsOk p) (ht : P.tweak (List.replicate 32 0) = true)
    (hf : SizesFit P) (b : Block) (hb : genesisBlock G p = some b) : b.wf P := by
  have hc : (commit G.sha256 p).length = 32 := hl.sha256 (commitPreimage p)
  have hcb := coinbaseTx_wf P _ hc hf
  have htx := hf.tx
  rw [genesisBlock_of_len G p hc] at hb
  cases hb
  refine ⟨genesisHeader_wf p _ (genesisRoot_length _ hl.sha256d ..) hp.signBlock, ?_⟩
  by_cases h0 : p.initialFreeCoins = 0
  · rw [genesisTxs_zero h0]
    exact ⟨by simp only [List.length_cons, List.length_nil]; omega, List.forall_mem_cons.mpr ⟨hcb, nofun⟩⟩
  · rw [genesisTxs_nonzero h0]
    exact ⟨by simp only [List.length_cons, List.length_nil]; omega,
      List.forall_mem_cons.mpr ⟨hcb, List.forall_mem_cons.mpr ⟨assetTx_wf P _ _ _ hc hp.coins hl.comb ht hf, nofun⟩⟩⟩

/-- the consensus encoding of the genesis block decodes back to it, stopping exactly at its end (C01's `block_laws`) -/
theorem genesis_block_roundtrip (hl : Len32 G) (hp : ParamsOk p) (ht : P.tweak (List.replicate 32 0) = true)
    (hs : SizesPos P) (hf : SizesFit P) (b : Block) (hb : genesisBlock G p = some b) (r : Bytes) :
    Block.dec P (b.enc ++ r) = .ok (b, r) :=
  (block_lawful P hs).complete b r (genesis_block_wf P G p hl hp ht hf b hb)

/-- the consensus encoding of every transaction of the genesis block decodes back to it (C01's `tx_laws`) -/
theorem genesis_tx_roundtrip (hl : Len32 G) (hp : ParamsOk p) (ht : P.tweak (List.replicate 32 0) = true)
    (hs : SizesPos P) (hf : SizesFit P) (b : Block) (hb : genesisBlock G p = some b) :
    ∀ t ∈ b.txdata, Tx.deserialize P t.enc = .ok t := by
  intro t htm
  have hw : t.wf P := (genesis_block_wf P G p hl hp ht hf b hb).2.2 t htm
  exact deserialize_of_dec P ((tx_lawful P hs).complete_nil hw)

/-- the hypotheses are satisfiable (constant 32-byte hashes, both built-in networks, a trivial `Prims`) -/
example : Len32 constHashes ∧ ParamsOk NetworkParams.liquidv1 ∧ ParamsOk NetworkParams.liquidtestnet ∧
    P0.tweak (List.replicate 32 0) = true ∧ SizesPos P0 ∧ SizesFit P0 :=
  ⟨constHashes_len32, liquidv1_ok, liquidtestnet_ok, rfl, P0_pos, P0_fit⟩

/-- the premises `genesisBlock G p = some b` (both shapes) and `genesisAssetTx G p = some (some t)` are satisfiable too -/
example : ∃ b, genesisBlock constHashes NetworkParams.liquidv1 = some b ∧ b.txdata.length = 1 := by
  obtain ⟨b, hb⟩ := genesis_block_total constHashes NetworkParams.liquidv1 constHashes_len32
  exact ⟨b, hb, by rw [genesis_tx_count _ _ b hb]; decide⟩

example : ∃ b, genesisBlock constHashes NetworkParams.liquidtestnet = some b ∧ b.txdata.length = 2 := by
  obtain ⟨b, hb⟩ := genesis_block_total constHashes NetworkParams.liquidtestnet constHashes_len32
  exact ⟨b, hb, by rw [genesis_tx_count _ _ b hb]; decide⟩

example : ∃ t, genesisAssetTx constHashes NetworkParams.liquidtestnet = some (some t) :=
  ⟨_, genesisAssetTx_nonzero _ _ (by decide)⟩

/-! ### (d) what the commitment and the chain hash depend on -/

/-- the commitment is the SHA-256 of: network id ‖ lower-case hex of the fedpeg script ‖ lower-case hex
    of the sign-block script — nothing else (not the free coins), no separators -/
theorem commit_def (S : Bytes → Bytes) :
    commit S p = S (p.networkId ++ hexAscii p.fedpegScript ++ hexAscii p.signBlockScript) := rfl

/-- the hex feed of the commitment is the lower-case hex string of EV.Model.Text (C20), char by char as ASCII -/
theorem hex_feed_is_lower_hex (bs : Bytes) :
    hexAscii bs = (EV.Text.hexStr bs).map (fun c => UInt8.ofNat c.toNat) := hexAscii_eq_hexStr bs

/-- the commitment depends on the network id and the hex feeds of the two scripts only -/
theorem commit_depends_only (S : Bytes → Bytes) (q : NetworkParams) (hid : p.networkId = q.networkId)
    (hf : hexAscii p.fedpegScript = hexAscii q.fedpegScript)
    (hs : hexAscii p.signBlockScript = hexAscii q.signBlockScript) : commit S p = commit S q := by
  simp only [commit, commitPreimage, hid, hf, hs]

/-- equal commitments: equal hashed strings, or a SHA-256 collision -/
theorem commit_commits (S : Bytes → Bytes) (q : NetworkParams) (h : commit S p = commit S q) :
    commitPreimage p = commitPreimage q ∨ Collision S :=
  eq_or_collision h

/-- the hashed string determines both scripts once the network id and the length of the fedpeg
    script are fixed (the hex feed is injective) -/
theorem commit_preimage_injective (q : NetworkParams) (hid : p.networkId = q.networkId)
    (hlen : p.fedpegScript.length = q.fedpegScript.length) (h : commitPreimage p = commitPreimage q) :
    p.fedpegScript = q.fedpegScript ∧ p.signBlockScript = q.signBlockScript := by
  simp only [commitPreimage, hid, List.append_assoc] at h
  have h1 := List.append_cancel_left h
  have hl : (hexAscii p.fedpegScript).length = (hexAscii q.fedpegScript).length := by
    simp [hexAscii_length, hlen]
  have := List.append_inj h1 hl
  exact ⟨hexAscii_inj _ _ this.1, hexAscii_inj _ _ this.2⟩

/-- the hashed string does not determine the parameters in general: without separators, hex digits can move between
    the network id and the fedpeg script (as in Elements Core, whose commitment this reproduces) -/
theorem commit_split_ambiguity : ∃ a b : NetworkParams, a ≠ b ∧ ∀ S, commit S a = commit S b :=
  ⟨⟨[0x61, 0x62], [], [], 0⟩, ⟨[], [0xab], [], 0⟩, by decide, fun _ => rfl⟩

/-- the genesis block, hence the chain hash, is a function of the commitment, the sign-block script and the free
    coins -/
theorem chain_hash_depends_only (q : NetworkParams) (hc : commit G.sha256 p = commit G.sha256 q)
    (hs : p.signBlockScript = q.signBlockScript) (hn : p.initialFreeCoins = q.initialFreeCoins) :
    genesisBlock G p = genesisBlock G q ∧ chainHash G p = chainHash G q := by
  -- the closed form `genesisBlock_eq` mentions `p` through these three only
  have h : genesisBlock G p = genesisBlock G q := by
    simp only [genesisBlock_eq, genesisTx, genesisHeader, hc, hs, hn]
  exact ⟨h, congrArg (Option.map _) h⟩

/-- non-vacuity: two different parameter sets that agree on (commitment, sign-block script, coins) exist -/
example : ∃ a b : NetworkParams, a ≠ b ∧ chainHash constHashes a = chainHash constHashes b :=
  ⟨⟨[0x61, 0x62], [], [], 0⟩, ⟨[], [0xab], [], 0⟩, by decide, (chain_hash_depends_only _ _ _ rfl rfl rfl).2⟩

/-- parameter sets with different commitments have different genesis txids, or a double-SHA-256 collision is
    exhibited -/
theorem genesis_txid_commits (hl : Len32 G) (q : NetworkParams) (tp tq : Tx)
    (hp : genesisTx G p = some tp) (hq : genesisTx G q = some tq) (h : tp.txid G.toHashes = tq.txid G.toHashes) :
    commit G.sha256 p = commit G.sha256 q ∨ Collision G.sha256d := by
  rw [genesisTx_eq G p (hl.sha256 _)] at hp
  rw [genesisTx_eq G q (hl.sha256 _)] at hq
  cases hp
  cases hq
  exact coinbase_txid_commits G.toHashes _ _ (hl.sha256 _) (hl.sha256 _) h

/-- equal chain hashes imply equal (commitment, sign-block script, free coins), or a double-SHA-256 collision -/
theorem chain_hash_commits (hl : Len32 G) (q : NetworkParams) (hp : ParamsOk p) (hq : ParamsOk q)
    (h : chainHash G p = chainHash G q) :
    (commit G.sha256 p = commit G.sha256 q ∧ p.signBlockScript = q.signBlockScript ∧
      p.initialFreeCoins = q.initialFreeCoins) ∨ Collision G.sha256d := by
  rw [chainHash_eq G p (hl.sha256 _), chainHash_eq G q (hl.sha256 _)] at h
  rcases header_commits G.toHashes p q _ _ (genesisRoot_length _ hl.sha256d ..) (genesisRoot_length _ hl.sha256d ..)
    hp.signBlock hq.signBlock (Option.some.inj h) with ⟨hr, hsb⟩ | hcol
  · exact (genesisRoot_commits G.toHashes hl.sha256d hl.comb _ _ _ _ (hl.sha256 _) (hl.sha256 _) hp.coins hq.coins
      hr).imp_left fun ⟨hc, hn⟩ => ⟨hc, hsb, hn⟩
  · exact .inr hcol

/-! ### (e) the hard-coded chain hashes, checked by the kernel -/

/-- running the model on the parameter sets extracted from `NetworkParams::liquidv1()` /
    `liquidtestnet()` with the kernel-evaluable SHA-256 (EV.Model.Sha256K, compared with bitcoin_hashes by
    the K op `shak`) gives exactly the extracted `ChainHash::LIQUIDV1` / `ChainHash::LIQUIDTESTNET`
    (`decide +kernel`, in EV.Proofs.GenesisKernel) -/
theorem chain_hash_liquidv1 :
    chainHash EV.Proofs.GenesisKernel.kernelHashes NetworkParams.liquidv1 = some chainHashLiquidv1 :=
  EV.Proofs.GenesisKernel.chainHash_liquidv1

/-- the same for `ChainHash::LIQUIDTESTNET` -/
theorem chain_hash_liquidtestnet :
    chainHash EV.Proofs.GenesisKernel.kernelHashes NetworkParams.liquidtestnet = some chainHashLiquidtestnet :=
  EV.Proofs.GenesisKernel.chainHash_liquidtestnet

end Genesis

end EV.Props.C02
