/-
  C16 — scripts built by the builder parse back exactly; templates and addresses agree.

  Model: EV.Model.Script (Builder, script numbers, Instructions iterator, `is_*` predicates,
  `from_script` / `script_pubkey` on payloads); specification vocabulary: EV.Model.ScriptSpec
  (`expected`, `serialize`, guards `BOp.wf` / `BOp.smallIntPush`, template patterns).
  Scope: the *text* form of addresses (base58 / bech32 / blech32) belongs to C06/C17; the clause "its text
  form parses back to the same address" is the composition of this property's payload-level theorems with
  C06's text-level theorems over the payload conversion of EV.Proofs.BridgeScriptAddress (section
  "scripts ↔ addresses ↔ text" below), and is also checked on the real code by the S stream of this
  property.
-/
import EV.Proofs.ScriptBuilder
import EV.Proofs.ScriptAddress
import EV.Proofs.BridgeScriptAddress
import EV.Props.C06
import EV.Proofs.ScriptAsm
import EV.Proofs.ScriptNumMin
namespace EV.Props.C16
open EV EV.Script EV.Gen
open EV.Proofs.ScriptIter EV.Proofs.ScriptNum EV.Proofs.ScriptBuilder EV.Proofs.ScriptTemplates EV.Proofs.ScriptAddress

/-! ## builder → iterator -/

/-- For every finite chain of builder calls whose arguments do not panic (integers other than
    `i64::MIN`, data below 4 GiB) and whose `push_opcode` bytes are not push opcodes with an operand,
    the chain does not panic and iterating the built script yields exactly the expected instruction
    sequence, without error.  `expected` is computed on the call list alone. -/
theorem instructions_build (ops : List BOp) (h : ∀ o ∈ ops, o.wf) :
    ∃ s, build ops = some s ∧ instructions s = (expected ops, none) :=
  ⟨_, build_collect false ops h nofun⟩

/-- what `expected` is: this and the next two theorems -/
theorem expected_empty : expected [] = [] := rfl

/-- a call other than `push_verify` adds exactly its own instruction to `expected` (data pushes as given,
    `push_int` −1/1..16 as OP_1NEGATE/OP_1..OP_16, 0 and `push_opcode(0)` as the empty push) -/
theorem expected_push (ops : List BOp) (o : BOp) (h : o ≠ .verify) :
    expected (ops ++ [o]) = expected ops ++ [instrOf o] := by
  simp only [expected, run_append]
  exact step_instrs_nonverify _ o h

/-- `push_verify` replaces the last instruction of `expected` by its VERIFY form exactly when the directly
    preceding call was `push_opcode(c)` with `c` one of OP_EQUAL, OP_NUMEQUAL, OP_CHECKSIG,
    OP_CHECKMULTISIG, OP_CHECKSIGFROMSTACK (a data push, `push_int`, or another `push_verify` in between
    resets this); otherwise it adds OP_VERIFY. -/
theorem expected_verify (ops : List BOp) :
    expected (ops ++ [.verify]) =
      match ops.getLast? with
      | some (.opcode c) =>
        (match Builder.verifyForm c with
         | some v => (expected ops).dropLast ++ [.op v]
         | none => expected ops ++ [.op opVerify])
      | _ => expected ops ++ [.op opVerify] := by
  simp only [expected, run_append]
  rcases List.eq_nil_or_concat ops with rfl | ⟨ops', o, rfl⟩
  · rfl
  · simp only [List.concat_eq_append, List.getLast?_append, List.getLast?_singleton, Option.some_or, run_append]
    have hl := step_last_verifyForm (Abs.run ⟨[], none⟩ ops') o
    show (Abs.step (Abs.step (Abs.run ⟨[], none⟩ ops') o) BOp.verify).instrs = _
    generalize Abs.run ⟨[], none⟩ ops' = a at hl ⊢
    show (match (a.step o).last.bind Builder.verifyForm with
      | some v => (⟨(a.step o).instrs.dropLast ++ [Instr.op v], some v⟩ : Abs)
      | none => (a.step o).pushOpcode opVerify).instrs = _
    rw [hl]
    cases o with
    | opcode c =>
      simp only [Abs.run, List.foldl_cons, List.foldl_nil]
      cases Builder.verifyForm c <;> rfl
    | slice d => rfl
    | scriptInt n => rfl
    | int n => rfl
    | verify => rfl

/-- without `push_verify` the expected sequence is the call list mapped call by call -/
theorem expected_no_verify (ops : List BOp) (h : ∀ o ∈ ops, o ≠ .verify) :
    expected ops = ops.map instrOf := by
  simpa [expected] using run_no_verify ops ⟨[], none⟩ h

/-- the table of foldable opcodes is exactly the five pairs, as bytes -/
theorem verify_form_table (c : UInt8) :
    Builder.verifyForm c =
      if c = opEqual then some opEqualverify else if c = opNumequal then some opNumequalverify
      else if c = opChecksig then some opChecksigverify else if c = opCheckmultisig then some opCheckmultisigverify
      else if c = opChecksigfromstack then some opChecksigfromstackverify else none := by
  simp only [Builder.verifyForm, beq_iff_eq]

/-- the built script *is* the canonical (shortest-push) encoding of the expected instructions -/
theorem build_bytes (ops : List BOp) (h : ∀ o ∈ ops, o.wf) : build ops = some (serialize (expected ops)) :=
  (build_eq_serialize false ops h nofun).1

/-- `push_scriptint(i64::MIN)` panics (negation overflow; DESIGN.md §3, among the observations outside the properties' scope), so does `push_int` of it -/
theorem push_i64_min_panics (b : Builder) : b.pushScriptInt i64Min = none ∧ b.pushInt i64Min = none := by
  have hp : b.pushScriptInt i64Min = none := if_pos rfl
  -- `i64::MIN` is none of −1, 1..16 and 0, so `push_int` hands it to `push_scriptint`
  exact ⟨hp, by rw [Builder.pushInt, if_neg (by decide), if_neg (by decide), hp]⟩

/-! ## minimal push encoding -/

/-- the header `push_slice` writes: 1 byte up to 75, 2 up to 255, 3 up to 65535, 5 below 2^32, panic beyond -/
theorem push_header_length (n : Nat) :
    (n < 2 ^ 32 → ∃ hd, pushHeader n = some hd ∧
        hd.length = if n ≤ 75 then 1 else if n ≤ 255 then 2 else if n ≤ 65535 then 3 else 5) ∧
    (2 ^ 32 ≤ n → pushHeader n = none) := by
  refine ⟨fun h => ?_, pushHeader_none⟩
  rcases pushHeader_cases h with ⟨h1, e⟩ | ⟨op, k, bound, hp, h1, h2, e⟩
  · refine ⟨_, e, ?_⟩
    rw [if_pos (by omega : n ≤ 75)]
    rfl
  · refine ⟨_, e, ?_⟩
    rw [List.length_cons, EV.Proofs.CodecPrim.leBytes_length]
    cases hp
    · rw [if_neg (by omega : ¬ n ≤ 75), if_pos (by omega : n ≤ 255)]
    · rw [if_neg (by omega : ¬ n ≤ 75), if_neg (by omega : ¬ n ≤ 255), if_pos (by omega : n ≤ 65535)]
    · rw [if_neg (by omega : ¬ n ≤ 75), if_neg (by omega : ¬ n ≤ 255), if_neg (by omega : ¬ n ≤ 65535)]

/-- Whatever byte string the iterator decodes as "push `d`, then continue with `rest`"
    is at least as long as what `push_slice(d)` writes — the chosen push opcode is the shortest
    encoding for that length, relative to the decoder itself (all four encodings considered). -/
theorem push_minimal (min : Bool) (s d rest hd : Bytes)
    (h : next min s = .item (.push d) rest) (hh : pushHeader d.length = some hd) :
    hd.length + d.length + rest.length ≤ s.length := by
  have := (next_sound h).2.1
  simp only [encInstr, hh, Option.getD_some, List.length_append] at this
  exact this

/-- the boundaries 75/76, 255/256, 65535/65536 -/
theorem push_header_boundaries :
    pushHeader 75 = some [0x4b] ∧ pushHeader 76 = some [opPushdata1, 76] ∧
    pushHeader 255 = some [opPushdata1, 255] ∧ pushHeader 256 = some [opPushdata2, 0, 1] ∧
    pushHeader 65535 = some [opPushdata2, 255, 255] ∧ pushHeader 65536 = some [opPushdata4, 0, 0, 1, 0] ∧
    pushHeader 4294967295 = some [opPushdata4, 255, 255, 255, 255] ∧ pushHeader 4294967296 = none := by
  decide

/-! ## `instructions_minimal` -/

/-- Under exactly the guard that applies — no `push_slice` of a single byte 1..16 / 0x81 and no
    `push_scriptint` of −1, 1..16 (`push_int` is always fine: it uses OP_1NEGATE / OP_1..OP_16) — the
    BIP62-enforcing iterator yields the same sequence without error. -/
theorem instructions_minimal_build (ops : List BOp) (h : ∀ o ∈ ops, o.wf) (hs : ∀ o ∈ ops, ¬ o.smallIntPush) :
    ∃ s, build ops = some s ∧ instructionsMinimal s = (expected ops, none) :=
  ⟨_, build_collect true ops h fun _ => hs⟩

/-- the calls that the guard `hs` of `instructions_minimal_build` excludes do write a one-byte push of a small
    number -/
theorem small_int_push_is_one_byte (o : BOp) (h : o.smallIntPush) :
    ∃ x, smallNumByte x = true ∧ ∀ a : Abs, a.step o = a.pushData [x] := by
  cases o with
  | slice d =>
    obtain ⟨x, rfl, hx⟩ := h
    exact ⟨x, hx, fun _ => rfl⟩
  | scriptInt n =>
    obtain ⟨x, e, hx⟩ := buildScriptInt_small h
    exact ⟨x, hx, fun a => by simp [Abs.step, e]⟩
  | int n => exact absurd h (by simp [BOp.smallIntPush])
  | opcode c => exact absurd h (by simp [BOp.smallIntPush])
  | verify => exact absurd h (by simp [BOp.smallIntPush])

/-- Without that guard: the first length-minimal-but-not-BIP62-minimal call (`o.smallIntPush`) makes
    `instructions_minimal` stop with `NonMinimalPush` after having yielded everything before it, whatever
    follows; the plain iterator still reads the whole script. -/
theorem small_int_push_nonminimal (pre post : List BOp) (o : BOp)
    (hpre : ∀ p ∈ pre, p.wf ∧ ¬ p.smallIntPush) (ho : o.wf ∧ o.smallIntPush) (hpost : ∀ p ∈ post, p.wf) :
    ∃ s, build (pre ++ o :: post) = some s ∧
      instructionsMinimal s = (expected pre, some .nonMinimal) ∧
      instructions s = (expected (pre ++ o :: post), none) := by
  have hall : ∀ p ∈ pre ++ o :: post, p.wf :=
    List.forall_mem_append.mpr ⟨fun p hp => (hpre p hp).1, List.forall_mem_cons.mpr ⟨ho.1, hpost⟩⟩
  obtain ⟨hb, hi⟩ := build_collect false _ hall nofun
  refine ⟨_, hb, ?_, hi⟩
  obtain ⟨x, hx, he⟩ := small_int_push_is_one_byte o ho.2
  obtain ⟨_, hw⟩ := build_eq_serialize true pre (fun p hp => (hpre p hp).1) fun _ p hp => (hpre p hp).2
  rw [instructionsMinimal, expected_data pre post o he]
  exact collect_serialize_small _ _ x hx fun i hi => ⟨(hw i hi).1, (hw i hi).2 rfl⟩

/-- Converse of `instructions_minimal_build`, for all byte strings: `instructions_minimal` yields `is` without
    error exactly when the script is `serialize is`, the canonical encoding, and every instruction of `is` is
    well-formed and BIP62-minimal (`serialize` is what `push_slice`/`push_opcode` write: `build_bytes`). -/
theorem instructions_minimal_iff_canonical (s : Bytes) (is : List Instr) :
    instructionsMinimal s = (is, none) ↔ (s = serialize is ∧ ∀ i ∈ is, i.wf ∧ i.bip62) := by
  constructor
  · exact collect_min_sound s.length s is (Nat.le_refl _)
  · rintro ⟨rfl, h⟩
    exact collect_serialize_nil true is fun i hi => ⟨(h i hi).1, fun _ => (h i hi).2⟩

/-! ## script numbers -/

/-- integers pushed as script numbers read back to the same value, on the whole 4-byte range -/
theorem scriptint_roundtrip (n : Int) (h : -(2 ^ 31) < n ∧ n < 2 ^ 31) :
    readScriptInt (buildScriptInt n) = .ok n := by
  by_cases h0 : n = 0
  · subst h0
    rfl
  · obtain ⟨init, l, e, hm, hs, hb⟩ := build_snoc h0 (by omega)
    -- a fifth byte would need a magnitude of at least 2^31
    have hl : init.length ≤ 3 := (length_le_iff hb 3).mpr (by omega)
    rw [e, read_snoc init l (by omega), (signed_eq_iff h0).mpr ⟨hm, hs⟩]

/-- at and beyond ±2^31 (the rest of the `i64` range except `i64::MIN`, which panics) the push is more than
    4 bytes long (at most 8, by `scriptint_length`) and `read_scriptint` answers `NumericOverflow`; the
    builder/iterator round trip (`instructions_build`) still holds for such pushes -/
theorem scriptint_beyond_range (n : Int) (h : n ≤ -(2 ^ 31) ∨ 2 ^ 31 ≤ n) (hr : i64Min < n ∧ n < 2 ^ 63) :
    4 < (buildScriptInt n).length ∧ readScriptInt (buildScriptInt n) = .err "NumericOverflow" := by
  have hl : 4 < (buildScriptInt n).length := Nat.lt_of_not_le fun c => by
    have := (buildScriptInt_length_iff (by omega) (i64_abs hr) 4 (by decide)).mp c
    simp at this
    omega
  exact ⟨hl, (readScriptInt_err_iff _).mpr hl⟩

/-- the encoding is the shortest sign-magnitude form: at most `k` bytes iff `|n| < 2^(8k−1)` -/
theorem scriptint_length (n : Int) (h0 : n ≠ 0) (hr : i64Min < n ∧ n < 2 ^ 63) (k : Nat) (hk : 1 ≤ k) :
    (buildScriptInt n).length ≤ k ↔ n.natAbs < 128 * 256 ^ (k - 1) :=
  buildScriptInt_length_iff h0 (i64_abs hr) k hk

/-- little-endian magnitude, sign in the top bit of the last byte -/
theorem scriptint_sign_magnitude (n : Int) (h0 : n ≠ 0) (hr : i64Min < n ∧ n < 2 ^ 63) :
    let v := buildScriptInt n
    v ≠ [] ∧ leNat v = n.natAbs + (if n < 0 then 128 * 256 ^ (v.length - 1) else 0) ∧
    (128 ≤ (v.getD (v.length - 1) 0).toNat ↔ n < 0) := by
  obtain ⟨init, l, e, hm, hs, -⟩ := build_snoc h0 (i64_abs hr)
  rw [e]
  refine ⟨by simp, ?_, by rw [getD_last_snoc]; exact hs⟩
  rw [leNat_mag, hm, List.length_append, List.length_singleton, Nat.add_sub_cancel]
  simp only [hs]

theorem scriptint_zero : buildScriptInt 0 = [] ∧ readScriptInt [] = .ok 0 := ⟨rfl, rfl⟩

/-! ## script numbers: minimal encodings -/

section scriptnum
open EV.Proofs.ScriptNumMin

/-- `read_scriptint` rejects exactly the over-long strings (more than 4 bytes, `NumericOverflow`); every
    string of at most 4 bytes is read, minimal or not (`[0x00]`, `[0x80]` "negative zero", `[0x01, 0x00]` …) -/
theorem read_scriptint_rejects_only_overlong (v : Bytes) :
    (readScriptInt v = .err "NumericOverflow" ↔ 4 < v.length) ∧ (v.length ≤ 4 → ∃ i, readScriptInt v = .ok i) :=
  ⟨readScriptInt_err_iff v, readScriptInt_ok_of_le v⟩

/-- `build_scriptint` output is minimal: no redundant trailing `0x00` / `0x80` sign byte -/
theorem build_scriptint_minimal (n : Int) (hr : i64Min < n ∧ n < 2 ^ 63) : minimalNum (buildScriptInt n) = true :=
  buildScriptInt_minimal n (i64_abs hr)

/-- reading a string of at most 4 bytes and building the value again gives the string back exactly when it
    is minimal -/
theorem read_then_build_iff_minimal (v : Bytes) (h4 : v.length ≤ 4) (i : Int) (hr : readScriptInt v = .ok i) :
    buildScriptInt i = v ↔ minimalNum v = true := build_read_iff_minimal v h4 i hr

/-- for `n` other than −1, 0, 1..16 and `i64::MIN`, `push_int(n)` is `push_slice(build_scriptint(n))` (through
    `push_scriptint`); on −1, 0, 1..16 it writes an opcode (`expected_push`), on `i64::MIN` it panics
    (`push_i64_min_panics`) -/
theorem push_int_uses_build_scriptint (b : Builder) (n : Int) (h : n ≠ -1 ∧ n ≠ 0 ∧ ¬ (1 ≤ n ∧ n ≤ 16)) (hm : n ≠ i64Min) :
    b.pushInt n = b.pushSlice (buildScriptInt n) := by
  have c : ¬ (n = -1 ∨ (1 ≤ n ∧ n ≤ 16)) := fun e => e.elim h.1 h.2.2
  rw [Builder.pushInt, if_neg c, if_neg h.2.1, Builder.pushScriptInt, if_neg hm]

example : readScriptInt [0x01, 0x00] = .ok 1 ∧ buildScriptInt 1 = [0x01] ∧ minimalNum [0x01, 0x00] = false ∧
    readScriptInt [0x80] = .ok 0 ∧ minimalNum [0x80] = false ∧ minimalNum [0xff, 0x00] = true := by decide
example : i64Min < (2 ^ 63 - 1 : Int) ∧ minimalNum (buildScriptInt (2 ^ 63 - 1)) = true := by decide
example : (17 : Int) ≠ -1 ∧ (17 : Int) ≠ 0 ∧ ¬ (1 ≤ (17 : Int) ∧ (17 : Int) ≤ 16) ∧ (17 : Int) ≠ i64Min := by decide

end scriptnum

/-! ## template predicates ↔ byte patterns (for all byte strings) -/

theorem is_p2pkh_iff (s : Bytes) : isP2pkh s = true ↔ ∃ h, h.length = 20 ∧ s = p2pkhScript h := isP2pkh_iff s

theorem is_p2sh_iff (s : Bytes) : isP2sh s = true ↔ ∃ h, h.length = 20 ∧ s = p2shScript h := isP2sh_iff s

/-- version opcode OP_0 or OP_1..OP_16, then a direct push of 2..40 bytes, nothing else -/
theorem is_witness_program_iff (s : Bytes) : isWitnessProgram s = true ↔
    ∃ v prog, (v = 0 ∨ (opPushnum1 ≤ v ∧ v ≤ opPushnum16)) ∧ 2 ≤ prog.length ∧ prog.length ≤ 40 ∧
      s = witnessScript v prog := isWitnessProgram_iff s

theorem is_v0_p2wpkh_iff (s : Bytes) : isV0P2wpkh s = true ↔
    ∃ prog, prog.length = 20 ∧ s = witnessScript opPushbytes0 prog := isV0P2wpkh_iff s

theorem is_v0_p2wsh_iff (s : Bytes) : isV0P2wsh s = true ↔
    ∃ prog, prog.length = 32 ∧ s = witnessScript opPushbytes0 prog := isV0P2wsh_iff s

theorem is_v1_p2tr_iff (s : Bytes) : isV1P2tr s = true ↔
    ∃ prog, prog.length = 32 ∧ s = witnessScript opPushnum1 prog := isV1P2tr_iff s

/-- versions 1..16 with a 2..40 byte program -/
theorem is_v1plus_p2witprog_iff (s : Bytes) : isV1plusP2witprog s = true ↔
    ∃ v prog, (opPushnum1 ≤ v ∧ v ≤ opPushnum16) ∧ 2 ≤ prog.length ∧ prog.length ≤ 40 ∧
      s = witnessScript v prog := isV1plusP2witprog_iff s

theorem is_p2pk_iff (s : Bytes) : isP2pk s = true ↔
    ∃ key, (key.length = 65 ∨ key.length = 33) ∧ s = [UInt8.ofNat key.length] ++ key ++ [opChecksig] := isP2pk_iff s

theorem is_op_return_iff (s : Bytes) : isOpReturn s = true ↔ ∃ rest, s = opReturn :: rest := by
  cases s with
  | nil => simp [isOpReturn]
  | cons a rest => simp [isOpReturn, at']

theorem is_provably_unspendable_iff (s : Bytes) : isProvablyUnspendable s = true ↔
    (∃ rest, s = opReturn :: rest) ∨ maxScriptSize < s.length ∨ s = [] := by
  -- the first test is `is_op_return` written out again
  rw [← is_op_return_iff]
  simp only [isProvablyUnspendable, isOpReturn, Bool.or_eq_true, decide_eq_true_eq, List.isEmpty_iff, gt_iff_lt, or_assoc]

theorem special_cases_are_witness_programs (s : Bytes) :
    (isV0P2wpkh s = true ∨ isV0P2wsh s = true ∨ isV1P2tr s = true ∨ isV1plusP2witprog s = true) →
    isWitnessProgram s = true := by
  have z : opPushbytes0 = 0 := by decide
  have o1 : opPushnum1 ≤ opPushnum1 ∧ opPushnum1 ≤ opPushnum16 := by decide
  intro h
  rw [is_witness_program_iff]
  rcases h with h | h | h | h
  · obtain ⟨p, hl, rfl⟩ := (is_v0_p2wpkh_iff s).mp h
    exact ⟨0, p, Or.inl rfl, by omega, by omega, by rw [z]⟩
  · obtain ⟨p, hl, rfl⟩ := (is_v0_p2wsh_iff s).mp h
    exact ⟨0, p, Or.inl rfl, by omega, by omega, by rw [z]⟩
  · obtain ⟨p, hl, rfl⟩ := (is_v1_p2tr_iff s).mp h
    exact ⟨opPushnum1, p, Or.inr o1, by omega, by omega, rfl⟩
  · obtain ⟨v, p, hv, h2, h40, rfl⟩ := (is_v1plus_p2witprog_iff s).mp h
    exact ⟨v, p, Or.inr hv, h2, h40, rfl⟩

/-! ## scripts ↔ addresses (payload level) -/

/-- an address is derived from a script exactly for the templates: `from_script s = Some(p)` iff `p`
    is a standard payload (20-byte hash; v0 with 20/32 bytes; v1..16 with 2..40 bytes) and `s` is its
    pattern -/
theorem from_script_iff_template (s : Bytes) (p : Payload) :
    fromScript s = some p ↔ (p.standard ∧ s = p.pattern) :=
  ⟨fromScript_some, fun ⟨h, e⟩ => e ▸ fromScript_pattern h⟩

/-- when an address is derived from a script (`from_script s = Some(p)`), the address's output script
    (`script_pubkey`) is the original script -/
theorem script_addr_script (s : Bytes) (p : Payload) (h : fromScript s = some p) : scriptPubkey p = some s := by
  obtain ⟨hs, rfl⟩ := fromScript_some h
  exact scriptPubkey_standard hs

/-- every standard payload survives payload → script → payload -/
theorem addr_script_addr (p : Payload) (h : p.standard) :
    ∃ s, scriptPubkey p = some s ∧ fromScript s = some p :=
  ⟨p.pattern, scriptPubkey_standard h, fromScript_pattern h⟩

/-- only standard payloads survive payload → script → payload (e.g. witness versions 17..31, v0 programs of
    lengths other than 20 and 32, v1+ programs of 0, 1 or more than 40 bytes do not come back) -/
theorem addr_script_addr_only_standard (p : Payload) (s : Bytes)
    (_ : scriptPubkey p = some s) (h2 : fromScript s = some p) : p.standard := (fromScript_some h2).1

/-- `is_witness_program` and `from_script` agree except for version 0 with a program that is not 20
    or 32 bytes: such a script is a witness program by the predicate but has no address -/
theorem witness_program_address (s : Bytes) (h : isWitnessProgram s = true) :
    fromScript s = none ↔ (at' s 0 = opPushbytes0 ∧ s.length ≠ 22 ∧ s.length ≠ 34) := by
  obtain ⟨vo, prog, hv, hl2, hl40, rfl⟩ := (is_witness_program_iff s).mp h
  obtain ⟨f1, f2, _, _⟩ := witnessScript_facts vo prog (by omega)
  obtain ⟨v, hv16, rfl⟩ : ∃ v, v ≤ 16 ∧ versionOpcode v = vo := by
    rcases hv with rfl | ⟨h1, h16⟩
    · exact ⟨0, by omega, by decide⟩
    · obtain ⟨_, g2, g3⟩ := versionOpcode_of_byte vo h1 h16
      exact ⟨_, g2, g3⟩
  have hz : versionOpcode v = opPushbytes0 ↔ v = 0 := by
    rw [← UInt8.toNat_inj, versionOpcode_toNat (by omega)]
    have : opPushbytes0.toNat = 0 := by decide
    split <;> omega
  rw [f1, f2, fromScript_witness_none_iff (by omega), hz]
  simp only [Payload.standard]
  omega

/-- scripts with an address are p2pkh, p2sh or witness programs -/
theorem address_scripts_are_templates (s : Bytes) (p : Payload) (h : fromScript s = some p) :
    isP2pkh s = true ∨ isP2sh s = true ∨ isWitnessProgram s = true := by
  have hne := mt (fromScript_eq_none_iff s).mpr (by rw [h]; nofun)
  simp only [Decidable.not_and_iff_not_or_not, Bool.not_eq_false] at hne
  exact hne.imp_right (Or.imp_right fun hw =>
    special_cases_are_witness_programs s (hw.imp_right (Or.imp_right Or.inr)))

/-- the `Script::new_*` constructors write the address scripts -/
theorem constructors_agree (h : Bytes) (v : Nat) (prog : Bytes) (hv : v ≤ 16) :
    newP2pkh h = scriptPubkey (.pubkeyHash h) ∧ newP2sh h = scriptPubkey (.scriptHash h) ∧
    newWitnessProgram v prog = scriptPubkey (.witnessProgram v prog) :=
  ⟨rfl, rfl, newWitnessProgram_eq v prog hv⟩

/-! ## scripts ↔ addresses ↔ text (C16 × C06) -/

section text
open EV.Proofs.BridgeScriptAddress

/-- **Script → address → text → address.** Composes the script/payload model of this property
    (`EV.Model.Script`: `from_script`, `script_pubkey` on `EV.Script.Payload`) with the address/text model of
    property C06 (`EV.Model.Address`: `Display`, `from_str`, `parse_with_params` on `EV.Addr.Address`, hash and
    key parser as parameters `P`), through `toAddrPayload` (the same payload with its bytes as `List Nat`).
    For every script `s` from which an address is derived (`from_script s = Some(p)`), every one of the three
    networks and every admissible blinder (none, or 33 bytes the key parser accepts — `Addr.BlinderOk`): the
    address's output script is `s`, and the displayed text of the address parses back to the same address, with
    `from_str` and with `parse_with_params` of that network. -/
theorem script_address_text_roundtrip (P : Addr.Prims) (s : Bytes) (p : Payload) (h : fromScript s = some p)
    (params : Gen.AddrParamsB) (hp : params ∈ Gen.allParamsB) (blinder : Option (List Nat))
    (hb : Addr.BlinderOk P blinder) :
    let a : Addr.Address := ⟨params, toAddrPayload p, blinder⟩
    scriptPubkey p = some s ∧ Addr.fromStr P (Addr.display P a) = .ok a ∧
      Addr.parseWithParams P (Addr.display P a) params = .ok a := by
  intro a
  have hw : Addr.WF P a := wf_toAddress P p ((from_script_iff_template s p).mp h).1 params hp blinder hb
  exact ⟨script_addr_script s p h, C06.addr_roundtrip P a hw⟩

/-- the conversion loses nothing: distinct payloads (hence, by `from_script_iff_template`, distinct address
    scripts) give distinct C06 payloads, and converting back returns the payload -/
theorem address_payload_conversion (p q : Payload) :
    ofAddrPayload (toAddrPayload p) = p ∧ (toAddrPayload p = toAddrPayload q → p = q) :=
  ⟨of_to_payload p, toAddrPayload_injective p q⟩

/-- **Text → address → script → address.** Whatever
    `from_str` accepts (C06 `parsed_shape`: a standard address, all entries byte values) converts to a C16
    payload `p` that is `standard`, converts back to the parsed payload exactly, and whose `script_pubkey` is a
    script from which `from_script` derives `p` again (`addr_script_addr`); displaying the address gives the
    text back (lower-cased for the segwit forms, C06 `parse_display_canonical`). -/
theorem text_address_script_roundtrip (P : Addr.Prims) (t : Bech32.Text) (a : Addr.Address)
    (h : Addr.fromStr P t = .ok a) :
    let p := ofAddrPayload a.payload
    p.standard ∧ toAddrPayload p = a.payload ∧
      (∃ s, scriptPubkey p = some s ∧ fromScript s = some p) ∧
      Addr.display P ⟨a.params, toAddrPayload p, a.blinder⟩ = (if a.payload.isSegwit then Bech32.lower t else t) := by
  intro p
  obtain ⟨hs, he⟩ := standard_of_payloadStd a.payload (C06.parsed_shape P t a h).payload
  refine ⟨hs, he, addr_script_addr p hs, ?_⟩
  rw [he]
  exact C06.parse_display_canonical P t a h

/-- **Text → address → script → address** for `parse_with_params` of one of the three networks: the parsed address
    is on that network, and the same holds of its payload. -/
theorem text_address_script_roundtrip_with_params (P : Addr.Prims) (t : Bech32.Text) (params : Gen.AddrParamsB)
    (hp : params ∈ Gen.allParamsB) (a : Addr.Address) (h : Addr.parseWithParams P t params = .ok a) :
    let p := ofAddrPayload a.payload
    a.params = params ∧ p.standard ∧ toAddrPayload p = a.payload ∧
      ∃ s, scriptPubkey p = some s ∧ fromScript s = some p := by
  intro p
  obtain ⟨hs, he⟩ := standard_of_payloadStd a.payload (C06.parsed_shape_with_params P t params hp a h).payload
  exact ⟨(C06.parse_with_params_display_canonical P t params hp a h).1, hs, he, addr_script_addr p hs⟩

end text

/-! ## non-vacuity of the sections above -/

example : build [.opcode opDup, .opcode opHash160, .slice (List.replicate 20 7), .opcode opEqual, .verify, .opcode opChecksig]
    = some (p2pkhScript (List.replicate 20 7)) := by decide
example : expected [.opcode opChecksig, .verify, .verify, .slice [1], .verify] =
    [.op opChecksigverify, .op opVerify, .push [1], .op opVerify] := by decide
example : instructions [0x4c, 0x01, 0xaa, 0x01] = ([.push [0xaa]], some .earlyEnd) := by decide
example : instructionsMinimal [0x4c, 0x01, 0xaa] = ([], some .nonMinimal) := by decide
example : instructionsMinimal [0x01, 0x81] = ([], some .nonMinimal) ∧ instructions [0x01, 0x81] = ([.push [0x81]], none) := by decide
example : buildScriptInt (-255) = [0xff, 0x80] ∧ readScriptInt [0xff, 0x80] = .ok (-255) := by decide
example : fromScript (witnessScript opPushnum16 [1, 2]) = some (.witnessProgram 16 [1, 2]) := by decide
example : isWitnessProgram (witnessScript 0 [1, 2, 3]) = true ∧ fromScript (witnessScript 0 [1, 2, 3]) = none := by decide
example : fromScript (witnessScript opPushnum1 [1]) = none := by decide
/-- the hypotheses of `script_address_text_roundtrip` are satisfiable, blinded and unblinded -/
example : fromScript (p2shScript (List.replicate 20 7)) = some (.scriptHash (List.replicate 20 7)) ∧
    Gen.paramsLiquidB ∈ Gen.allParamsB ∧
    Addr.BlinderOk { sha256d := fun _ => [], validPk := fun _ => true } (some (List.replicate 33 2)) ∧
    Addr.BlinderOk { sha256d := fun _ => [], validPk := fun _ => true } none ∧
    EV.Proofs.BridgeScriptAddress.toAddrPayload (.scriptHash (List.replicate 20 7)) = .sh (List.replicate 20 7) :=
  ⟨by decide, by decide, ⟨by decide, rfl, by intro b hb; rw [List.mem_replicate] at hb; omega⟩, trivial, by decide⟩

/-! ## opcode classification and opcode names (src/opcodes.rs)

  Model: EV.Model.Opcodes.  `classify` and `name` read tables that tools/extract.d/opcodes.py regenerates from
  the `match`es of `All::classify` / `Debug for All` on every run (`EV.Gen.opClassLegacyTable`,
  `opClassTapscriptTable`, `opNameTable`, `ordinaryOpcodes`); `classifyArms` is the same `match` written out over
  the named constants.  An opcode is its byte; `none` = panic. -/

section opcodes
open EV.Opcodes EV.Proofs.Opcodes

/-- the generated tables and the arm-by-arm reading of `All::classify` agree on all 2 × 256 inputs -/
theorem classify_eq_arms (ctx : Ctx) (b : UInt8) : classify ctx b = classifyArms ctx b :=
  EV.Proofs.Opcodes.classify_eq_arms ctx b

/-- in `Legacy` context — the only one `Instructions::next` and `fmt_asm` use — `classify` is total -/
theorem classify_legacy_total (b : UInt8) : ∃ c, classify .legacy b = some c :=
  Option.isSome_iff_exists.mp (classify_of_tableAll legacy_total_pass b)

/-- Observation (DESIGN.md §3, among those outside the properties' scope: `classify` is not a `Result` API and no
    listed property speaks of it, so known_findings.jsonl has no entry for it): in `TapScript` context `classify` panics
    (`Ordinary::try_from_all(self).unwrap()` on `None`) exactly for OP_CHECKSIGADD, OP_RETURN_192 and the 33
    Elements tapscript opcodes OP_SHA256INITIALIZE ..= OP_TWEAKVERIFY: no arm claims them and they are not in
    the `ordinary_opcode!` list -/
theorem classify_tapscript_panics_iff (b : UInt8) : classify .tapScript b = none ↔
    (b = opChecksigadd ∨ b = opReturn192 ∨ (opSha256initialize ≤ b ∧ b ≤ opTweakverify)) :=
  classify_of_tableAll tapscript_none_pass b

/-- `PushBytes(n)` ↔ the byte is at most `OP_PUSHBYTES_75` and `n` is the byte (both contexts) -/
theorem classify_push_bytes_iff (ctx : Ctx) (b : UInt8) (n : Nat) :
    classify ctx b = some (.pushBytes n) ↔ (b ≤ opPushbytes75 ∧ n = b.toNat) := by
  exact eq_some_iff_of_pass (classify_of_tableAll (pushBytes_pass ctx) b) (fun _ => rfl) Class.pushBytes.inj n

/-- `PushNum(n)` ↔ `OP_PUSHNUM_NEG1` with −1, or `OP_PUSHNUM_1 ..= OP_PUSHNUM_16` with 1..16 (both contexts) -/
theorem classify_push_num_iff (ctx : Ctx) (b : UInt8) (n : Int) :
    classify ctx b = some (.pushNum n) ↔
      ((b = opPushnumNeg1 ∧ n = -1) ∨
       (opPushnum1 ≤ b ∧ b ≤ opPushnum16 ∧ n = Int.ofNat b.toNat - Int.ofNat opPushnum1.toNat + 1)) := by
  rw [eq_some_iff_of_pass (classify_of_tableAll (pushNum_pass ctx) b) (fun _ => rfl) Class.pushNum.inj n,
    or_and_right, and_assoc]
  -- `OP_PUSHNUM_NEG1` is two below `OP_PUSHNUM_1`: at it the formula gives −1
  exact or_congr_left (and_congr_right fun e => e ▸ Iff.rfl)

/-- the remaining classes in `Legacy` context, as the match arms give them: `ReturnOp` = OP_RETURN, the four
    reserved opcodes and every byte from OP_CHECKSIGADD (0xba) up except 0xff — this includes the Elements
    opcodes OP_CHECKSIGFROMSTACK(VERIFY), OP_SUBSTR_LAZY and all tapscript-only opcodes; `IllegalOp` = the 3 + 15
    listed; `NoOp` = OP_NOP and OP_NOP1..OP_NOP10 (with OP_CLTV, OP_CSV); `SuccessOp` never -/
theorem classify_classes_legacy (b : UInt8) :
    (classify .legacy b = some .returnOp ↔ (b = opReturn ∨ b = opReserved ∨ b = opReserved1 ∨ b = opReserved2 ∨
        b = opVer ∨ (opChecksigadd ≤ b ∧ b ≠ opInvalidopcode))) ∧
    (classify .legacy b = some .illegalOp ↔ b ∈ [opVerif, opVernotif, opInvalidopcode, opCat, opSubstr, opLeft,
        opRight, opInvert, opAnd, opOr, opXor, op2mul, op2div, opMul, opDiv, opMod, opLshift, opRshift]) ∧
    (classify .legacy b = some .noOp ↔ (b = opNop ∨ (opNop1 ≤ b ∧ b ≤ opNop10))) ∧
    classify .legacy b ≠ some .successOp := by
  simpa only [testBit_codes, List.mem_cons, List.not_mem_nil, or_false, or_assoc] using
    classify_of_tableAll legacy_classes_pass b

/-- the remaining classes in `TapScript` context (where `classify` does not panic): `ReturnOp` = OP_RETURN, OP_CHECKMULTISIG(VERIFY);
    `IllegalOp` = OP_VERIF, OP_VERNOTIF, OP_INVALIDOPCODE; `SuccessOp` = the 40 bytes of the guard -/
theorem classify_classes_tapscript (b : UInt8) :
    (classify .tapScript b = some .returnOp ↔ (b = opReturn ∨ b = opCheckmultisig ∨ b = opCheckmultisigverify)) ∧
    (classify .tapScript b = some .illegalOp ↔ (b = opVerif ∨ b = opVernotif ∨ b = opInvalidopcode)) ∧
    (classify .tapScript b = some .noOp ↔ (b = opNop ∨ (opNop1 ≤ b ∧ b ≤ opNop10))) ∧
    (classify .tapScript b = some .successOp ↔ (b.toNat = 80 ∨ b.toNat = 98 ∨ (137 ≤ b.toNat ∧ b.toNat ≤ 138) ∨
        (141 ≤ b.toNat ∧ b.toNat ≤ 142) ∨ (149 ≤ b.toNat ∧ b.toNat ≤ 151) ∨ (187 ≤ b.toNat ∧ b.toNat ≤ 191) ∨
        (229 ≤ b.toNat ∧ b.toNat ≤ 254))) := by
  simpa only [testBit_codes, List.mem_cons, List.not_mem_nil, or_false, or_assoc] using
    classify_of_tableAll tapscript_classes_pass b

/-- `Ordinary::try_from_all` succeeds exactly on the `ordinary_opcode!` list and returns the variant whose
    discriminant (`into_u8`) is the opcode byte; hence it is injective -/
theorem try_from_all_iff (b o : UInt8) : tryFromAll b = some o ↔ (o = b ∧ b ∈ ordinaryOpcodes) := tryFromAll_iff b o

theorem try_from_all_injective (a b o : UInt8) (ha : tryFromAll a = some o) (hb : tryFromAll b = some o) : a = b := by
  rw [((try_from_all_iff a o).mp ha).1.symm, ((try_from_all_iff b o).mp hb).1]

/-- class `Ordinary(o)` ↔ `o` is the opcode itself, it is in the `ordinary_opcode!` list, and no earlier arm
    claims it.  So "`try_from_all` succeeds iff the class is ordinary" is FALSE in both contexts: 13 listed
    opcodes are `IllegalOp`/`ReturnOp` in `Legacy` (among them OP_CAT … OP_RSHIFT and OP_CHECKSIGFROMSTACK(VERIFY),
    OP_SUBSTR_LAZY, which Elements executes), 2 are `ReturnOp` in `TapScript`. -/
theorem classify_ordinary_iff_legacy (b o : UInt8) : classify .legacy b = some (.ordinary o) ↔
    (o = b ∧ tryFromAll b = some b ∧ b ∉ [opCat, opSubstr, opLeft, opRight, opInvert, opAnd, opOr, opXor, opLshift,
      opRshift, opChecksigfromstack, opChecksigfromstackverify, opSubstrLazy]) := classify_ordinary_iff .legacy b o

theorem classify_ordinary_iff_tapscript (b o : UInt8) : classify .tapScript b = some (.ordinary o) ↔
    (o = b ∧ tryFromAll b = some b ∧ b ∉ [opCheckmultisig, opCheckmultisigverify]) :=
  classify_ordinary_iff .tapScript b o

/-- sizes of the classes (PushNum, PushBytes, ReturnOp, SuccessOp, IllegalOp, NoOp, Ordinary, panic).  The
    comments in the source announce 61 / 60 `Ordinary` opcodes for Legacy / TapScript and 87 `SuccessOp`s; the
    code has 60 / 71 (+ 35 panics) and 40. -/
theorem class_counts : EV.Proofs.Opcodes.classCounts .legacy = [17, 76, 74, 0, 18, 11, 60, 0] ∧
    EV.Proofs.Opcodes.classCounts .tapScript = [17, 76, 3, 40, 3, 11, 71, 35] := by decide +kernel

/-- the `Display`/`Debug` names of the 256 opcodes are pairwise distinct, and each is the identifier of its
    constant in `mod all` (what the crate's unit test `str_roundtrip` asserts) -/
theorem opcode_names_distinct (a b : UInt8) (h : name a = name b) : a = b := EV.Proofs.Opcodes.name_injective h

theorem opcode_name_is_const_identifier : opNameTable = opConstNames := rfl

/-- the texts `fmt_asm` writes for the 256 opcodes (`OP_0` instead of `OP_PUSHBYTES_0`) are pairwise distinct too:
    the asm of a single opcode identifies it -/
theorem asm_opcode_injective (a b : UInt8) (h : asmOpcode a = asmOpcode b) : a = b :=
  EV.Proofs.ScriptAsmText.asmOpcode_injective h

/-- `classify(Legacy)`, on which `Instructions::next` matches, in the byte tests that the iterator model `next`
    makes instead: the class is `PushBytes(n)` exactly up to `OP_PUSHBYTES_75`, and the three PUSHDATA opcodes are
    `Ordinary` of themselves.  The statement speaks of `classify` only; that `next` tests the byte in this way is
    its definition. -/
theorem iterator_classification (b : UInt8) :
    (b ≤ opPushbytes75 ↔ ∃ n, classify .legacy b = some (.pushBytes n)) ∧
    classify .legacy opPushdata1 = some (.ordinary opPushdata1) ∧
    classify .legacy opPushdata2 = some (.ordinary opPushdata2) ∧
    classify .legacy opPushdata4 = some (.ordinary opPushdata4) := by
  refine ⟨⟨fun h => ⟨b.toNat, (classify_push_bytes_iff .legacy b b.toNat).mpr ⟨h, rfl⟩⟩,
    fun ⟨n, h⟩ => ((classify_push_bytes_iff .legacy b n).mp h).1⟩, ?_, ?_, ?_⟩
  all_goals
    rw [classify_ordinary_iff_legacy, try_from_all_iff]
    decide

end opcodes

/-! ## the text forms of a script (`fmt_asm` / `asm`, `Debug`, `Display`, `{:x}`, `{:X}`)

  Model: EV.Model.ScriptAsm.  The formatter's quirks are modelled as they are: a script whose first opcode is
  `OP_PUSHDATA1/2/4` starts with a space (the separator test is `index > 1` after the length bytes), an error
  marker of a cut-off length field is written without separator and without the opcode, and the length field
  itself is never printed. -/

section asm
open EV.Proofs.ScriptAsm

/-- `fmt_asm` never panics and never fails (`asm()` unwraps it) -/
theorem asm_total (s : Bytes) : ∃ cs, asm s = some cs := EV.Proofs.ScriptAsm.asm_total s

/-- the `<bad length>` branches are unreachable (the length test before `read_uint` is the same test) -/
theorem bad_length_unreachable (b : UInt8) (tl : Bytes) : dataLen b tl ≠ some .badLength := by
  rw [dataLen_eq]
  cases hdr b tl with
  | none => simp
  | some kn => simp

/-- **asm is injective on cleanly decoding scripts**: two scripts whose instruction streams have no error and
    that print the same text are the same byte string.  The opcode text names the push opcode (so the width of
    a PUSHDATA length field is visible), the hex word gives the data and hence the value of the length field;
    `OP_0` / `OP_PUSHDATA1` with length 0 / `OP_PUSHBYTES_1 xx` / `OP_PUSHDATA1 xx` all print differently. -/
theorem asm_injective_clean (s t : Bytes) (hs : (instructions s).2 = none) (ht : (instructions t).2 = none)
    (h : asm s = asm t) : s = t := EV.Proofs.ScriptAsm.asm_injective_clean s t hs ht h

/-- an error marker (`<unexpected end>`, `<push past end>`) is printed exactly when the instruction stream
    has an error: the text of a clean script contains no `<` -/
theorem asm_marker_iff_error (s : Bytes) : (instructions s).2 = none ↔ ∃ cs, asm s = some cs ∧ '<' ∉ cs := by
  rcases asm_cases s with ⟨h, rs, _, _, e⟩ | ⟨h, cs, e, hm⟩
  · exact iff_of_true h ⟨_, e, topText_no_lt rs⟩
  · exact iff_of_false h fun ⟨cs', e', hn⟩ => hn (Option.some.inj (e.symm.trans e') ▸ hm)

/-- the text of a clean script is shared with no other script at all, clean or not -/
theorem asm_clean_determines_script (s t : Bytes) (hs : (instructions s).2 = none) (h : asm s = asm t) : s = t := by
  obtain ⟨cs, hcs, hn⟩ := (asm_marker_iff_error s).mp hs
  exact asm_injective_clean s t hs ((asm_marker_iff_error t).mpr ⟨cs, h ▸ hcs, hn⟩) h

/-- the ambiguity that does exist: scripts that end in a decode error.  A cut-off length field prints only
    the marker, a cut-off push prints neither the announced length nor the bytes that are there. -/
example : asm [0x4c] = asm [0x4d] ∧ asm [0x4d] = asm [0x4d, 0x00] ∧ asm [0x02] = asm [0x02, 0xaa] ∧
    asm [0x4c, 0x05, 0xaa] = asm [0x4c, 0x06, 0xbb, 0xcc] := by decide

/-- what does not collide: the empty push by `OP_0` and by `OP_PUSHDATA1`, one byte by a direct push and by
    `OP_PUSHDATA1` / `OP_PUSHDATA2`, and the marker of a cut-off length field after a clean opcode -/
example : asm [0x00] = some "OP_0".toList ∧ asm [0x4c, 0x00] = some " OP_PUSHDATA1".toList ∧
    asm [0x01, 0xaa] = some "OP_PUSHBYTES_1 aa".toList ∧ asm [0x4c, 0x01, 0xaa] = some " OP_PUSHDATA1 aa".toList ∧
    asm [0x4d, 0x01, 0x00, 0xaa] = some " OP_PUSHDATA2 aa".toList ∧
    asm [0x51, 0x4c] = some "OP_PUSHNUM_1<unexpected end>".toList := by
  -- `String.toList_ofList` gives the `toList` of a literal without evaluating it (that would be UTF-8 decoding in
  -- the kernel); only `asm` is evaluated.
  refine ⟨?_, ?_, ?_, ?_, ?_, ?_⟩ <;>
    exact Eq.trans (by decide +kernel) (congrArg some String.toList_ofList.symm)
example : (instructions [0x76, 0xa9, 0x01, 0xaa]).2 = none ∧ (instructions [0x4c, 0x01]).2 = some .earlyEnd := by decide

/-- asm of a canonically encoded instruction list is its items (opcode text, for a non-empty push followed by
    the data in hex) separated by single spaces (after a leading space if the first push has 76 bytes or more) -/
theorem asm_serialize (is : List Instr) (h : ∀ i ∈ is, i.wf) : asm (serialize is) = some (asmItems is) :=
  EV.Proofs.ScriptAsm.asm_serialize is h

/-- bridge to the builder: the asm (and `Debug`/`Display`) text of a built script is the text of the
    instructions that were added -/
theorem asm_build (ops : List BOp) (h : ∀ o ∈ ops, o.wf) :
    ∃ s, build ops = some s ∧ asm s = some (asmItems (expected ops)) ∧
      debug s = some (scriptDebugOpen ++ asmItems (expected ops) ++ scriptDebugClose) := by
  obtain ⟨hb, hw⟩ := build_eq_serialize false ops h nofun
  have ha := asm_serialize _ (fun i hi => (hw i hi).1)
  exact ⟨_, hb, ha, by simp [debug, ha]⟩

/-- one item per builder call when `push_verify` is not used (with it, a fold replaces the previous item:
    `expected_verify`) -/
theorem asm_build_one_item_per_call (ops : List BOp) (h : ∀ o ∈ ops, o.wf) (hv : ∀ o ∈ ops, o ≠ .verify) :
    ∃ s, build ops = some s ∧ asm s = some (asmLead (ops.map instrOf) ++ [' '].intercalate (ops.map (asmItem ∘ instrOf))) ∧
      (ops.map (asmItem ∘ instrOf)).length = ops.length := by
  obtain ⟨s, hb, ha, _⟩ := asm_build ops h
  rw [expected_no_verify ops hv] at ha
  exact ⟨s, hb, by rw [ha, asmItems, List.map_map], by simp⟩

example : asm (p2pkhScript (List.replicate 20 7)) =
    some "OP_DUP OP_HASH160 OP_PUSHBYTES_20 0707070707070707070707070707070707070707 OP_EQUALVERIFY OP_CHECKSIG".toList :=
  Eq.trans (by decide +kernel) (congrArg some String.toList_ofList.symm)
example : asmItems [.push [0xab, 0xcd], .op opChecksig, .push []] = "OP_PUSHBYTES_2 abcd OP_CHECKSIG OP_0".toList ∧
    asmLead [.push (List.replicate 76 0xab), .op opChecksig] = [' '] :=
  ⟨Eq.trans (by decide +kernel) String.toList_ofList.symm, by decide⟩

/-- `{:x}` and `{:X}` of a script parse back to the script (`Script::from_hex_no_prefix` accepts both cases) -/
theorem hex_forms_parse_back (s : Bytes) :
    Hex.decodeChars (lowerHex s) = some s ∧ Hex.decodeChars (upperHex s) = some s :=
  ⟨EV.Text.decodeChars_hexStr s, EV.Proofs.ScriptAsmText.decodeChars_upperHex s⟩

end asm

/-! ## the remaining constructors: `new_op_return`, `to_p2sh`, `to_v0_p2wsh` -/

section constructors

/-- `Script::new_op_return(data)` is recognised by `is_op_return` and `is_provably_unspendable`, and iterates
    as OP_RETURN followed by the push of `data` -/
theorem new_op_return_is_op_return (d : Bytes) (h : d.length < 2 ^ 32) :
    ∃ s, newOpReturn d = some s ∧ isOpReturn s = true ∧ isProvablyUnspendable s = true ∧
      instructions s = ([.op opReturn, .push d], none) := by
  have hwf : ∀ o ∈ [BOp.opcode opReturn, BOp.slice d], o.wf :=
    List.forall_mem_cons.mpr ⟨Or.inr (by decide), List.forall_mem_cons.mpr ⟨h, fun _ ho => nomatch ho⟩⟩
  obtain ⟨hb, hi⟩ := build_collect false _ hwf nofun
  -- `expected` of the two calls computes to `[.op opReturn, .push d]`
  have hop : ∃ rest, serialize [.op opReturn, .push d] = opReturn :: rest := ⟨_, rfl⟩
  exact ⟨_, hb, (is_op_return_iff _).mpr hop, (is_provably_unspendable_iff _).mpr (Or.inl hop), hi⟩

/-- `Script::to_p2sh` is `new_p2sh(script_hash)`: the p2sh pattern of the script's hash160, recognised by
    `is_p2sh`, and `Address::from_script` gives back that script hash -/
theorem to_p2sh_is_p2sh (H : ScriptHashes) (h20 : ∀ x, (H.hash160 x).length = 20) (s : Bytes) :
    toP2sh H s = newP2sh (H.hash160 s) ∧ toP2sh H s = some (p2shScript (H.hash160 s)) ∧
      isP2sh (p2shScript (H.hash160 s)) = true ∧
      fromScript (p2shScript (H.hash160 s)) = some (.scriptHash (H.hash160 s)) := by
  -- the payload is given explicitly: left to unification, `Payload.pattern ?p` is matched against the
  -- pattern only after `fromScript` and `build` have been unfolded
  exact ⟨rfl, scriptPubkey_standard (p := .scriptHash (H.hash160 s)) (h20 s), (is_p2sh_iff _).mpr ⟨_, h20 s, rfl⟩,
    fromScript_pattern (p := .scriptHash (H.hash160 s)) (h20 s)⟩

/-- `Script::to_v0_p2wsh` is `new_v0_wsh(wscript_hash)`: version 0 with the 32-byte sha256 of the script,
    recognised by `is_v0_p2wsh` (and `is_witness_program`), with the v0 address of that program -/
theorem to_v0_p2wsh_is_v0_p2wsh (H : ScriptHashes) (h32 : ∀ x, (H.sha256 x).length = 32) (s : Bytes) :
    toV0P2wsh H s = newWitnessProgram 0 (H.sha256 s) ∧
      toV0P2wsh H s = some (witnessScript opPushbytes0 (H.sha256 s)) ∧
      isV0P2wsh (witnessScript opPushbytes0 (H.sha256 s)) = true ∧
      isWitnessProgram (witnessScript opPushbytes0 (H.sha256 s)) = true ∧
      fromScript (witnessScript opPushbytes0 (H.sha256 s)) = some (.witnessProgram 0 (H.sha256 s)) := by
  have hs : (Payload.witnessProgram 0 (H.sha256 s)).standard := Or.inl ⟨rfl, Or.inr (h32 s)⟩
  have e : toV0P2wsh H s = scriptPubkey (.witnessProgram 0 (H.sha256 s)) := rfl
  have hw : isV0P2wsh (witnessScript opPushbytes0 (H.sha256 s)) = true := (is_v0_p2wsh_iff _).mpr ⟨_, h32 s, rfl⟩
  exact ⟨e.trans (newWitnessProgram_eq 0 _ (by omega)).symm, e.trans (scriptPubkey_standard hs), hw,
    special_cases_are_witness_programs _ (Or.inr (Or.inl hw)),
    fromScript_pattern (p := .witnessProgram 0 (H.sha256 s)) hs⟩

/-- the hypotheses are satisfiable -/
example : ∃ H : ScriptHashes, (∀ x, (H.hash160 x).length = 20) ∧ (∀ x, (H.sha256 x).length = 32) :=
  ⟨⟨fun _ => List.replicate 20 0, fun _ => List.replicate 32 0⟩, fun _ => by simp, fun _ => by simp⟩
example : newOpReturn [1, 2, 3] = some [0x6a, 0x03, 1, 2, 3] := by decide

end constructors

end EV.Props.C16
