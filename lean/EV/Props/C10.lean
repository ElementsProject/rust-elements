/-
  C10 — fallible public APIs are total: errors, never panics or unbounded allocation.

  A modelled API returns `Res α = ok | err | panic site`; every Rust operation that can panic
  (index, slice, `unwrap`/`expect`, `debug_assert!`, checked arithmetic) is an explicit `panic`
  branch of the model, so `… ≠ .panic s` for all inputs says that none of them can fire.

  In this file: the accessors modelled in EV.Model.Accessors, the allocation guard of the consensus vector
  decoders, and by reference the totality facts proved for the other properties; C16, C04 and the
  legacy/segwit sighash of C03 state errors or documented panics instead, and the note that closes the
  integration block lists them.  The inventory of panic sites is hand-made; it is tied to the Rust source by
  the correspondence ops `acc.*` and by the direct search of harness/src/props/c10.rs, which also *measures*
  heap usage and panics inside dependencies on the implementation.
-/
import EV.Model.Accessors
import EV.Model.Secp
import EV.Proofs.Accessors
import EV.Proofs.TxAccessors
import EV.Proofs.CodecTx
import EV.Props.C01
import EV.Props.C12
import EV.Props.C18
import EV.Props.C19
import EV.Props.C03
import EV.Props.C05
import EV.Props.C06
import EV.Props.C07
import EV.Props.C08
import EV.Props.C09
import EV.Props.C11
import EV.Props.C14
import EV.Props.C15
import EV.Props.C17
namespace EV.Props.C10
open EV EV.Codec EV.Acc EV.Proofs.CodecPrim EV.Proofs.CodecTx EV.Proofs.Accessors EV.Proofs.TxAccessors

/-- `Script::instructions()` / `instructions_minimal()` iterated to the end never index out of the
    script, for every byte string -/
theorem no_panic_instructions (minimal : Bool) (script : Bytes) (s : String) :
    instructions minimal script ≠ .panic s :=
  ne_panic_of_ok ⟨_, instructions_eq minimal script⟩ s

/-- one call of `Instructions::next` never panics, and a yielded instruction consumes ≥ 1 byte
    (so the iterator terminates; "at most one error and then the iterator ends" is built in) -/
theorem no_panic_instructions_next (minimal : Bool) (data : Bytes) :
    (∀ s, step minimal data ≠ .panic s) ∧
    (∀ i rest, step minimal data = .item i rest → rest.length < data.length) := by
  rw [step_eq_next]
  cases hn : Script.next minimal data with
  | done => exact ⟨nofun, nofun⟩
  | fail e => exact ⟨nofun, nofun⟩
  | item j r =>
    refine ⟨nofun, fun i rest h => ?_⟩
    cases h
    exact next_shorter hn

/-- `TxOut::is_null_data` -/
theorem no_panic_is_null_data (script : Bytes) (s : String) : isNullData script ≠ .panic s :=
  ne_panic_of_ok (isNullData_total script) s

/-- `TxOut::pegout_data` / `TxOut::is_pegout`, for every output (any script, any value/asset) -/
theorem no_panic_pegout_data (o : TxOut) (s : String) : pegoutData o ≠ .panic s :=
  ne_panic_of_ok (pegoutData_total o) s

/-- a reported pegout really has the documented shape: explicit value, a 32-byte genesis hash,
    a non-empty destination script -/
theorem pegout_data_shape (o : TxOut) (d : PegoutData) (h : pegoutData o = .ok (some d)) :
    o.value = .explicit d.value ∧ d.asset = o.asset ∧ d.genesisHash.length = 32 ∧ d.scriptPubkey ≠ [] := by
  obtain ⟨hv, ha, hg, hs, _⟩ := (pegoutData_iff o d).mp h
  exact ⟨hv, ha, hg, hs⟩

/-- every byte string accepted by `RangeProof::from_slice` (libsecp `rangeproof_getheader`, as
    transcribed in EV.Model.Secp) has at least 65 bytes -/
theorem rangeproof_accepted_length (pr : Bytes) (h : Secp.rangeproof pr = true) : 65 ≤ pr.length := by
  -- no arm for `[]`: the empty proof is rejected by evaluation
  match pr, h with
  | b0 :: rest, h =>
    rw [Secp.rangeproof] at h
    by_cases hc : ((b0 :: rest).length < 65 || b0.toNat &&& 128 != 0) = true
    · rw [if_pos hc] at h
      cases h
    · rw [Bool.or_eq_true, decide_eq_true_eq] at hc
      omega

/-- `TxOut::minimum_value` never panics when the range proof (if present) has more than 10
    bytes: `prf[0]`, `&prf[2..10]`, `&prf[1..9]`, the `debug_assert!` and the `expect` are all
    inside that bound -/
theorem no_panic_minimum_value (o : TxOut)
    (h : ∀ prf, o.witness.rangeproof = some prf → 10 < prf.length) (s : String) :
    minimumValue o ≠ .panic s := by
  rcases minimumValue_cases o with ⟨v, hv, _⟩ | ⟨prf, _, hp, hl, _⟩
  · rw [hv]
    nofun
  · exact absurd (h prf hp) (Nat.not_lt.mpr hl)

/-- `TxOut::minimum_value` never panics on an output whose witness was accepted by the decoder (C01
    canonicity), given only that the range-proof parser rejects anything shorter than 65 bytes -/
theorem no_panic_minimum_value_decoded (P : Prims) (hP : ∀ b, P.rangeproof b = true → 65 ≤ b.length)
    (o : TxOut) (hw : o.witness.wf P) (s : String) : minimumValue o ≠ .panic s := by
  apply no_panic_minimum_value
  intro prf hprf
  have := hw.2
  rw [hprf] at this
  have := hP prf this.2.1
  omega

/-- `TxOut::minimum_value` never panics on an output whose witness the parser transcribed from libsecp
    accepts (`rangeproof_accepted_length`) -/
theorem no_panic_minimum_value_secp (a b c : Nat) (o : TxOut) (hw : o.witness.wf (Secp.prims a b c))
    (s : String) : minimumValue o ≠ .panic s :=
  no_panic_minimum_value_decoded (Secp.prims a b c) (fun b hb => rangeproof_accepted_length b hb) o hw s

/-- on every output of every transaction the consensus decoder accepts, `minimum_value` cannot panic -/
theorem no_panic_minimum_value_of_decoded_tx (P : Prims) (hs : SizesPos P)
    (hP : ∀ b, P.rangeproof b = true → 65 ≤ b.length)
    (bs : Bytes) (t : Tx) (rest : Bytes) (h : Tx.dec P bs = .ok (t, rest))
    (o : TxOut) (ho : o ∈ t.output) (s : String) : minimumValue o ≠ .panic s := by
  obtain ⟨_, _, _, _, _, hout⟩ := ((EV.Props.C01.tx_laws P hs).sound bs t rest h).2
  exact no_panic_minimum_value_decoded P hP o (hout o ho).2 s

/-- the result of `minimum_value` fits a `u64` whenever the explicit value does -/
theorem minimum_value_lt (o : TxOut) (v : Nat) (hv : ∀ n, o.value = .explicit n → n < 2^64)
    (h : minimumValue o = .ok v) : v < 2^64 := by
  rcases minimumValue_cases o with ⟨v', hv', hc⟩ | ⟨_, s, _, _, hp⟩
  · rw [hv'] at h
    cases h
    exact hc.elim (hv v) id
  · rw [hp] at h
    cases h

/-- `PeginData::from_pegin_witness`, for every witness stack and hash function -/
theorem no_panic_from_pegin_witness (H : Bytes → Bytes) (w : List Bytes) (txid : Bytes) (vout : Nat) (s : String) :
    fromPeginWitness H w txid vout ≠ .panic s :=
  fromPeginWitness_no_panic H w txid vout s

/-- `TxIn::pegin_data` -/
theorem no_panic_pegin_data (H : Bytes → Bytes) (i : TxIn) (s : String) : peginData H i ≠ .panic s :=
  ne_panic_of_ok (peginData_total H i) s

/-- accepted pegin witnesses have exactly the documented layout -/
theorem pegin_data_shape (H : Bytes → Bytes) (w : List Bytes) (txid : Bytes) (vout : Nat) (d : PeginData)
    (h : fromPeginWitness H w txid vout = .ok d) :
    w.length = 6 ∧ d.value < 2^64 ∧ d.asset.length = 32 ∧ d.genesisHash.length = 32 ∧
    80 ≤ d.merkleProof.length ∧ d.referencedBlock = H (d.merkleProof.take 80) ∧
    w = [leBytes 8 d.value, d.asset, d.genesisHash, d.claimScript, d.tx, d.merkleProof] := by
  obtain ⟨hw, hv, ha, hg, hm, hr⟩ := EV.Props.C12.pegin_witness_roundtrip_inv H w txid vout d h
  exact ⟨(congrArg List.length hw).symm, hv, ha, hg, hm, hr, hw.symm⟩

/-- `SchnorrSig::from_slice`, for every slice -/
theorem no_panic_schnorrsig_from_slice (sl : Bytes) (s : String) : schnorrSigFromSlice sl ≠ .panic s :=
  (schnorrSig_post sl).ne_panic s

/-- `SchnorrSig::from_slice` accepts exactly 64 bytes (default type) or 64 bytes followed by a listed
    sighash byte -/
theorem schnorrsig_from_slice_ok (sl sig : Bytes) (h : UInt8) (hr : schnorrSigFromSlice sl = .ok (sig, h)) :
    sig.length = 64 ∧ ((sl = sig ∧ h = 0) ∨ (sl = sig ++ [h] ∧ schnorrSighashOfU8 h = true)) :=
  (schnorrSig_post sl).of_ok hr

/-- `LeafVersion::from_u8` -/
theorem no_panic_leaf_version_from_u8 (v : UInt8) (s : String) : leafVersionFromU8 v ≠ .panic s :=
  ite_ne nofun nofun

/-- `TaprootMerkleBranch::from_slice`: the `expect("need array_chunks in stdlib")` never fires -/
theorem no_panic_merkle_branch_from_slice (sl : Bytes) (s : String) : merkleBranchFromSlice sl ≠ .panic s :=
  (merkleBranch_post sl).ne_panic s

/-- an accepted branch has at most 128 nodes of 32 bytes -/
theorem merkle_branch_bound (sl : Bytes) (l : List Bytes) (h : merkleBranchFromSlice sl = .ok l) :
    l.length ≤ 128 ∧ ∀ c ∈ l, c.length = 32 :=
  (merkleBranch_post sl).of_ok h

/-- `ControlBlock::from_slice`, for every slice and every x-only-key acceptance predicate -/
theorem no_panic_control_block_from_slice (xonly : Bytes → Bool) (sl : Bytes) (s : String) :
    controlBlockFromSlice xonly sl ≠ .panic s := by
  unfold controlBlockFromSlice
  have hbase : EV.Gen.c10TaprootControlBaseSize = 33 := rfl
  simp only [hbase]
  by_cases hl : sl.length < 33 ∨ (sl.length - 33) % EV.Gen.c10TaprootControlNodeSize ≠ 0
  · rw [if_pos hl]
    nofun
  have hl33 : 33 ≤ sl.length := Nat.le_of_not_lt fun h => hl (.inl h)
  -- in the context so that the bound of the `sl[0]` written below is found by assumption
  have h0 : 0 < sl.length := Nat.lt_of_lt_of_le (by decide) hl33
  have hpar (b : UInt8) : ¬ b.toNat &&& 1 > 1 := Nat.not_lt.mpr Nat.and_le_right
  simp only [if_neg hl, idx_ok sl 0 _ h0, if_neg (hpar _),
    slice_ok sl 1 33 _ ⟨by decide, hl33⟩, sliceFrom_ok sl 33 _ hl33]
  cases hv : leafVersionFromU8 (UInt8.ofNat (sl[0].toNat &&& EV.Gen.c10TaprootLeafMask)) with
  | panic s' => exact absurd hv (no_panic_leaf_version_from_u8 _ s')
  | err e => nofun
  | ok lv =>
    refine ite_ne nofun ?_
    cases hb : merkleBranchFromSlice (sl.drop 33) with
    | panic s' => exact absurd hb ((merkleBranch_post _).ne_panic s')
    | err e => nofun
    | ok mb => nofun

/-! ### allocation guard of the consensus vector decoders (`MAX_VEC_SIZE`) -/

/-- `Vec<T>`: when the claimed count times `size_of::<T>()` exceeds `MAX_VEC_SIZE` the decoder
    returns an error whatever the item decoder `d` is — even one that panics or never returns an
    item — i.e. before `Vec::with_capacity` and without decoding anything -/
theorem alloc_bound {α} (m : Nat) (d : Dec α) (bs : Bytes) (n : Nat) (rest : Bytes)
    (hv : varint bs = .ok (n, rest)) (hbig : n * m > maxVecSize) : ∃ e, vecOf m d bs = .err e := by
  rw [vecOf_eq, Dec.bind_of_ok hv]
  by_cases h64 : n * m ≥ 2^64
  · exact ⟨_, if_pos h64⟩
  · rw [if_neg h64]
    exact ⟨_, if_pos hbig⟩

/-- `Vec<T>` on the wire: any input that starts with the (minimal) varint of an oversized count is an error -/
theorem alloc_bound_wire {α} (m : Nat) (d : Dec α) (n : Nat) (rest : Bytes)
    (hn : n < 2^64) (hbig : n * m > maxVecSize) : ∃ e, vecOf m d (encVarint n ++ rest) = .err e :=
  alloc_bound m d _ n rest (varint_lawful.complete n rest hn) hbig

/-- `Vec<u8>` (scripts, proofs, witness elements): `vec![0; s]` is not reached for `s > MAX_VEC_SIZE` -/
theorem alloc_bound_bytes (n : Nat) (rest : Bytes) (hn : n < 2^64) (hbig : n > maxVecSize) :
    ∃ e, bytesVec (encVarint n ++ rest) = .err e := by
  rw [bytesVec_eq, varint_lawful.bind_enc hn]
  exact ⟨_, if_pos hbig⟩

/-- the single up-front allocation request of either decoder is at most `MAX_VEC_SIZE` bytes -/
theorem alloc_request_le (m : Nat) (bs : Bytes) :
    (∀ a, allocVecOf m bs = some a → a ≤ maxVecSize) ∧ (∀ a, allocBytesVec bs = some a → a ≤ maxVecSize) := by
  unfold allocVecOf allocBytesVec
  cases varint bs with
  | ok p =>
    simp only [Option.ite_none_left_eq_some, Option.some.injEq]
    exact ⟨fun a h => by omega, fun a h => by omega⟩
  | err e => exact ⟨nofun, nofun⟩
  | panic s => exact ⟨nofun, nofun⟩

/-- on success the up-front request of the `Vec<T>` decoder is exactly the memory of the decoded vector -/
theorem alloc_request_exact {α} (m : Nat) (d : Dec α) (bs : Bytes) (l : List α) (rest : Bytes)
    (h : vecOf m d bs = .ok (l, rest)) : allocVecOf m bs = some (l.length * m) := by
  rw [vecOf_eq] at h
  obtain ⟨n, r, hv, h⟩ := Dec.bind_ok_iff.mp h
  obtain ⟨h1, h⟩ := EV.Res.guard_eq_ok.mp h
  obtain ⟨h2, h⟩ := EV.Res.guard_eq_ok.mp h
  rw [allocVecOf, hv, repeatN_length h]
  exact (if_neg h1).trans (if_neg h2)

/-- the nesting of vectors in a transaction is fixed by the types (Transaction → inputs / outputs →
    script; witnesses → stack → element): a decoded transaction holds at most `MAX_VEC_SIZE` bytes
    of `TxIn`/`TxOut` structs, and every byte vector inside it is at most `MAX_VEC_SIZE` long -/
theorem decoded_tx_vectors_bounded (P : Prims) (hs : SizesPos P) (bs : Bytes) (t : Tx) (rest : Bytes)
    (h : Tx.dec P bs = .ok (t, rest)) :
    t.input.length * P.sizeTxIn ≤ maxVecSize ∧ t.output.length * P.sizeTxOut ≤ maxVecSize ∧
    (∀ i ∈ t.input, i.scriptSig.length ≤ maxVecSize ∧
      i.witness.scriptWitness.length * 24 ≤ maxVecSize ∧ i.witness.peginWitness.length * 24 ≤ maxVecSize) ∧
    (∀ o ∈ t.output, o.scriptPubkey.length ≤ maxVecSize) := by
  obtain ⟨_, _, hi, ho, hin, hout⟩ := ((EV.Props.C01.tx_laws P hs).sound bs t rest h).2
  refine ⟨hi, ho, ?_, ?_⟩
  · intro i hi'
    have := hin i hi'
    exact ⟨this.1.2.2.1, this.2.2.2.1.1, this.2.2.2.2.1⟩
  · intro o ho'
    exact (hout o ho').1.2.2.2

/-! ### re-exports: decoders of every consensus type are total (C01) -/

/-- no byte string makes any consensus decoder panic (`deserialize_partial::<T>` for the 16 modelled types of
    C01's laws, and the vector of byte vectors of the witness stacks).  `script_laws` is the law of every byte
    vector and `locktime_laws` of every 4-byte little-endian field; `Tx.dec` is total without `SizesPos`
    (`tx_total`), which only the `Block.dec` conjunct needs -/
theorem decoders_total (P : Prims) (hs : SizesPos P) (bs : Bytes) (s : String) :
    varint bs ≠ .panic s ∧ bytesVec bs ≠ .panic s ∧ bytesVecVec bs ≠ .panic s ∧ le 4 bs ≠ .panic s ∧
    Value.dec P bs ≠ .panic s ∧ Asset.dec P bs ≠ .panic s ∧ Nonce.dec P bs ≠ .panic s ∧
    AssetIssuance.dec P bs ≠ .panic s ∧ OutPoint.dec bs ≠ .panic s ∧
    TxInWitness.dec P bs ≠ .panic s ∧ TxOutWitness.dec P bs ≠ .panic s ∧
    TxIn.dec P bs ≠ .panic s ∧ TxOut.dec P bs ≠ .panic s ∧ Tx.dec P bs ≠ .panic s ∧
    Params.dec bs ≠ .panic s ∧ BlockHeader.dec bs ≠ .panic s ∧ Block.dec P bs ≠ .panic s :=
  ⟨EV.Props.C01.varint_laws.total bs s, EV.Props.C01.script_laws.total bs s, bytesVecVec_lawful.total bs s,
   EV.Props.C01.locktime_laws.total bs s,
   (EV.Props.C01.value_laws P).total bs s, (EV.Props.C01.asset_laws P).total bs s,
   (EV.Props.C01.nonce_laws P).total bs s, (EV.Props.C01.issuance_laws P).total bs s,
   EV.Props.C01.outpoint_laws.total bs s,
   (EV.Props.C01.txInWitness_laws P).total bs s, (EV.Props.C01.txOutWitness_laws P).total bs s,
   (EV.Props.C01.txIn_laws P).total bs s, (EV.Props.C01.txOut_laws P).total bs s,
   EV.Proofs.CodecTx.tx_total P bs s,
   EV.Props.C01.params_laws.total bs s, EV.Props.C01.header_laws.total bs s,
   (EV.Props.C01.block_laws P hs).total bs s⟩

/-- `deserialize::<Transaction>` (the whole-slice wrapper) is total as well -/
theorem deserialize_total (P : Prims) (bs : Bytes) (s : String) : Tx.deserialize P bs ≠ .panic s := by
  unfold Tx.deserialize
  split
  · intro h
    cases h
  · intro h
    cases h
  · intro h
    cases h
  · rename_i s' h
    exact absurd h (EV.Proofs.CodecTx.tx_total P bs s')

/-! ### re-exports: accessors on decoded values (C12, C18, C19) -/

/-- `discount_weight` / `discount_vsize`: the `usize` subtractions never underflow on a decoded
    transaction (C12) -/
theorem no_panic_discount_weight (P : Prims) (t : Tx) (h : t.wf P) :
    t.discountWeight ≠ none ∧ t.discountVsize ≠ none := by
  have h1 := (EV.Props.C12.discount_weight_eq P t h).2
  have h2 := EV.Props.C12.discount_vsize_eq P t h
  rw [h1, h2]
  simp

/-- `fast_merkle_root` (ids, dynafed roots) never panics below 2^31 leaves (C18) -/
theorem no_panic_fast_merkle_root {α} (comb : α → α → α) (zero : α) (leaves : List α)
    (h : leaves.length ≤ 2^31) : EV.FastMerkle.fast comb zero leaves ≠ none :=
  EV.Props.C18.fast_no_panic comb zero leaves h

/-- `Params::calculate_root`, `BlockHeader::calculate_dynafed_params_root` (C19) -/
theorem no_panic_dynafed_roots (H : Hashes) (p : Params) (h : BlockHeader) :
    p.calculateRoot H ≠ none ∧ h.dynafedParamsRoot H ≠ none :=
  ⟨EV.Props.C19.root_no_panic H p, EV.Props.C19.header_root_no_panic H h⟩

/-! ### fallible APIs owned by other properties: totality lemmas proved there (integration) -/

/-- taproot signature hash (`SighashCache::taproot_*`): for every index (also ≥ #inputs / #outputs), every
    `SchnorrSighashType`, `Prevouts::All` of any length and `Prevouts::One` with any index the result is a
    message or one of the five named errors — never a panic (C03) -/
theorem no_panic_taproot_sighash : type_of% @EV.Props.C03.taproot_never_panics := @EV.Props.C03.taproot_never_panics

/-- `Address::from_str` / `parse_with_params` (C06) -/
theorem no_panic_address_parse : type_of% @EV.Props.C06.parse_total := @EV.Props.C06.parse_total

/-- the blech32 / bech32 segwit decoders incl. `new_bech32` (C17) -/
theorem no_panic_segwit_hrpstring : type_of% @EV.Props.C17.segwitNew_total := @EV.Props.C17.segwitNew_total

/-- the PSET decoder on any byte string (C07) -/
theorem no_panic_pset_deserialize : type_of% @EV.Props.C07.dec_total := @EV.Props.C07.dec_total

/-- `Pset::extract_tx` (C08) -/
theorem no_panic_pset_extract_tx : type_of% @EV.Props.C08.extract_no_panic := @EV.Props.C08.extract_no_panic

/-- `Pset::unique_id` (C08) -/
theorem no_panic_pset_unique_id : type_of% @EV.Props.C08.unique_id_no_panic := @EV.Props.C08.unique_id_no_panic

/-- `Pset::locktime` (C08): the two `unreachable!()` arms are unreachable -/
theorem no_panic_pset_locktime : type_of% @EV.Props.C08.locktime_no_panic := @EV.Props.C08.locktime_no_panic

/-- `Pset::merge` as a whole (C14) -/
theorem no_panic_pset_merge : type_of% @EV.Props.C14.merge_no_panic := @EV.Props.C14.merge_no_panic

/-- the global xpub key-source reconciliation inside `Pset::merge` (C14) -/
theorem no_panic_xpub_reconcile : type_of% @EV.Props.C14.xpub_reconcile_no_panic := @EV.Props.C14.xpub_reconcile_no_panic

/-- the loop of `Pset::merge` over whole xpub maps (C14) -/
theorem no_panic_xpub_merge : type_of% @EV.Props.C14.xpub_merge_no_panic := @EV.Props.C14.xpub_merge_no_panic

/-- `blind_non_last` / `blind_last` (C09) -/
theorem no_panic_pset_blinders : type_of% @EV.Props.C09.blinders_never_panic := @EV.Props.C09.blinders_never_panic

/-- whole multi-party flows of `blind_non_last` / `blind_last` steps (C09) -/
theorem no_panic_pset_blind_flow : type_of% @EV.Props.C09.flow_never_panics := @EV.Props.C09.flow_never_panics

/-- the output loop of `verify_tx_amt_proofs` (C05) -/
theorem no_panic_verify_outputs : type_of% @EV.Props.C05.outputs_no_panic := @EV.Props.C05.outputs_no_panic

/-- `TaprootBuilder` with arbitrary depths (C15) -/
theorem no_panic_taproot_builder : type_of% @EV.Props.C15.builder_no_panic := @EV.Props.C15.builder_no_panic

/-- `ControlBlock::from_slice` on the taproot model of C15 -/
theorem no_panic_control_block_decode : type_of% @EV.Props.C15.cb_decode_no_panic := @EV.Props.C15.cb_decode_no_panic

/-- Huffman construction (`TaprootBuilder::with_huffman_tree`, C15): a node or the depth error -/
theorem no_panic_huffman : type_of% @EV.Props.C15.huffman_total := @EV.Props.C15.huffman_total

/-- issuance id derivation on any input (C11) -/
theorem no_panic_issuance_ids : type_of% @EV.Props.C11.ids_no_panic := @EV.Props.C11.ids_no_panic

-- Not referenced here because their statements are not of the form "never panics":
--   `Transaction::blind` (C04 `blind_none_marked_err`, `blind_not_all_explicit_err`: errors, not panics),
--   documented panics of legacy/segwit sighash (C03 `legacy_out_of_range_panics`, `segwit_out_of_range_panics`:
--   panic exactly when index ≥ #inputs), `Builder::push_scriptint(i64::MIN)` (C16 `push_i64_min_panics`).

/-! ### non-vacuity -/
section Examples

/-- OP_RETURN <32-byte genesis> <1-byte script> <1 extra push>: a pegout -/
def exPegoutScript : Bytes := [0x6a, 32] ++ List.replicate 32 7 ++ [1, 0x51] ++ [2, 0xaa, 0xbb]

example : pegoutData ⟨.explicit (List.replicate 32 1), .explicit 5000, .null, exPegoutScript, TxOutWitness.empty⟩ =
    .ok (some ⟨5000, .explicit (List.replicate 32 1), List.replicate 32 7, [0x51], [[0xaa, 0xbb]]⟩) := by decide +kernel

/-- a push running past the end is an error item, not a panic, and the output is not null data -/
example : instructions false [0x6a, 0x4c, 5, 1, 2] = .ok ([.op 0x6a], some "EarlyEndOfScript") := by decide +kernel
example : isNullData [0x6a, 0x4c, 5, 1, 2] = .ok false := by decide +kernel
/-- `instructions_minimal` rejects a one-byte push of a small number -/
example : instructions true [1, 5] = .ok ([], some "NonMinimalPush") := by decide +kernel
example : instructions false [1, 5] = .ok ([.push [5]], none) := by decide +kernel

/-- range proof header with `has_min` and a non-zero range: min value is bytes 2..10, big endian -/
example : minimumValue ⟨.null, .conf (List.replicate 33 8), .null, [0x51],
    ⟨none, some ([0x60, 0, 0, 0, 0, 0, 0, 0, 1, 2] ++ List.replicate 60 0)⟩⟩ = .ok 258 := by decide +kernel

/-- an (impossible, because the parser wants ≥ 65 bytes) 5-byte proof would trip the `debug_assert!` -/
example : (minimumValue ⟨.null, .conf (List.replicate 33 8), .null, [], ⟨none, some [0x60, 0, 0, 0, 0]⟩⟩).isPanic = true := by decide +kernel

example : (fromPeginWitness (fun b => b.take 4) [leBytes 8 1000, List.replicate 32 1, List.replicate 32 2, [3], [4], List.replicate 80 5]
    (List.replicate 32 9) 1).isOk = true := by decide +kernel
example : fromPeginWitness (fun b => b) [[], [], [], [], [], []] [] 0 = .err "merkle proof too short" := by decide +kernel

example : schnorrSigFromSlice (List.replicate 64 1 ++ [0x83]) = .ok (List.replicate 64 1, 0x83) := by decide +kernel
example : schnorrSigFromSlice (List.replicate 64 1 ++ [0x04]) = .err "InvalidSighashType" := by decide +kernel
example : leafVersionFromU8 0xc4 = .ok 0xc4 := by decide +kernel
example : leafVersionFromU8 0x50 = .err "InvalidTaprootLeafVersion" := by decide +kernel
example : (merkleBranchFromSlice (List.replicate 64 0)).isOk = true := by decide +kernel

/-- a 5-byte input claiming 2^24 script-witness elements (402 MB of `Vec<u8>` headers) is rejected
    before any allocation -/
example : bytesVecVec [0xfe, 0, 0, 0, 1] = .err "oversized vector" := by decide +kernel
example : allocVecOf 24 [0xfe, 0, 0, 0, 1] = none := by decide +kernel
example : allocVecOf 24 [0xfd, 0x10, 0x27] = some 240000 := by decide +kernel

end Examples

end EV.Props.C10
