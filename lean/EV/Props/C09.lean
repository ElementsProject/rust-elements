/-
  C09 — multi-party PSET blinding balances for every split and order of blinders.

  Model: EV.Model.PsetBlind (`blind_checks`, `blind_non_last`, `blind_last`, the scalar list on the
  wire, `ValueBlindingFactor::{last,+=,neg}` as coded).  Scalars are an arbitrary commutative ring
  `R` here; the driver runs the same definitions with `R := Fin n` (n = secp256k1 group order), for
  which `Fin.instCommRing` supplies exactly the core instances it uses (`driver_scalars_*`).
  EC points do not occur: `commit` lives in an arbitrary `R`-module with abstract generators.

  Notation: `term s = s.value * s.abf + s.vbf`, `sumTerms l = Σ term`, `outTermSum st` = Σ term over
  the secrets inside the outputs' commitments (explicit outputs count 0).
-/
import EV.Proofs.PsetBlindFlow
import EV.Model.PsetBlindZn
import Mathlib.Data.ZMod.Defs
namespace EV.Props.C09
open EV EV.PsetBlind

section Generic
variable {R : Type} [CommRing R]

/-! ### the scalar layer -/

/-- Σ term does not depend on the order in which a `HashMap` iterates the supplied secrets -/
theorem sum_perm {l₁ l₂ : List (Secret R)} (h : l₁.Perm l₂) : sumTerms l₁ = sumTerms l₂ :=
  (h.map term).sum_eq

/-- `ValueBlindingFactor::last` (the libsecp loop as coded, with the placeholder trick of the Rust
    wrapper) is Σ_a term − Σ_b term − value·abf -/
theorem last_vbf_formula (value : Nat) (abf : R) (ins outs : List (Secret R)) :
    lastVbf value abf ins outs = sumTerms ins - sumTerms outs - (value : R) * abf :=
  lastVbf_eq value abf ins outs

/-- `ValueBlindingFactor::last` is invariant under reordering both sets -/
theorem last_vbf_perm (value : Nat) (abf : R) {ins ins' outs outs' : List (Secret R)}
    (hi : ins.Perm ins') (ho : outs.Perm outs') :
    lastVbf value abf ins outs = lastVbf value abf ins' outs' := by
  rw [lastVbf_eq, lastVbf_eq, sum_perm hi, sum_perm ho]

/-- with that blinding factor the last output carries exactly the imbalance: its term is Σ_a term − Σ_b term -/
theorem last_vbf_balances (asset value : Nat) (abf : R) (ins outs : List (Secret R)) :
    sumTerms ins = sumTerms (outs ++ [⟨asset, value, abf, lastVbf value abf ins outs⟩]) := by
  simp [lastVbf_eq, term]

variable [DecidableEq R]

/-- `impl AddAssign for ValueBlindingFactor` with its zero special cases is ring addition -/
theorem vbf_add_is_ring_add (a b : R) : vbfAdd a b = a + b := vbfAdd_eq a b

/-- `impl Neg for ValueBlindingFactor` is ring negation -/
theorem vbf_neg_is_ring_neg (a : R) : vbfNeg a = -a := vbfNeg_eq a

/-! ### `blind_checks` -/

/-- an input with an issuance whose `blinded_issuance` field is absent or 1 stops both blinders
    (`BlindingIssuanceUnsupported`) -/
theorem issuance_blocks (st : St R) (sup : Supplied R) (rand : Nat → R × R)
    (h : ∃ i ∈ st.inputs, i.hasIssuance = true ∧ i.blindedIssuance.getD 1 = 1) :
    nonLast st sup rand = .err "Issuance" ∧ blindLast st sup rand = .err "Issuance" :=
  blinders_err_of_checks rand (blindChecks_err_iff.2 (.inl ⟨(issuanceBlocked_iff _).2 h, rfl⟩))

/-- `BlinderIndexOutOfBounds`: when no issuance stands in the way (`hiss`; that check comes first), an output with a
    blinding key and an index ≥ #inputs stops both blinders -/
theorem blinder_index_out_of_bounds (st : St R) (sup : Supplied R) (rand : Nat → R × R)
    (hiss : issuanceBlocked st.inputs = false)
    (h : ∃ o ∈ st.outputs, o.hasKey = true ∧ ∃ b, o.blinderIndex = some b ∧ st.inputs.length ≤ b) :
    nonLast st sup rand = .err "Index" ∧ blindLast st sup rand = .err "Index" := by
  rcases selectOuts_ok_or_index st.inputs.length sup 0 st.outputs with hok | he
  · obtain ⟨o, ho, hk, b, hb, hge⟩ := h
    exact absurd ((selectOuts_ok_iff _ sup 0 _).1 hok o ho hk b hb) (Nat.not_lt.2 hge)
  · exact blinders_err_of_checks rand (blindChecks_err_iff.2 (.inr ⟨hiss, he⟩))

/-- which outputs a party blinds: exactly those with a blinding key whose blinder index it owns,
    in ascending order -/
theorem selection_rule {st : St R} {sup : Supplied R} {sel : List Nat}
    (h : selectOuts st.inputs.length sup 0 st.outputs = .ok sel) :
    (∀ i, i ∈ sel ↔ ∃ o, st.outputs[i]? = some o ∧ Selected sup o) ∧ sel.Pairwise (· < ·) :=
  ⟨fun _ => mem_sel_iff h, sel_pairwise h⟩

/-- non-last blinder with nothing to blind: `Ok(empty)`, PSET untouched, no scalar published -/
theorem nonlast_nothing_to_blind (st : St R) (sup : Supplied R) (rand : Nat → R × R)
    (hiss : issuanceBlocked st.inputs = false)
    (h : selectOuts st.inputs.length sup 0 st.outputs = .ok []) :
    nonLast st sup rand = .ok (st, []) :=
  nonLast_of ⟨_, [], blindChecks_ok_iff.2 ⟨hiss, h, rfl⟩, .inl ⟨rfl, rfl, rfl⟩⟩

/-- last blinder with nothing to blind: `AtleastOneOutputBlind` -/
theorem last_needs_an_output (st : St R) (sup : Supplied R) (rand : Nat → R × R)
    (hiss : issuanceBlocked st.inputs = false)
    (h : selectOuts st.inputs.length sup 0 st.outputs = .ok []) :
    blindLast st sup rand = .err "NoOutput" := by
  simp only [blindLast, blindChecks_ok_iff.2 ⟨hiss, h, rfl⟩, List.getLast?_nil]

/-! ### one non-last step -/

/-- for ANY random choices, a successful non-last step, `sel` being the outputs the party selects: it returns the
    random factors it used for them, fills all seven blinding fields of the selected outputs and touches no other
    output; if `sel = []` the PSET is unchanged, if `sel ≠ []` the step appends exactly one scalar,
    Σ_{supplied inputs} term − Σ_{outputs blinded now} term.  (`hinv` is not used.) -/
theorem nonlast_scalar {st st' : St R} {sup : Supplied R} {rand : Nat → R × R} {ret : List (Nat × R × R)}
    (h : nonLast st sup rand = .ok (st', ret)) (hinv : Inv st.outputs) :
    ∃ sel, selectOuts st.inputs.length sup 0 st.outputs = .ok sel ∧
      ret = sel.map (fun i => (i, (rand i).1, (rand i).2)) ∧
      (sel = [] → st' = st) ∧
      (sel ≠ [] → st'.scalars = st.scalars ++
          [sumTerms (inpSecrets sup) - sumTerms (sel.map (secretAt st.outputs rand))]) ∧
      (∀ j ∈ sel, ∃ o' : Out R, st'.outputs[j]? = some o' ∧ o'.Full) ∧
      (∀ j, j ∉ sel → st'.outputs[j]? = st.outputs[j]?) := by
  obtain ⟨sel, hs⟩ := nonLast_spec h
  refine ⟨sel, hs.sel_eq, hs.ret_eq, hs.idle, hs.scalar, fun j hj => ?_, hs.untouched⟩
  obtain ⟨o, _, _, ho'⟩ := hs.blinded j hj
  exact ⟨_, ho', o.full_blindWith _ _⟩

/-! ### any sequence of non-last blinders, with hops -/

/-- after any sequence of non-last blinders and serialize/deserialize hops in
    which every blinder has at least one output to blind,
      Σ scalars' = Σ scalars + Σ_P Σ_{I_P} term − (terms newly put into outputs).
    No disjointness hypothesis is needed: the code refuses to blind an output twice
    (`ExpectedExplicitValue`), so a successful run never double counts. -/
theorem scalar_invariant {steps : List (Step R)} {st st' : St R}
    (hpre : ∀ s ∈ steps, s.isPre) (h : runFlow st steps = .ok st') (hinv : Inv st.outputs)
    (hact : ∀ sup rand, Step.nonLast sup rand ∈ steps →
      ∃ (j : Nat) (o : Out R), st.outputs[j]? = some o ∧ Selected sup o) :
    st'.scalars.sum =
      st.scalars.sum + (steps.map Step.terms).sum - (outTermSum st' - outTermSum st) := by
  linear_combination ((pre_spec hpre h).sums hinv).2 hact

/-- the carried quantity Σ scalars + Σ blinded-output terms does not
    depend on the order of the non-last blinders -/
theorem scalar_invariant_perm {steps₁ steps₂ : List (Step R)} {st st₁ st₂ : St R}
    (hperm : steps₁.Perm steps₂)
    (hpre : ∀ s ∈ steps₁, s.isPre) (hinv : Inv st.outputs)
    (hact : ∀ sup rand, Step.nonLast sup rand ∈ steps₁ →
      ∃ (j : Nat) (o : Out R), st.outputs[j]? = some o ∧ Selected sup o)
    (h₁ : runFlow st steps₁ = .ok st₁) (h₂ : runFlow st steps₂ = .ok st₂) :
    st₁.scalars.sum + outTermSum st₁ = st₂.scalars.sum + outTermSum st₂ := by
  rw [((pre_spec hpre h₁).sums hinv).2 hact,
    ((pre_spec (fun s hs => hpre s (hperm.mem_iff.2 hs)) h₂).sums hinv).2
      fun sup rand hm => hact sup rand (hperm.mem_iff.2 hm),
    (hperm.map Step.terms).sum_eq]

/-! ### the whole flow -/

/-- any sequence of non-last blinders and hops, then the last blinder (one or several outputs —
    both code paths).  If every non-last party has an output to blind and the outputs of the last
    party are not claimed by another party and not blinded yet, then after a successful run the
    scalar list is empty and the terms inside the outputs equal what was there before, plus the
    scalars the PSET carried before, plus the terms of all supplied input secrets. -/
theorem last_balances {pre : List (Step R)} {st0 st' : St R} {supL : Supplied R} {randL : Nat → R × R}
    (hpre : ∀ s ∈ pre, s.isPre) (hinv : Inv st0.outputs)
    (hact : ∀ sup rand, Step.nonLast sup rand ∈ pre →
      ∃ (j : Nat) (o : Out R), st0.outputs[j]? = some o ∧ Selected sup o)
    (hdisj : ∀ sup rand, Step.nonLast sup rand ∈ pre → ∀ o ∈ st0.outputs, Selected supL o → ¬ Selected sup o)
    (hfresh : ∀ o ∈ st0.outputs, Selected supL o → o.secrets = none)
    (h : runFlow st0 (pre ++ [Step.last supL randL]) = .ok st') :
    st'.scalars = [] ∧
    outTermSum st' =
      outTermSum st0 + st0.scalars.sum + (pre.map Step.terms).sum + sumTerms (inpSecrets supL) :=
  let ⟨a, _, _, b⟩ := flow_spec hpre h
  ⟨a, b hinv hact hdisj hfresh⟩

def Step.supplied : Step R → List (Secret R)
  | .nonLast sup _ => inpSecrets sup
  | .last sup _ => inpSecrets sup
  | .hop => []

theorem terms_eq_supplied (l : List (Step R)) :
    (l.map Step.terms).sum = sumTerms (l.flatMap Step.supplied) := by
  induction l with
  | nil => simp
  | cons s rest ih =>
    cases s <;> simp [Step.terms, Step.supplied, ih]

/-- `last_balances` on an unblinded PSET, against ALL inputs of the transaction: if the parties'
    supplied secrets together with inputs of zero term (explicit ones nobody needs to supply) are
    the inputs, Σ_in term = Σ_out term. -/
theorem last_balances_all_inputs {pre : List (Step R)} {st0 st' : St R} {supL : Supplied R}
    {randL : Nat → R × R} (allIns zeros : List (Secret R))
    (hpre : ∀ s ∈ pre, s.isPre)
    (hnew : ∀ o ∈ st0.outputs, o.secrets = none) (hsc : st0.scalars = [])
    (hact : ∀ sup rand, Step.nonLast sup rand ∈ pre →
      ∃ (j : Nat) (o : Out R), st0.outputs[j]? = some o ∧ Selected sup o)
    (hdisj : ∀ sup rand, Step.nonLast sup rand ∈ pre → ∀ o ∈ st0.outputs, Selected supL o → ¬ Selected sup o)
    (hall : allIns.Perm (pre.flatMap Step.supplied ++ inpSecrets supL ++ zeros))
    (hz : ∀ z ∈ zeros, term z = 0)
    (h : runFlow st0 (pre ++ [Step.last supL randL]) = .ok st') :
    st'.scalars = [] ∧ sumTerms allIns = outTermSum st' := by
  have hinv : Inv st0.outputs := fun o ho _ => hnew o ho
  obtain ⟨a, b⟩ := last_balances hpre hinv hact hdisj (fun o ho _ => hnew o ho) h
  refine ⟨a, ?_⟩
  have h0 : outTermSum st0 = 0 := sumTerms_eq_zero fun s hs => by
    obtain ⟨o, ho, rfl⟩ := List.mem_map.1 hs
    exact term_outSecret_of_none (hnew o ho)
  rw [b, h0, hsc, sum_perm hall, sumTerms_append, sumTerms_append, sumTerms_eq_zero hz, terms_eq_supplied]
  simp

/-- after a successful flow (`hpre`, `h`) every output with a blinding key and a
    blinder index owned by one of the parties has all blinding fields set (amount commitment,
    asset commitment, ECDH key, range proof, surjection proof — `is_fully_blinded` — and the two
    explicit proofs); marks (key, index, explicit amount and asset) are unchanged.  (`hinv`, `hact`, `hdisj` and
    `hfresh` are not used.) -/
theorem all_marked_fully_blinded {pre : List (Step R)} {st0 st' : St R} {supL : Supplied R}
    {randL : Nat → R × R}
    (hpre : ∀ s ∈ pre, s.isPre) (hinv : Inv st0.outputs)
    (hact : ∀ sup rand, Step.nonLast sup rand ∈ pre →
      ∃ (j : Nat) (o : Out R), st0.outputs[j]? = some o ∧ Selected sup o)
    (hdisj : ∀ sup rand, Step.nonLast sup rand ∈ pre → ∀ o ∈ st0.outputs, Selected supL o → ¬ Selected sup o)
    (hfresh : ∀ o ∈ st0.outputs, Selected supL o → o.secrets = none)
    (h : runFlow st0 (pre ++ [Step.last supL randL]) = .ok st')
    (j : Nat) (o : Out R) (ho : st0.outputs[j]? = some o) (hk : o.hasKey = true)
    (b : Nat) (hb : o.blinderIndex = some b)
    (hown : owns supL b = true ∨ ∃ sup rand, Step.nonLast sup rand ∈ pre ∧ owns sup b = true) :
    ∃ o' : Out R, st'.outputs[j]? = some o' ∧ o'.isFullyBlinded = true ∧ o'.Full ∧
      o'.valueProof = true ∧ o'.assetProof = true ∧ o.SameMarks o' := by
  obtain ⟨_, hle, hfull, _⟩ := flow_spec hpre h
  have hsel : Selected supL o ∨ ∃ sup rand, Step.nonLast sup rand ∈ pre ∧ Selected sup o := by
    rcases hown with h | ⟨sup, rand, hm, h⟩
    · exact Or.inl ⟨hk, b, hb, h⟩
    · exact Or.inr ⟨sup, rand, hm, hk, b, hb, h⟩
  obtain ⟨o', ho', hf⟩ := hfull j o ho hsel
  have hmarks := (hle.le j o o' ho ho').marks
  exact ⟨o', ho', hf.isFullyBlinded (by rw [hmarks.1]; exact hk), hf, hf.2.2.2.2.2.1, hf.2.2.2.2.2.2, hmarks⟩

/-! ### every order succeeds, and the order does not matter -/

/-- on a well-formed PSET (`StaticOk`: no blinded issuance, all UTXOs present, blinder indices in
    range, explicit amounts on unmarked outputs) where every party's outputs pass the per-output
    checks (`PartyOk`: explicit non-zero amount and asset, no commitments yet, an address-like
    script, an asset of one of the party's inputs or an issued one), parties claim pairwise
    disjoint outputs and the last party has at least one, the flow runs to completion in EVERY
    order of the non-last blinders and wherever the hops are — the only other outcome is a hop
    meeting two equal scalars (`DuplicateKey`).  (Creation of the zero-knowledge proofs is assumed
    to succeed.  `hinv` is not used.) -/
theorem flow_succeeds {pre : List (Step R)} {st0 : St R} {supL : Supplied R} (randL : Nat → R × R)
    (hpre : ∀ s ∈ pre, s.isPre) (hs : StaticOk st0) (hinv : Inv st0.outputs)
    (hok : ∀ sup rand, Step.nonLast sup rand ∈ pre → PartyOk st0.inputs st0.outputs sup)
    (hokL : PartyOk st0.inputs st0.outputs supL)
    (hdis : StepsDisjoint st0.outputs pre)
    (hdisL : ∀ sup rand, Step.nonLast sup rand ∈ pre → DisjointSel st0.outputs sup supL)
    (hex : ∃ o ∈ st0.outputs, Selected supL o) :
    (∃ st', runFlow st0 (pre ++ [Step.last supL randL]) = .ok st') ∨
    runFlow st0 (pre ++ [Step.last supL randL]) = .err "DuplicateKey" := by
  rcases pre_flow_total hpre hs hok hdis with ⟨st1, h1⟩ | herr
  · obtain ⟨hs1, hokL1⟩ := pre_keeps_party hpre h1 hs hokL hdisL
    obtain ⟨o, ho, hso⟩ := hex
    obtain ⟨j, hj⟩ := List.getElem?_of_mem ho
    obtain ⟨st', ret, hbl⟩ := blindLast_ok randL hs1 hokL1 ⟨j, o, pre_untouched hpre h1 hdisL hj hso, hso⟩
    exact .inl ⟨st', runFlow_pre_last.2 ⟨st1, ret, h1, hbl⟩⟩
  · exact .inr (by rw [runFlow_append, herr]; rfl)

/-- two successful runs of the same non-last blinders (each with its
    own random choices) in different orders end with the same inputs and outputs and the same
    scalars up to their order in the list (`hinv` and `hdis` are not used) -/
theorem nonlast_order_independent {steps₁ steps₂ : List (Step R)} {st st₁ st₂ : St R}
    (hperm : steps₁.Perm steps₂) (hpre : ∀ s ∈ steps₁, s.isPre) (hinv : Inv st.outputs)
    (hdis : StepsDisjoint st.outputs steps₁)
    (h₁ : runFlow st steps₁ = .ok st₁) (h₂ : runFlow st steps₂ = .ok st₂) :
    st₁.inputs = st₂.inputs ∧ st₁.outputs = st₂.outputs ∧ st₁.scalars.Perm st₂.scalars := by
  have c := pre_spec hpre h₁
  have d := pre_spec (fun s hs => hpre s (hperm.mem_iff.2 hs)) h₂
  refine ⟨c.inputs.trans d.inputs.symm, ?_, ?_⟩
  · apply List.ext_getElem?
    intro j
    by_cases hex : ∃ sup rand o, Step.nonLast sup rand ∈ steps₁ ∧ st.outputs[j]? = some o ∧ Selected sup o
    · obtain ⟨sup, rand, o, hm, ho, hso⟩ := hex
      rw [c.blinded sup rand hm j o ho hso, d.blinded sup rand (hperm.mem_iff.1 hm) j o ho hso]
    · have hun : ∀ sup rand, Step.nonLast sup rand ∈ steps₁ → ∀ o : Out R, st.outputs[j]? = some o →
          ¬ Selected sup o := fun sup rand hm o ho hso => hex ⟨sup, rand, o, hm, ho, hso⟩
      rw [c.untouched j hun, d.untouched j (fun sup rand hm => hun sup rand (hperm.mem_iff.2 hm))]
  · rw [c.scalars, d.scalars]
    exact (hperm.flatMap_right _).append_left _

/-- the finished PSET does not depend on the order in which the non-last
    blinders ran (nor on where the hops were): two successful complete flows with the same
    parties and the same random choices end in the SAME state — same commitments' secrets in every
    output, in particular the same balancing vbf of the last blinder (`hinv` and `hdis` are not used) -/
theorem flow_order_independent {pre₁ pre₂ : List (Step R)} {st0 st₁ st₂ : St R} {supL : Supplied R}
    {randL : Nat → R × R}
    (hperm : pre₁.Perm pre₂) (hpre : ∀ s ∈ pre₁, s.isPre) (hinv : Inv st0.outputs)
    (hdis : StepsDisjoint st0.outputs pre₁)
    (h₁ : runFlow st0 (pre₁ ++ [Step.last supL randL]) = .ok st₁)
    (h₂ : runFlow st0 (pre₂ ++ [Step.last supL randL]) = .ok st₂) :
    st₁ = st₂ := by
  obtain ⟨⟨ia, oa, sa⟩, ret₁, ha, hbl₁⟩ := runFlow_pre_last.1 h₁
  obtain ⟨⟨ib, ob, sb⟩, ret₂, hb, hbl₂⟩ := runFlow_pre_last.1 h₂
  obtain ⟨rfl, rfl, e3⟩ := nonlast_order_independent hperm hpre hinv hdis ha hb
  -- the last blinder only adds the scalars up
  cases hbl₂.symm.trans (blindLast_scalars sb e3.symm.sum_eq hbl₁)
  rfl

/-! ### no panic -/

/-- the blinders never panic: the index and `unwrap` sites of `blind_non_last` / `blind_last`
    (`outputs[i]`, `out_secrets.pop().unwrap()`, `outputs[last_out_index]`) are unreachable -/
theorem blinders_never_panic (st : St R) (sup : Supplied R) (rand : Nat → R × R) (p : String) :
    nonLast st sup rand ≠ .panic p ∧ blindLast st sup rand ≠ .panic p :=
  ⟨nonLast_post.ne_panic p, blindLast_post.ne_panic p⟩

/-- no flow panics: a step is one of the two blinders or a hop -/
theorem flow_never_panics (steps : List (Step R)) (st : St R) (p : String) :
    runFlow st steps ≠ .panic p := by
  induction steps generalizing st p with
  | nil => exact fun h => by cases h
  | cons s rest ih =>
    rw [runFlow_cons]
    exact Res.bind_ne_panic (runStep_ne_panic st s) ih p

/-! ### the scalar list on the wire -/

/-- serialize → deserialize keeps the scalar list (and everything else) when the
    scalars are pairwise distinct -/
theorem hop_preserves (st : St R) (h : st.scalars.Nodup) : hop st = .ok st := by
  rw [hop_eq, if_pos h]

/-- serialize → deserialize fails with `DuplicateKey` when two scalars are equal: two parties
    publishing the same scalar cannot be represented (each scalar is a map KEY) -/
theorem hop_duplicate_rejected (st : St R) (h : ¬ st.scalars.Nodup) : hop st = .err "DuplicateKey" := by
  rw [hop_eq, if_neg h]

/-- a hop that succeeds changes nothing -/
theorem hop_ok_identity {st st' : St R} (h : hop st = .ok st') : st' = st := (hop_post st).of_ok h

/-! ### from scalars to commitments -/

variable {M : Type} [AddCommGroup M] [Module R M]

/-- Pedersen commitment `v·(H_asset + abf·G) + vbf·G` with abstract generators -/
def commit (G : M) (H : Nat → M) (s : Secret R) : M :=
  (s.value : R) • (H s.asset + s.abf • G) + s.vbf • G

omit [DecidableEq R] in
theorem commit_eq (G : M) (H : Nat → M) (s : Secret R) :
    commit G H s = (s.value : R) • H s.asset + term s • G := by
  simp only [commit, term, smul_add, add_smul, mul_smul, add_assoc]

omit [DecidableEq R] in
theorem sum_commit (G : M) (H : Nat → M) (l : List (Secret R)) :
    (l.map (commit G H)).sum = (l.map fun s => (s.value : R) • H s.asset).sum + sumTerms l • G := by
  induction l with
  | nil => simp
  | cons s rest ih =>
    simp only [List.map_cons, List.sum_cons, ih, commit_eq, sumTerms_cons, add_smul]
    exact add_add_add_comm _ _ _ _

omit [DecidableEq R] in
/-- per-asset balance of the amounts (as the tag-weighted sums) and balance
    of the terms make the commitments balance — what `verify_tx_amt_proofs` checks -/
theorem balanced_commitments (G : M) (H : Nat → M) (ins outs : List (Secret R))
    (hamt : (ins.map fun s => (s.value : R) • H s.asset).sum =
            (outs.map fun s => (s.value : R) • H s.asset).sum)
    (hterm : sumTerms ins = sumTerms outs) :
    (ins.map (commit G H)).sum = (outs.map (commit G H)).sum := by
  rw [sum_commit, sum_commit, hamt, hterm]

/-- the end-to-end statement: after a successful honest flow on an unblinded PSET whose amounts
    balance per asset, the commitments of the extracted transaction's outputs sum to the
    commitments of the inputs -/
theorem flow_commitments_balance {pre : List (Step R)} {st0 st' : St R} {supL : Supplied R}
    {randL : Nat → R × R} (allIns zeros : List (Secret R)) (G : M) (H : Nat → M)
    (hpre : ∀ s ∈ pre, s.isPre)
    (hnew : ∀ o ∈ st0.outputs, o.secrets = none) (hsc : st0.scalars = [])
    (hact : ∀ sup rand, Step.nonLast sup rand ∈ pre →
      ∃ (j : Nat) (o : Out R), st0.outputs[j]? = some o ∧ Selected sup o)
    (hdisj : ∀ sup rand, Step.nonLast sup rand ∈ pre → ∀ o ∈ st0.outputs, Selected supL o → ¬ Selected sup o)
    (hall : allIns.Perm (pre.flatMap Step.supplied ++ inpSecrets supL ++ zeros))
    (hz : ∀ z ∈ zeros, term z = 0)
    (h : runFlow st0 (pre ++ [Step.last supL randL]) = .ok st')
    (hamt : (allIns.map fun s => (s.value : R) • H s.asset).sum =
            ((st'.outputs.map outSecret).map fun s => (s.value : R) • H s.asset).sum) :
    (allIns.map (commit G H)).sum = ((st'.outputs.map outSecret).map (commit G H)).sum :=
  balanced_commitments G H _ _ hamt
    (last_balances_all_inputs allIns zeros hpre hnew hsc hact hdisj hall hz h).2

end Generic

/-! ### the driver's scalar type: every theorem above applies verbatim to what the driver computes -/

theorem driver_scalars_add : (Fin.instCommRing Secp.n).toAdd = (inferInstance : Add Zn) := rfl

theorem driver_scalars_mul : (Fin.instCommRing Secp.n).toMul = (inferInstance : Mul Zn) := rfl

theorem driver_scalars_neg : (Fin.instCommRing Secp.n).toNeg = (inferInstance : Neg Zn) := rfl

theorem driver_scalars_zero : (Fin.instCommRing Secp.n).toZero = (inferInstance : Zero Zn) := rfl

theorem driver_scalars_natCast : (Fin.instCommRing Secp.n).toNatCast = instNatCastZn := rfl

/-- e.g. the driver's `psetblind.last` op computes Σ_a − Σ_b − value·abf modulo n -/
theorem driver_last_vbf (value : Nat) (abf : Zn) (ins outs : List (Secret Zn)) :
    lastVbf value abf ins outs = sumTerms ins - sumTerms outs - (value : Zn) * abf :=
  @last_vbf_formula Zn (Fin.instCommRing Secp.n) value abf ins outs

/-! ### non-vacuity: a two-party flow over ℤ (party A: input 0, outputs 0 and 1; party B: input 1,
    output 2; one explicit output and a hop in between) runs and balances -/

def exSt : St ℤ :=
  { inputs := [⟨true, false, none, []⟩, ⟨true, false, none, []⟩],
    outputs := [
      { amount := some 30, asset := some 0, hasKey := true, blinderIndex := some 0, addressable := true },
      { amount := some 60, asset := some 0, hasKey := true, blinderIndex := some 0, addressable := true },
      { amount := some 45, asset := some 1, hasKey := true, blinderIndex := some 1, addressable := true },
      { amount := some 10, asset := some 0, hasKey := false, blinderIndex := none, addressable := false },
      { amount := some 5, asset := some 1, hasKey := false, blinderIndex := none, addressable := true }],
    scalars := [] }
def exA : Supplied ℤ := [(0, ⟨0, 100, 7, 11⟩)]
def exB : Supplied ℤ := [(1, ⟨1, 50, 3, 5⟩)]
def exRand : Nat → ℤ × ℤ := fun i => (2 * i + 1, 3 * i + 2)

example : ∃ st', runFlow exSt [.nonLast exB exRand, .hop, .last exA exRand] = .ok st' ∧
    st'.scalars = [] ∧ outTermSum st' = sumTerms (inpSecrets exA) + sumTerms (inpSecrets exB) := by
  refine ⟨_, rfl, rfl, ?_⟩
  decide

example : ∃ st', runFlow exSt [.nonLast exA exRand, .hop, .last exB exRand] = .ok st' ∧
    st'.scalars = [] ∧ outTermSum st' = sumTerms (inpSecrets exA) + sumTerms (inpSecrets exB) := by
  refine ⟨_, rfl, rfl, ?_⟩
  decide

end EV.Props.C09
