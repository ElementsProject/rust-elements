/-
  C05 — amount verification rejects every tampered or unbalanced transaction.

  Model: `EV.Blind.verify` = `Transaction::verify_tx_amt_proofs` as coded (length check, per input
  generator / commitment of the spent output and issuance pseudo-inputs, per output value commitment,
  range-proof branch, surjection branch, final tally).  The EC primitives are parameters (`VPrims`).

  Two kinds of statements:
  * pure decision logic, for arbitrary primitives (`verify_ok_iff` to `swap_commitments`).
    Removing, corrupting or exchanging proofs and changing the script of a blinded output are
    covered by `verify_ok_iff`: the proof must be accepted *for that commitment, that script, that
    generator* (range proof) / *for that generator and the domain of input and issuance generators in
    order* (surjection proof); that a proof made for other data is not accepted is SOUNDNESS of the
    primitives — the trusted base, not proved here.
  * tamper lemmas decided by the balance equation alone, with the primitives computing in an
    `R`-module (`AlgV`) under explicit hypotheses (`NoTorsion`, `Indep`, `CastInj`).  These hold in the
    idealised (generic-group) reading of the curve — instance below — not as theorems about secp256k1,
    where independence of the asset tags is the discrete-logarithm assumption.
-/
import EV.Proofs.BlindC05
import EV.Proofs.BlindInstance

namespace EV.Props.C05
open EV EV.Blind

variable {A R M RP SP : Type}

/-- **decision logic stated outright**: `verify` returns ok exactly when
    the list lengths match ∧ no spent output has a null asset, a null value or an explicit zero value
    (and no issuance amount is an explicit zero) ∧ every output is acceptable (`OutOk`: value present;
    explicit zero only on a provably unspendable script; explicit non-zero value needs an asset; a
    confidential value has a range proof accepted for that commitment, that script, that generator; a
    confidential asset has a surjection proof accepted for the domain of input and issuance generators
    in order) ∧ the tally accepts the input commitments against the output commitments. -/
theorem verify_ok_iff (V : VPrims A M RP SP) (ins : List (TxIn A M)) (outs utxos : List (TxOut A M RP SP)) :
    verify V ins outs utxos = .ok ↔
      utxos.length = ins.length ∧
      (∀ p ∈ ins.zip utxos, SpentOk p.2 ∧ IssOk p.1) ∧
      (∀ o ∈ outs, OutOk V (domainOf V ins utxos) o) ∧
      V.sumEqual (inCommitsOf V ins utxos) (outCommitsOf V outs) = true :=
  verify_ok_iff' V ins outs utxos

/-- a spent-output list of the wrong length is rejected as such (`UtxoInputLenMismatch`), before
    anything else is looked at -/
theorem verify_len_err (V : VPrims A M RP SP) (ins : List (TxIn A M)) (outs utxos : List (TxOut A M RP SP))
    (h : utxos.length ≠ ins.length) :
    verify V ins outs utxos = .err .utxoInputLenMismatch := by
  rw [verify, if_pos h]

/-- acceptable inputs, acceptable outputs before position `i`, and at position `i` a confidential
    value (with an asset) but no range proof: exactly `RangeProofMissing(i)` -/
theorem verify_rangeproof_missing (V : VPrims A M RP SP) (ins : List (TxIn A M))
    (utxos pre post : List (TxOut A M RP SP)) (o : TxOut A M RP SP) (c g : M)
    (hlen : utxos.length = ins.length)
    (hin : ∀ p ∈ ins.zip utxos, SpentOk p.2 ∧ IssOk p.1)
    (hpre : ∀ x ∈ pre, OutOk V (domainOf V ins utxos) x)
    (hv : o.value = .conf c) (hg : assetGen V o.asset = some g) (hrp : o.rangeproof = none) :
    verify V ins (pre ++ o :: post) utxos = .err (.rangeProofMissing pre.length) := by
  rw [verify_of_inputs_ok V ins _ utxos hlen hin, outputCommits_prefix V _ pre (o :: post) 0 hpre]
  simp [outputCommits, valueCommit, hv, outputStep, rangeCheck, hg, hrp, Acc.map]

/-- the same for a confidential asset without a surjection proof, the value checks and the
    range-proof branch of that output having passed: exactly `SurjectionProofMissing(i)` -/
theorem verify_surjproof_missing (V : VPrims A M RP SP) (ins : List (TxIn A M))
    (utxos pre post : List (TxOut A M RP SP)) (o : TxOut A M RP SP) (g : M)
    (hlen : utxos.length = ins.length)
    (hin : ∀ p ∈ ins.zip utxos, SpentOk p.2 ∧ IssOk p.1)
    (hpre : ∀ x ∈ pre, OutOk V (domainOf V ins utxos) x)
    (hadm : o.value ≠ .null ∧ (o.value = .explicit 0 → isProvablyUnspendable o.script = true) ∧
      (∀ v, o.value = .explicit v → v ≠ 0 → o.asset ≠ .null))
    (hrange : rangeCheck V pre.length o = none)
    (ha : o.asset = .conf g) (hsp : o.surjproof = none) :
    verify V ins (pre ++ o :: post) utxos = .err (.surjectionProofMissing pre.length) := by
  rw [verify_of_inputs_ok V ins _ utxos hlen hin, outputCommits_prefix V _ pre (o :: post) 0 hpre]
  rcases (valueCommit_admissible_iff V o).2 hadm with ⟨c, hc⟩ | hc <;>
    simp [outputCommits, hc, outputStep, hrange, surjCheck, ha, hsp, Acc.map]

/-- everything acceptable but the tally: exactly `BalanceCheckFailed` -/
theorem verify_balance_failed (V : VPrims A M RP SP) (ins : List (TxIn A M))
    (outs utxos : List (TxOut A M RP SP))
    (hlen : utxos.length = ins.length)
    (hin : ∀ p ∈ ins.zip utxos, SpentOk p.2 ∧ IssOk p.1)
    (hout : ∀ o ∈ outs, OutOk V (domainOf V ins utxos) o)
    (hsum : V.sumEqual (inCommitsOf V ins utxos) (outCommitsOf V outs) = false) :
    verify V ins outs utxos = .err .balanceCheckFailed := by
  rw [verify_of_inputs_ok V ins outs utxos hlen hin,
    ((outputCommits_cases V _ 0 outs).resolve_right fun h => h.1 hout).2]
  simp [hsum]

/-- the output loop has no panicking path -/
theorem outputs_no_panic (V : VPrims A M RP SP) (domain : List M) (i : Nat) (outs : List (TxOut A M RP SP))
    (s : String) : outputCommits V domain i outs ≠ .panic s := by
  rcases outputCommits_cases V domain i outs with ⟨_, h⟩ | ⟨_, e, h⟩
  · exact h ▸ nofun
  · exact h ▸ nofun

/-- two outputs carrying the value commitments `c₂` and `c₁` in place of their own (an exchange, which
    leaves the sum of the commitments as it was): the result verifies only if each output's range proof is
    accepted for the commitment it now carries.  (`h1`, `h2` play no part in the proof.) -/
theorem swap_commitments (V : VPrims A M RP SP) (ins : List (TxIn A M))
    (utxos pre mid post : List (TxOut A M RP SP)) (o₁ o₂ : TxOut A M RP SP) (c₁ c₂ : M)
    (h1 : o₁.value = .conf c₁) (h2 : o₂.value = .conf c₂)
    (h : verify V ins (pre ++ { o₁ with value := .conf c₂ } :: mid ++ { o₂ with value := .conf c₁ } :: post) utxos = .ok) :
    (∃ g rp, assetGen V o₁.asset = some g ∧ o₁.rangeproof = some rp ∧ V.rangeVerify rp c₂ o₁.script g = true) ∧
    (∃ g rp, assetGen V o₂.asset = some g ∧ o₂.rangeproof = some rp ∧ V.rangeVerify rp c₁ o₂.script g = true) := by
  obtain ⟨_, _, hall, _⟩ := (verify_ok_iff' V ins _ utxos).1 h
  -- the fourth clause of `OutOk` is the range-proof branch
  obtain ⟨_, _, _, hr₁, _⟩ := hall { o₁ with value := .conf c₂ } (by simp)
  obtain ⟨_, _, _, hr₂, _⟩ := hall { o₂ with value := .conf c₁ } (by simp)
  exact ⟨hr₁ c₂ rfl, hr₂ c₁ rfl⟩

variable [CommRing R] [AddCommGroup M] [Module R M]

/-- any change of one output that changes the commitment it contributes (`hdiff`): the two transactions
    do not both verify -/
theorem tamper_any_output (cv : Curve R M A) (V : VPrims A M RP SP) (hV : AlgV cv V)
    (ins : List (TxIn A M)) (utxos pre post : List (TxOut A M RP SP)) (o o' : TxOut A M RP SP)
    (hdiff : (outCommit? V o).toList.sum ≠ (outCommit? V o').toList.sum) :
    ¬ (verify V ins (pre ++ o :: post) utxos = .ok ∧ verify V ins (pre ++ o' :: post) utxos = .ok) := by
  rintro ⟨h1, h2⟩
  have e := (verify_ok_sum hV _ _ _ h1).symm.trans (verify_ok_sum hV _ _ _ h2)
  simp only [outCommitsOf_append, outCommitsOf_cons, ← List.append_assoc] at e
  exact hdiff (sum_splice_cancel _ _ _ _ e)

/-- changing one explicit amount `v` to `v'` (output with asset generator `g`; amounts below a bound
    under which no natural annihilates `g`, e.g. 2^64): the two transactions do not both verify -/
theorem tamper_amount (cv : Curve R M A) (V : VPrims A M RP SP) (hV : AlgV cv V)
    (ins : List (TxIn A M)) (utxos pre post : List (TxOut A M RP SP)) (o : TxOut A M RP SP)
    (v v' : Nat) (g : M) (B : Nat) (hv : o.value = .explicit v) (hg : assetGen V o.asset = some g)
    (hne : v ≠ v') (hvB : v < B) (hvB' : v' < B) (hT : NoTorsion R g B) :
    ¬ (verify V ins (pre ++ o :: post) utxos = .ok ∧
       verify V ins (pre ++ { o with value := .explicit v' } :: post) utxos = .ok) := by
  apply tamper_any_output cv V hV
  rw [outCommit_eq_smul hV hv hg, outCommit_eq_smul hV (o := { o with value := .explicit v' }) rfl hg]
  exact hT.smul_ne hvB hvB' hne

/-- changing the explicit asset of an output with a positive explicit amount -/
theorem tamper_asset [DecidableEq A] (cv : Curve R M A) (V : VPrims A M RP SP) (hV : AlgV cv V)
    (ins : List (TxIn A M)) (utxos pre post : List (TxOut A M RP SP)) (o : TxOut A M RP SP)
    (a a' : A) (v : Nat) (B : Nat) (ha : o.asset = .explicit a) (hv : o.value = .explicit v)
    (hne : a ≠ a') (hv0 : 0 < v) (hvB : v < B) (hI : Indep cv) (hC : CastInj R B) :
    ¬ (verify V ins (pre ++ o :: post) utxos = .ok ∧
       verify V ins (pre ++ { o with asset := .explicit a' } :: post) utxos = .ok) := by
  apply tamper_any_output cv V hV
  rw [outCommit_eq_smul hV hv (hV.assetGen_explicit ha),
    outCommit_eq_smul hV (o := { o with asset := .explicit a' }) hv (hV.assetGen_explicit rfl)]
  exact hI.tag_smul_ne hC hne hv0 hvB

/-- replacing a value commitment by a different one (beyond `AlgV`, no hypothesis on the module: no
    `NoTorsion`, `Indep` or `CastInj`) -/
theorem replace_commitment (cv : Curve R M A) (V : VPrims A M RP SP) (hV : AlgV cv V)
    (ins : List (TxIn A M)) (utxos pre post : List (TxOut A M RP SP)) (o : TxOut A M RP SP)
    (c c' : M) (hc : o.value = .conf c) (hne : c ≠ c') :
    ¬ (verify V ins (pre ++ o :: post) utxos = .ok ∧
       verify V ins (pre ++ { o with value := .conf c' } :: post) utxos = .ok) := by
  apply tamper_any_output cv V hV
  rw [outCommit?, valueCommit_conf V hc, outCommit?, valueCommit_conf V rfl]
  simpa using hne

/-- changing an explicit issuance amount (`hv0`, `hv0'`, `hkeys` play no part in the proof: a verifying
    transaction has no explicit-zero issuance amount in any case) -/
theorem tamper_issuance (cv : Curve R M A) (V : VPrims A M RP SP) (hV : AlgV cv V)
    (outs : List (TxOut A M RP SP)) (ipre ipost : List (TxIn A M)) (inp : TxIn A M)
    (upre upost : List (TxOut A M RP SP)) (u : TxOut A M RP SP) (hl : upre.length = ipre.length)
    (v v' : Nat) (B : Nat) (hamt : inp.amount = .explicit v) (hne : v ≠ v') (hv0 : v ≠ 0) (hv0' : v' ≠ 0)
    (hvB : v < B) (hvB' : v' < B) (hT : NoTorsion R (cv.tag inp.assetId) B)
    (hkeys : inp.keys ≠ .explicit 0) :
    ¬ (verify V (ipre ++ inp :: ipost) outs (upre ++ u :: upost) = .ok ∧
       verify V (ipre ++ { inp with amount := .explicit v' } :: ipost) outs (upre ++ u :: upost) = .ok) :=
  tamper_issuance' hV outs ipre ipost inp upre upost u hl v v' B hamt hne hvB hvB' hT

/-- presenting, for one input, a different spent output whose value commitment differs -/
theorem other_utxos (cv : Curve R M A) (V : VPrims A M RP SP) (hV : AlgV cv V)
    (outs : List (TxOut A M RP SP)) (ipre ipost : List (TxIn A M)) (inp : TxIn A M)
    (upre upost : List (TxOut A M RP SP)) (u u' : TxOut A M RP SP) (hl : upre.length = ipre.length)
    (g c g' c' : M) (hu : spentPair? V u = some (g, c)) (hu' : spentPair? V u' = some (g', c'))
    (hne : c ≠ c') :
    ¬ (verify V (ipre ++ inp :: ipost) outs (upre ++ u :: upost) = .ok ∧
       verify V (ipre ++ inp :: ipost) outs (upre ++ u' :: upost) = .ok) := by
  apply tamper_input hV outs ipre ipost inp inp upre upost u u' hl
  simp [inCommitsOf, pairsOf, hu, hu', hne]

/-- **a transaction whose amounts are all explicit verifies exactly when, per asset, inputs plus
    issuances equal outputs plus fees**, zero-value outputs being admissible only on provably
    unspendable scripts (and spent outputs / issuance amounts being non-zero, list lengths equal).
    The direction "verifies ⇒ balanced" needs independence of the asset tags and that the per-asset
    totals stay below the bound under which naturals are distinct in `R`. -/
theorem explicit_tx_iff_balanced [DecidableEq A] (cv : Curve R M A) (V : VPrims A M RP SP) (hV : AlgV cv V)
    (hI : Indep cv) (B : Nat) (hC : CastInj R B)
    (ins : List (TxIn A M)) (outs utxos : List (TxOut A M RP SP)) (hE : ExplicitTx ins outs utxos)
    (hB : ∀ a, amt a (inputOpenings ins utxos : List (Secrets A R)) < B ∧
      amt a (explicitOpenings outs : List (Secrets A R)) < B) :
    verify V ins outs utxos = .ok ↔
      utxos.length = ins.length ∧
      (∀ p ∈ ins.zip utxos, SpentOk p.2 ∧ IssOk p.1) ∧
      (∀ o ∈ outs, o.value = .explicit 0 → isProvablyUnspendable o.script = true) ∧
      ∀ a, amt a (inputOpenings ins utxos : List (Secrets A R)) =
        amt a (explicitOpenings outs : List (Secrets A R)) := by
  obtain ⟨hEu, hEi, hEo⟩ := hE
  have hout : (∀ o ∈ outs, OutOk V (domainOf V ins utxos) o) ↔
      (∀ o ∈ outs, o.value = .explicit 0 → isProvablyUnspendable o.script = true) :=
    forall₂_congr fun o ho => outOk_explicit V _ o (hEo o ho)
  rw [verify_ok_iff', hout, hV.sum]
  refine and_congr_right fun _ => and_congr_right fun hok => and_congr_right fun _ => ?_
  rw [inCommits_explicit hV ins utxos hok hEu hEi, outCommits_explicit hV outs hEo]
  exact ⟨balanced_of_sum_tagPart cv hI B hC _ _ hB, cv.sum_tagPart_of_balanced _ _⟩

/-! ### non-vacuity: the hypotheses about the module are satisfiable -/
section instance_
open EV.Blind.Inst

/-- scalars `ℤ`, points the free module on {G, tag false, tag true} -/
example : Indep Inst.cv ∧ (∀ B, CastInj ℤ B) ∧ (∀ B, NoTorsion ℤ Inst.cv.G B) ∧
    (∀ B a, NoTorsion ℤ (Inst.cv.tag a) B) ∧ AlgV Inst.cv Inst.Vz :=
  ⟨indep, castInj, noTorsion_G, noTorsion_tag, algV⟩

/-- in that instance: 10 units in, 9 + 1 out verifies; 10 in, 9 + 2 out does not -/
example : verify Vz [⟨.null, .null, false, false⟩]
    [⟨.explicit true, .explicit 9, .null, [1], none, none⟩, ⟨.explicit true, .explicit 1, .null, [], none, none⟩]
    [⟨.explicit true, .explicit 10, .null, [1], none, none⟩] = .ok :=
  verify_10_9_1

example : ¬ (verify Vz [⟨.null, .null, false, false⟩]
    [⟨.explicit true, .explicit 9, .null, [1], none, none⟩, ⟨.explicit true, .explicit 2, .null, [], none, none⟩]
    [⟨.explicit true, .explicit 10, .null, [1], none, none⟩] = .ok) :=
  fun h => tamper_amount Inst.cv Vz algV _ _ [_] [] ⟨.explicit true, .explicit 1, .null, [], none, none⟩ 1 2
    (Inst.cv.tag true) (2 ^ 64) rfl rfl (by decide) (by norm_num) (by norm_num) (noTorsion_tag _ true)
    ⟨verify_10_9_1, h⟩
end instance_

end EV.Props.C05
