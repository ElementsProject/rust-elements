/-
  C06 — addresses round-trip through text, are canonical, and name exactly one network.

  Model: `EV.Model.Address` (`Address::{Display, from_str, parse_with_params, from_bech32, from_base58}`
  of /repo/src/address.rs), `EV.Model.Bech32` (bech32 crate encoder/decoder and
  /repo/src/blech32/decode.rs), `EV.Model.Base58` (base58ck). The network table (version bytes,
  human-readable parts, the order in which `from_str` tries the networks) and the blech32 constants
  are re-extracted from the Rust source on every run (`EV.Gen`); `gen_matches_reference` pins them to
  the reference values (`EV.Ref`). SHA-256d and the secp256k1 public-key parser are parameters
  (`Prims`); nothing below unfolds them.

  "Standard address" = `WF P a`: one of the three networks; a 20-byte hash, or a witness program of
  version 0..16 and 2..40 bytes (20 or 32 for version 0); optional blinding key = 33 bytes accepted by
  the key parser. Text is the list of UTF-8 bytes of the string.

  Section "conversions, inspectors and constructors": `EV.Model.AddressOps` —
  `Address::{is_blinded, is_liquid, to_confidential, to_unconfidential, script_pubkey, from_script, p2pkh, p2sh,
  p2wpkh, p2shwpkh, p2wsh, p2shwsh, p2tr, p2tr_tweaked}`, bridged to the payload level of C16 (`EV.Model.Script`)
  and to the taproot tweak of C15 (`EV.Model.Taproot`).  Last section: C17's detection of corrupted characters,
  stated about the strings `Display` prints (`EV.Proofs.BridgeAddrDetect`).
-/
import EV.Proofs.AddrCanonical
import EV.Proofs.AddrDetect
import EV.Proofs.AddressOps
import EV.Proofs.BridgeAddrDetect
import EV.Proofs.TaprootSpend
namespace EV.Props.C06
open EV EV.Bech32 EV.Base58 EV.Addr

variable (P : Prims)

/-- **Round trip.** The displayed string of every standard address parses back to the same address,
    with `from_str` and with `parse_with_params` of its own network — base58check forms (p2pkh, p2sh,
    blinded or not) and segwit forms (bech32 / bech32m, blech32 / blech32m) alike. -/
theorem addr_roundtrip (a : Address) (h : WF P a) :
    fromStr P (display P a) = .ok a ∧ parseWithParams P (display P a) a.params = .ok a := by
  cases hs : a.payload.isSegwit with
  | true =>
    have := segwit_roundtrip P a h hs false
    rwa [map_cmap_false] at this
  | false =>
    obtain ⟨bs, hbs⟩ := (not_segwit_iff a).1 hs
    exact (base58_roundtrip P a h bs hbs).2

/-- **Round trip, upper case.** Segwit forms also parse back when every letter is upper-cased. -/
theorem addr_roundtrip_upper (a : Address) (h : WF P a) (hs : a.payload.isSegwit = true) :
    fromStr P (upper (display P a)) = .ok a ∧ parseWithParams P (upper (display P a)) a.params = .ok a := by
  have := segwit_roundtrip P a h hs true
  rwa [map_cmap_true] at this

/-- **Canonical form (`from_str`).** If a string parses, displaying the result gives the string itself
    (base58 forms, case-sensitive) or its lower-case form (segwit forms). -/
theorem parse_display_canonical (s : Text) (a : Address) (h : fromStr P s = .ok a) :
    display P a = (if a.payload.isSegwit then lower s else s) := by
  exact (fromStr_sound P s a h).2

/-- **Canonical form (`parse_with_params`).** The same for a string that parses under the parameters of one of the
    three networks; the result names that network. -/
theorem parse_with_params_display_canonical (s : Text) (p : Gen.AddrParamsB) (hp : p ∈ Gen.allParamsB)
    (a : Address) (h : parseWithParams P s p = .ok a) :
    a.params = p ∧ display P a = (if a.payload.isSegwit then lower s else s) := by
  obtain ⟨hpar, _, hdisp⟩ := parseWithParams_sound P s p hp a h
  exact ⟨hpar, hdisp⟩

/-- **Shape.** Every successfully parsed address is standard (the bounds are in the head comment). -/
theorem parsed_shape (s : Text) (a : Address) (h : fromStr P s = .ok a) : WF P a := by
  exact (fromStr_sound P s a h).1

theorem parsed_shape_with_params (s : Text) (p : Gen.AddrParamsB) (hp : p ∈ Gen.allParamsB) (a : Address)
    (h : parseWithParams P s p = .ok a) : WF P a := by
  exact (parseWithParams_sound P s p hp a h).2.1

/-- **Checksum variant.** A parsed witness-program address comes from a string `hrp ++ "1" ++ data`
    whose symbols verify under the variant its version requires: bech32 (unblinded) / blech32
    (blinded) for version 0, bech32m / blech32m for versions 1..16. -/
theorem parsed_variant (s : Text) (a : Address) (h : fromStr P s = .ok a) (ver : Nat) (prog : List Nat)
    (hpl : a.payload = .wit ver prog) :
    ∃ hrp d, s = hrp ++ 49 :: d ∧ (∀ c ∈ d, (fromChar c).isSome = true) ∧
      (a.blinder.isSome = true → verify (blechFlavor.variant ver) hrp (d.map sym) = true ∧
        blechFlavor.variant ver = (if ver = 0 then blech32 else blech32m)) ∧
      (a.blinder.isSome = false → verify (crateFlavor.variant ver) hrp (d.map sym) = true ∧
        crateFlavor.variant ver = (if ver = 0 then bech32 else bech32m)) := by
  obtain ⟨_, bl, _, hfb⟩ := segwit_route P s a h (by rw [hpl]; rfl)
  -- forget that the network is `a`'s: `a` is about to be replaced by its shape
  generalize a.params = p at hfb
  obtain ⟨seg, hseg, _, key, rfl, rfl, _⟩ := (fromBech32_post P s bl p).of_ok hfb
  obtain ⟨_, _, _, _, _, d, hsd, hal, _, hverify⟩ := encode_of_segwitNew _ (flavor_of _) s seg hseg
  obtain ⟨rfl, _⟩ := Payload.wit.inj hpl
  refine ⟨seg.hrp, d, hsd, hal, fun hb => ?_, fun hb => ?_⟩
  · rw [hb] at hverify
    exact ⟨hverify, rfl⟩
  · rw [hb] at hverify
    exact ⟨hverify, rfl⟩

/-- **One network.** A string parses under at most one of the three parameter sets. The statement carries a
    second disjunct — the same string is accepted by a segwit decoder and is also a valid base58check string
    (`MixedForms`) — which the proof never takes: both results are `from_str`'s (`EV.Addr.routes_agree`). -/
theorem one_network (s : Text) (p q : Gen.AddrParamsB) (hp : p ∈ Gen.allParamsB) (hq : q ∈ Gen.allParamsB)
    (a b : Address) (ha : parseWithParams P s p = .ok a) (hb : parseWithParams P s q = .ok b) :
    p = q ∨ MixedForms P s := by
  exact .inl (routes_agree P s p q hp hq a b ha hb).1

/-- what `from_str` accepts, `parse_with_params` of the network it names accepts, with the same result -/
theorem from_str_names_its_network (s : Text) (a : Address) (h : fromStr P s = .ok a) :
    a.params ∈ Gen.allParamsB ∧ parseWithParams P s a.params = .ok a :=
  (fromStr_ok_iff P s a).1 h

/-- **Exactly one network** for valid strings: what `from_str` accepts is accepted by
    `parse_with_params` of the named network and of no other (the `MixedForms` alternative of the statement
    is never taken, see `one_network`). -/
theorem exactly_one_network (s : Text) (a : Address) (h : fromStr P s = .ok a) (q : Gen.AddrParamsB)
    (hq : q ∈ Gen.allParamsB) (b : Address) (hb : parseWithParams P s q = .ok b) :
    q = a.params ∨ MixedForms P s := by
  obtain ⟨hp, hpw⟩ := from_str_names_its_network P s a h
  exact one_network P s q a.params hq hp b a hb hpw

/-- parsing is total: no input makes `from_str` or `parse_with_params` panic. The model has no panic site on this
    path: where the Rust code indexes or `unwrap`s, a test stands before it (`SegwitHrpstring::new` refuses an empty
    data part before it reads the witness-version character; `new_bech32`, which `Address` does not call, does so
    since 39f730c of /repo), and the model returns that test's error. -/
theorem parse_total (s : Text) (site : String) :
    fromStr P s ≠ .panic site ∧ ∀ p, parseWithParams P s p ≠ .panic site :=
  ⟨(fromStr_post P s).ne_panic site, fun p => (parseWithParams_post P s p).ne_panic site⟩

/-- the regenerated constants are the reference constants: the three networks' version bytes and
    human-readable parts (Elements chain parameters) and the blech32 generator table, target residues
    and checksum length (Elements `blech32.cpp`) -/
theorem gen_matches_reference :
    Gen.allParamsB.map (fun p => (p.p2pkh, p.p2sh, p.blinded, p.bechHrp, p.blechHrp))
      = [(57, 39, 12, [101, 120], [108, 113]), (235, 75, 4, [101, 114, 116], [101, 108]),
         (36, 19, 23, [116, 101, 120], [116, 108, 113])] ∧
    Gen.blech32Generators = Ref.blech32Generators ∧ Gen.blech32mGenerators = Ref.blech32Generators ∧
    Gen.blech32Target = Ref.blech32Target ∧ Gen.blech32mTarget = Ref.blech32mTarget ∧
    Gen.blech32ChecksumLength = Ref.blech32ChecksumLength ∧ Gen.blech32mChecksumLength = Ref.blech32ChecksumLength :=
  ⟨rfl, rfl, rfl, rfl, rfl, rfl, rfl⟩

/-- the byte lists above are the ASCII codes of "ex","lq","ert","el","tex","tlq", and the two alphabets
    are the bech32 and base58 character sets -/
theorem ascii_tables :
    "ex".toList.map Char.toNat = [101, 120] ∧ "lq".toList.map Char.toNat = [108, 113] ∧
    "ert".toList.map Char.toNat = [101, 114, 116] ∧ "el".toList.map Char.toNat = [101, 108] ∧
    "tex".toList.map Char.toNat = [116, 101, 120] ∧ "tlq".toList.map Char.toNat = [116, 108, 113] ∧
    "qpzry9x8gf2tvdw0s3jn54khce6mua7l".toList.map Char.toNat = Ref.charset ∧
    "123456789ABCDEFGHJKLMNPQRSTUVWXYZabcdefghijkmnopqrstuvwxyz".toList.map Char.toNat = Ref.base58Chars :=
  ⟨ascii_toList [101, 120] (by decide), ascii_toList [108, 113] (by decide), ascii_toList [101, 114, 116] (by decide),
   ascii_toList [101, 108] (by decide), ascii_toList [116, 101, 120] (by decide), ascii_toList [116, 108, 113] (by decide),
   ascii_toList Ref.charset (by decide), ascii_toList Ref.base58Chars (by decide)⟩

/-- a standard address exists for every payload kind (with an always-accepting key parser) -/
example : WF { sha256d := fun _ => [], validPk := fun _ => true }
    { params := Gen.paramsLiquidB, payload := .wit 1 (List.replicate 32 7), blinder := some (List.replicate 33 2) } :=
  ⟨.head _, ⟨by decide, by decide, by decide, by decide, by intro b hb; rw [List.mem_replicate] at hb; omega⟩,
   ⟨rfl, rfl, by intro b hb; rw [List.mem_replicate] at hb; omega⟩⟩

example : WF { sha256d := fun _ => [], validPk := fun _ => true }
    { params := Gen.paramsElementsB, payload := .pkh (List.replicate 20 0), blinder := none } :=
  ⟨.tail _ (.head _), ⟨rfl, by intro b hb; rw [List.mem_replicate] at hb; omega⟩, trivial⟩

/-! ## conversions, inspectors and constructors (`EV.Model.AddressOps`)

  Hashes and the taproot tweak are parameters; the constants (which network `is_liquid` names, the field list of
  `AddressParams`, the `Fe32` version constants, the pushed integer of the nested forms) are re-extracted on every
  run (tools/extract.d/c17_addrops.py).
-/
section ops
open EV.Proofs.BridgeScriptAddress

/-! ### (a) confidential ⇄ unconfidential -/

/-- dropping the blinding key after setting one is dropping it from the original -/
theorem unconf_of_conf (a : Address) (k : List Nat) :
    toUnconfidential (toConfidential a k) = toUnconfidential a := rfl

/-- `to_confidential` sets exactly the blinding key: network and payload are untouched, and any address with
    that network, payload and key is the result -/
theorem to_confidential_sets_only_key (a : Address) (k : List Nat) :
    (toConfidential a k).params = a.params ∧ (toConfidential a k).payload = a.payload ∧
    (toConfidential a k).blinder = some k ∧
    ∀ b : Address, b.params = a.params → b.payload = a.payload → b.blinder = some k → b = toConfidential a k := by
  refine ⟨rfl, rfl, rfl, ?_⟩
  rintro ⟨p, pl, bl⟩ h1 h2 h3
  simp only at h1 h2 h3
  subst h1 h2 h3
  rfl

/-- `to_unconfidential` clears exactly the blinding key -/
theorem to_unconfidential_clears_only_key (a : Address) :
    (toUnconfidential a).params = a.params ∧ (toUnconfidential a).payload = a.payload ∧
    (toUnconfidential a).blinder = none := ⟨rfl, rfl, rfl⟩

/-- `is_blinded` ⇔ a blinding key is present -/
theorem is_blinded_iff (a : Address) : isBlinded a = true ↔ ∃ k, a.blinder = some k := by
  cases h : a.blinder <;> simp [isBlinded, h]

theorem is_blinded_after (a : Address) (k : List Nat) :
    isBlinded (toConfidential a k) = true ∧ isBlinded (toUnconfidential a) = false := ⟨rfl, rfl⟩

/-- `to_unconfidential` is idempotent, and its fixed points are exactly the unblinded addresses -/
theorem to_unconfidential_idempotent (a : Address) :
    toUnconfidential (toUnconfidential a) = toUnconfidential a ∧
    (toUnconfidential a = a ↔ isBlinded a = false) := by
  refine ⟨rfl, ?_⟩
  obtain ⟨p, pl, bl⟩ := a
  cases bl <;> simp [toUnconfidential, isBlinded]

/-- a later key replaces an earlier one; re-blinding with its own key restores a blinded address -/
theorem to_confidential_overwrites (a : Address) (k k' : List Nat) :
    toConfidential (toConfidential a k) k' = toConfidential a k' ∧
    toConfidential (toUnconfidential a) k = toConfidential a k ∧
    (a.blinder = some k → toConfidential (toUnconfidential a) k = a) := by
  refine ⟨rfl, rfl, ?_⟩
  obtain ⟨p, pl, bl⟩ := a
  rintro h
  simp only at h
  subst h
  rfl

/-- the output script does not depend on the blinding key (nor on the network): both conversions commute with
    `script_pubkey`, and addresses with the same payload have the same script -/
theorem script_pubkey_ignores_blinding_key (a : Address) (k : List Nat) :
    scriptPubkey (toConfidential a k) = scriptPubkey a ∧ scriptPubkey (toUnconfidential a) = scriptPubkey a ∧
    ∀ b : Address, b.payload = a.payload → scriptPubkey b = scriptPubkey a := by
  refine ⟨rfl, rfl, ?_⟩
  intro b h
  simp only [scriptPubkey, h]

/-- both conversions keep an address standard (for `to_confidential`: with a key the key parser accepts) -/
theorem conversions_keep_standard (a : Address) (k : List Nat) (h : WF P a) :
    WF P (toUnconfidential a) ∧ (BlinderOk P (some k) → WF P (toConfidential a k)) :=
  ⟨⟨h.net, h.payload, trivial⟩, fun hk => ⟨h.net, h.payload, hk⟩⟩

/-! ### (b) text forms of the two -/

/-- the printed form of `to_confidential a k` (and of `to_unconfidential a`) parses back to it -/
theorem to_confidential_text_roundtrip (a : Address) (k : List Nat) (h : WF P a) (hk : BlinderOk P (some k)) :
    fromStr P (display P (toConfidential a k)) = .ok (toConfidential a k) ∧
    parseWithParams P (display P (toConfidential a k)) a.params = .ok (toConfidential a k) ∧
    fromStr P (display P (toUnconfidential a)) = .ok (toUnconfidential a) ∧
    parseWithParams P (display P (toUnconfidential a)) a.params = .ok (toUnconfidential a) := by
  obtain ⟨hu, hc⟩ := conversions_keep_standard P a k h
  obtain ⟨c1, c2⟩ := addr_roundtrip P _ (hc hk)
  obtain ⟨u1, u2⟩ := addr_roundtrip P _ hu
  exact ⟨c1, c2, u1, u2⟩

/-- **`Display` is injective** on standard addresses of the three built-in networks: the string determines
    network, payload and blinding key -/
theorem display_injective (a b : Address) (ha : WF P a) (hb : WF P b) (h : display P a = display P b) : a = b := by
  have h1 := (addr_roundtrip P a ha).1
  have h2 := (addr_roundtrip P b hb).1
  rw [h, h2] at h1
  exact (Res.ok.inj h1).symm

/-- the blinded string determines (network, payload, key) -/
theorem blinded_text_determines (a b : Address) (k k' : List Nat) (ha : WF P a) (hb : WF P b)
    (hk : BlinderOk P (some k)) (hk' : BlinderOk P (some k'))
    (h : display P (toConfidential a k) = display P (toConfidential b k')) :
    a.params = b.params ∧ a.payload = b.payload ∧ k = k' := by
  have := display_injective P _ _ ((conversions_keep_standard P a k ha).2 hk)
    ((conversions_keep_standard P b k' hb).2 hk') h
  simp only [toConfidential, Address.mk.injEq, Option.some.injEq] at this
  exact this

/-- blinded and unblinded forms of one payload are different strings -/
theorem blinded_unblinded_text_differ (a : Address) (k : List Nat) (h : WF P a) (hk : BlinderOk P (some k)) :
    display P (toConfidential a k) ≠ display P (toUnconfidential a) := by
  intro he
  have := display_injective P _ _ ((conversions_keep_standard P a k h).2 hk) (conversions_keep_standard P a k h).1 he
  simp [toConfidential, toUnconfidential] at this

/-- blinded and unblinded segwit forms of one payload have different human-readable parts: the blinded string
    starts with the network's blech32 hrp, the unblinded one with its bech32 hrp, and the two differ even up to
    letter case -/
theorem blinded_unblinded_hrp_differ (a : Address) (k : List Nat) (h : WF P a) (hs : a.payload.isSegwit = true) :
    findPrefix (display P (toConfidential a k)) = a.params.blechHrp ∧
    findPrefix (display P (toUnconfidential a)) = a.params.bechHrp ∧
    lower a.params.blechHrp ≠ lower a.params.bechHrp := by
  obtain ⟨p, pl, bl⟩ := a
  obtain ⟨ver, prog, rfl⟩ := Payload.eq_wit hs
  have hv : ver ≤ 16 := h.payload.1
  refine ⟨findPrefix_display_wit P p h.net ver prog _ hv, findPrefix_display_wit P p h.net ver prog _ hv, ?_⟩
  intro e
  have e' : hrpOf true p = hrpOf false p :=
    (lower_hrpOf true p h.net).symm.trans (e.trans (lower_hrpOf false p h.net))
  cases (hrpOf_inj p h.net p h.net true false e').1

/-- blinded and unblinded base58 forms of one payload have different version bytes: the blinded string carries the
    network's `blinded_prefix` followed by the p2pkh / p2sh prefix, the unblinded one starts with the p2pkh / p2sh
    prefix itself -/
theorem blinded_unblinded_version_byte_differ (a : Address) (k : List Nat) (h : WF P a) (hk : BlinderOk P (some k))
    (hs : a.payload.isSegwit = false) :
    ∃ v hash, (v = a.params.p2pkh ∨ v = a.params.p2sh) ∧ v ≠ a.params.blinded ∧
      decodeCheck P.sha256d (display P (toConfidential a k)) = some (a.params.blinded :: v :: (k ++ hash)) ∧
      decodeCheck P.sha256d (display P (toUnconfidential a)) = some (v :: hash) := by
  obtain ⟨hu, hc⟩ := conversions_keep_standard P a k h
  obtain ⟨p, pl, bl⟩ := a
  obtain ⟨hd1, hd2, _⟩ := prefix_facts p h.net
  cases pl with
  | wit ver prog => simp [Payload.isSegwit] at hs
  | pkh hh =>
    exact ⟨p.p2pkh, hh, Or.inl rfl, hd1, (base58_roundtrip P _ (hc hk) _ rfl).1, (base58_roundtrip P _ hu _ rfl).1⟩
  | sh hh =>
    exact ⟨p.p2sh, hh, Or.inr rfl, hd2, (base58_roundtrip P _ (hc hk) _ rfl).1, (base58_roundtrip P _ hu _ rfl).1⟩

/-! ### (c) networks -/

/-- `is_liquid` as coded: the address's parameter VALUES equal those of `AddressParams::LIQUID`, field by field
    (derived `PartialEq`; the `Hrp`s up to letter case) — not an identity test on the `&'static` reference -/
theorem is_liquid_as_coded (a : Address) :
    isLiquid a = true ↔ (a.params.p2pkh = Gen.paramsLiquidB.p2pkh ∧ a.params.p2sh = Gen.paramsLiquidB.p2sh ∧
      a.params.blinded = Gen.paramsLiquidB.blinded ∧ lower a.params.bechHrp = lower Gen.paramsLiquidB.bechHrp ∧
      lower a.params.blechHrp = lower Gen.paramsLiquidB.blechHrp) :=
  paramsEq_iff a.params Gen.paramsLiquidB

/-- on the three built-in networks: `is_liquid` ⇔ the address's network is LIQUID (and never for the other two) -/
theorem is_liquid_iff (a : Address) (h : a.params ∈ Gen.allParamsB) :
    isLiquid a = true ↔ a.params = Gen.paramsLiquidB :=
  paramsEq_table a.params Gen.paramsLiquidB h isLiquidParams_mem

/-- `is_liquid` looks at the network only -/
theorem is_liquid_ignores_key_and_payload (a b : Address) (k : List Nat) (h : b.params = a.params) :
    isLiquid b = isLiquid a ∧ isLiquid (toConfidential a k) = isLiquid a ∧
    isLiquid (toUnconfidential a) = isLiquid a := by
  refine ⟨?_, rfl, rfl⟩
  simp only [isLiquid, h]

/-- **The network table separates the networks.** Over the three built-in parameter sets (as extracted): the
    nine base58 version bytes are pairwise different, non-zero bytes; the six human-readable parts are pairwise
    different — also after lower-casing, which is how `match_prefix` and `Hrp: PartialEq` compare — and well
    formed; field-wise equality of two of the sets is equality. -/
theorem network_table_distinct :
    (Gen.allParamsB.flatMap prefixBytes).Nodup ∧ (∀ b ∈ Gen.allParamsB.flatMap prefixBytes, 0 < b ∧ b < 256) ∧
    (Gen.allParamsB.flatMap hrps).Nodup ∧ ((Gen.allParamsB.flatMap hrps).map lower).Nodup ∧
    (∀ h ∈ Gen.allParamsB.flatMap hrps, HrpOk h) ∧
    (∀ p ∈ Gen.allParamsB, ∀ q ∈ Gen.allParamsB, paramsEq p q = true ↔ p = q) ∧
    Gen.allParamsB.length = 3 := by
  refine ⟨by decide, by decide, by decide, by decide,
    fun h hh => (hrps_ok h hh).1, fun p hp q hq => paramsEq_table p q hp hq, rfl⟩

/-- **A printed address names exactly one network.** The displayed string of a standard address parses under
    its own network's parameters, and under no other of the three (the `MixedForms` disjunct is never taken, see
    `one_network`; the next theorem is the statement without it). -/
theorem printed_address_names_one_network (a : Address) (h : WF P a) :
    parseWithParams P (display P a) a.params = .ok a ∧
    ∀ q ∈ Gen.allParamsB, ∀ b, parseWithParams P (display P a) q = .ok b →
      q = a.params ∨ MixedForms P (display P a) := by
  obtain ⟨h1, h2⟩ := addr_roundtrip P a h
  exact ⟨h2, fun q hq b hb => exactly_one_network P _ a h1 q hq b hb⟩

/-- **A printed base58 address names exactly one network**, without the `MixedForms` alternative: a printed
    p2pkh / p2sh address (blinded or not) parses under exactly its own network, and to the same address. The
    restriction `hns` to these forms is not used by the proof. -/
theorem printed_base58_address_names_one_network (a : Address) (h : WF P a) (hns : a.payload.isSegwit = false)
    (q : Gen.AddrParamsB) (hq : q ∈ Gen.allParamsB) (b : Address)
    (hb : parseWithParams P (display P a) q = .ok b) : q = a.params ∧ b = a := by
  obtain ⟨rfl, rfl⟩ := routes_agree P _ q a.params hq h.net b a hb (addr_roundtrip P a h).2
  exact ⟨rfl, rfl⟩

/-! ### (d) pay-to-taproot -/

/-- `p2tr_tweaked`: witness version 1 with the (tweaked) x-only key as the program; network and blinding key
    as given -/
theorem p2tr_tweaked_shape (k : Bytes) (bl : Option (List Nat)) (p : Gen.AddrParamsB) :
    p2trTweaked k bl p = { params := p, payload := .wit 1 (natsOfBytes k), blinder := bl } ∧
    (natsOfBytes k).length = k.length ∧ bytesOfNats (natsOfBytes k) = k :=
  ⟨by simp only [p2trTweaked, version_consts.2.2.2], toNats_length k, ofNats_toNats k⟩

/-- its `script_pubkey` is `OP_1 PUSH32 key` (`EV.Taproot.p2trScript`, the script C15's control blocks are
    verified against), which C16's `is_v1_p2tr` template recognises and from which `from_script` — on payloads
    (C16) and on whole addresses — recovers the address -/
theorem p2tr_tweaked_script (k : Bytes) (bl : Option (List Nat)) (p : Gen.AddrParamsB) (hk : k.length = 32) :
    scriptPubkey (p2trTweaked k bl p) = some (Taproot.p2trScript k) ∧
    Taproot.p2trScript k = Script.witnessScript Gen.opPushnum1 k ∧
    Script.isV1P2tr (Taproot.p2trScript k) = true ∧
    Script.fromScript (Taproot.p2trScript k) = some (.witnessProgram 1 k) ∧
    fromScript (Taproot.p2trScript k) bl p = some (p2trTweaked k bl p) := by
  obtain ⟨e1, e2⟩ := p2trScript_eq k hk
  have hstd : (Script.Payload.witnessProgram 1 k).standard := Or.inr (by omega)
  have hfs : Script.fromScript (Taproot.p2trScript k) = some (.witnessProgram 1 k) := by
    rw [e2]
    exact Proofs.ScriptAddress.fromScript_pattern hstd
  have hto : p2trTweaked k bl p = toAddress p (.witnessProgram 1 k) bl := (p2tr_tweaked_shape k bl p).1
  refine ⟨?_, e1, ?_, hfs, ?_⟩
  · rw [hto, scriptPubkey_toAddress, e2]
    exact Proofs.ScriptAddress.scriptPubkey_standard hstd
  · rw [e1]
    exact (Proofs.ScriptTemplates.isV1P2tr_iff _).2 ⟨k, hk, rfl⟩
  · rw [fromScript_eq, hfs, hto]
    rfl

/-- a taproot address of a 32-byte key on a built-in network is standard, so its bech32m / blech32m text form
    round-trips -/
theorem p2tr_tweaked_text_roundtrip (k : Bytes) (bl : Option (List Nat)) (p : Gen.AddrParamsB) (hk : k.length = 32)
    (hp : p ∈ Gen.allParamsB) (hb : BlinderOk P bl) :
    WF P (p2trTweaked k bl p) ∧ fromStr P (display P (p2trTweaked k bl p)) = .ok (p2trTweaked k bl p) ∧
    crateFlavor.variant 1 = bech32m ∧ blechFlavor.variant 1 = blech32m := by
  have hw : WF P (p2trTweaked k bl p) := by
    rw [(p2tr_tweaked_shape k bl p).1]
    exact wf_toAddress P (.witnessProgram 1 k) (Or.inr (by omega)) p hp bl hb
  exact ⟨hw, (addr_roundtrip P _ hw).1, rfl, rfl⟩

/-- `p2tr` is `p2tr_tweaked` of the output key `tap_tweak` computes (parity dropped); it panics where `tap_tweak`
    does (that it panics only there is not part of the statement) and never returns an error. -/
theorem p2tr_is_tweaked (E : Taproot.EC) (H : Taproot.TapHashes) (key : Bytes) (root : Option Bytes)
    (bl : Option (List Nat)) (p : Gen.AddrParamsB) :
    (∀ q par, Taproot.tapTweak E H key root = .ok (q, par) → p2tr E H key root bl p = .ok (p2trTweaked q bl p)) ∧
    (∀ site, Taproot.tapTweak E H key root = .panic site → p2tr E H key root bl p = .panic site) ∧
    (∀ e, p2tr E H key root bl p ≠ .err e) := by
  rw [p2tr_eq]
  refine ⟨fun q par h => by rw [h]; rfl, fun site h => by rw [h]; rfl, fun e h => ?_⟩
  rcases Res.bind_eq_err.1 h with ht | ⟨_, _, hk⟩
  · exact Proofs.TaprootSpend.tapTweak_not_err E H key root e ht
  · cases hk

/-- the address commits to the internal key and the merkle root: its program is the key `Q` with
    `Q = P + t·G` for `t = TapTweakHash(P ‖ root?)` (`tweak_add_check` holds, `t` is a valid scalar) -/
theorem p2tr_commits (E : Taproot.EC) (H : Taproot.TapHashes) (key : Bytes) (root : Option Bytes)
    (bl : Option (List Nat)) (p : Gen.AddrParamsB) (a : Address) (h : p2tr E H key root bl p = .ok a) :
    ∃ q par, a = p2trTweaked q bl p ∧ E.scalarOk (Taproot.tweakHash H key root) = true ∧
      E.tweakAdd key (Taproot.tweakHash H key root) = some (q, par) ∧
      E.tweakAddCheck key q par (Taproot.tweakHash H key root) = true := by
  rw [p2tr_eq] at h
  obtain ⟨⟨q, par⟩, ht, ha⟩ := Res.bind_eq_ok.1 h
  exact ⟨q, par, (Res.ok.inj ha).symm, (Proofs.TaprootSpend.tapTweak_eq_ok E H key root q par).1 ht⟩

/-- bridge to C15: the address of `(key, root)` is the taproot address of the output key of
    `TaprootSpendInfo::new_key_spend(key, root)` — the key every control block of that spend info verifies against -/
theorem p2tr_matches_spend_info (E : Taproot.EC) (H : Taproot.TapHashes) (key : Bytes) (root : Option Bytes)
    (si : Taproot.SpendInfo) (h : Taproot.newKeySpend E H key root = .ok si)
    (bl : Option (List Nat)) (p : Gen.AddrParamsB) :
    p2tr E H key root bl p = .ok (p2trTweaked si.outputKey bl p) :=
  (p2tr_is_tweaked E H key root bl p).1 _ _ (Proofs.TaprootSpend.newKeySpend_ok E H key root si h).2.2.2

/-! ### (e) scripts of whole addresses and the other constructors -/

/-- the address-level `script_pubkey` is C16's payload-level one under the bridge conversion -/
theorem script_pubkey_bridge (a : Address) : scriptPubkey a = Script.scriptPubkey (ofAddrPayload a.payload) := by
  rw [scriptPubkey, toScript_eq]

/-- `from_script` on whole addresses: the address it returns has the given network and blinding key, a standard
    payload — the C16 payload of the script under the bridge conversion — and `script_pubkey` gives the script back -/
theorem from_script_then_script_pubkey (s : Bytes) (bl : Option (List Nat)) (p : Gen.AddrParamsB) (a : Address)
    (h : fromScript s bl p = some a) :
    scriptPubkey a = some s ∧ a.params = p ∧ a.blinder = bl ∧ PayloadStd a.payload ∧
      ∃ pl, Script.fromScript s = some pl ∧ a = toAddress p pl bl := by
  rw [fromScript_eq] at h
  obtain ⟨pl, hpl, rfl⟩ := Option.map_eq_some_iff.1 h
  obtain ⟨hstd, hpat⟩ := Proofs.ScriptAddress.fromScript_some hpl
  refine ⟨?_, rfl, rfl, payloadStd_of_standard pl hstd, pl, hpl, rfl⟩
  rw [scriptPubkey_toAddress, hpat]
  exact Proofs.ScriptAddress.scriptPubkey_standard hstd

/-- `script_pubkey` then `from_script`: every address with a standard payload comes back, key and network included -/
theorem script_pubkey_then_from_script (a : Address) (h : PayloadStd a.payload) :
    ∃ s, scriptPubkey a = some s ∧ fromScript s a.blinder a.params = some a := by
  obtain ⟨hstd, hback⟩ := standard_of_payloadStd a.payload h
  refine ⟨_, (script_pubkey_bridge a).trans (Proofs.ScriptAddress.scriptPubkey_standard hstd), ?_⟩
  rw [fromScript_eq, Proofs.ScriptAddress.fromScript_pattern hstd, Option.map_some, toAddress, hback]

/-- `p2wpkh` / `p2shwpkh` insist on a compressed key (they panic otherwise); `p2pkh` does not -/
theorem segwit_key_must_be_compressed (H : CtorHashes) (pk : BtcKey) (bl : Option (List Nat)) (p : Gen.AddrParamsB) :
    (pk.compressed = false → p2wpkh H pk bl p = .panic Gen.p2wpkhExpectMsg ∧ p2shwpkh H pk bl p = .panic Gen.p2wpkhExpectMsg) ∧
    (pk.compressed = true → p2wpkh H pk bl p = .ok ⟨p, .wit 0 (natsOfBytes (H.hash160 pk.ser)), bl⟩) ∧
    (p2pkh H pk bl p = ⟨p, .pkh (natsOfBytes (H.hash160 pk.ser)), bl⟩) := by
  refine ⟨fun h => ?_, fun h => ?_, rfl⟩
  · simp [p2wpkh, p2shwpkh, wpubkeyHash, h]
  · simp [p2wpkh, wpubkeyHash, h, version_consts.1]

/-- the nested forms wrap the native ones: `p2shwpkh` is `p2sh` of the `script_pubkey` of `p2wpkh`, `p2shwsh` is
    `p2sh` of the `script_pubkey` of `p2wsh` (same key / script, blinding key, network) -/
theorem nested_wraps_native (H : CtorHashes) (pk : BtcKey) (script : Bytes) (bl : Option (List Nat)) (p : Gen.AddrParamsB) :
    (∀ w s, p2wpkh H pk bl p = .ok w → scriptPubkey w = some s → p2shwpkh H pk bl p = .ok (p2sh H s bl p)) ∧
    (∀ s, scriptPubkey (p2wsh H script bl p) = some s → p2shwsh H script bl p = .ok (p2sh H s bl p)) := by
  constructor
  · intro w s hw hs
    unfold p2wpkh at hw
    unfold p2shwpkh
    cases hh : wpubkeyHash H pk with
    | none =>
      rw [hh] at hw
      cases hw
    | some hash =>
      rw [hh] at hw
      simp only [Res.ok.injEq] at hw
      subst hw
      simp only [scriptPubkey, Payload.toScript, version_consts.1, natsOfBytes_eq, bytesOfNats_eq, ofNats_toNats] at hs
      simp only [nested_consts.1, nestedScript_eq, hs, p2sh]
  · intro s hs
    unfold p2shwsh
    simp only [scriptPubkey, p2wsh, Payload.toScript, version_consts.2.1, natsOfBytes_eq, bytesOfNats_eq, ofNats_toNats] at hs
    simp only [nested_consts.2, nestedScript_eq, hs, p2sh]

/-- with hash functions of the right output lengths (20 / 32 bytes) every constructor returns a standard address
    on a built-in network, so sections (a)–(c) and `addr_roundtrip` apply to it -/
theorem constructors_standard (H : CtorHashes) (h160 : ∀ x, (H.hash160 x).length = 20) (h256 : ∀ x, (H.sha256 x).length = 32)
    (pk : BtcKey) (script : Bytes) (bl : Option (List Nat)) (p : Gen.AddrParamsB) (hp : p ∈ Gen.allParamsB)
    (hb : BlinderOk P bl) :
    WF P (p2pkh H pk bl p) ∧ WF P (p2sh H script bl p) ∧ WF P (p2wsh H script bl p) ∧
    (∀ a, p2wpkh H pk bl p = .ok a → WF P a) ∧ (∀ a, p2shwpkh H pk bl p = .ok a → WF P a) ∧
    (∀ a, p2shwsh H script bl p = .ok a → WF P a) := by
  -- every constructor builds `toAddress` of a C16 payload, standard by the length of the hash
  have hsh : ∀ x, WF P (p2sh H x bl p) := fun x => wf_toAddress P (.scriptHash (H.hash160 x)) (h160 x) p hp bl hb
  have hw : ∀ b : Bytes, b.length = 20 ∨ b.length = 32 → WF P ⟨p, .wit 0 (natsOfBytes b), bl⟩ := fun b h =>
    wf_toAddress P (.witnessProgram 0 b) (Or.inl ⟨rfl, h⟩) p hp bl hb
  have hwsh : WF P (p2wsh H script bl p) := by
    show WF P ⟨p, .wit (fe32OfChar Gen.p2wshVersionChar) _, bl⟩
    rw [version_consts.2.1]
    exact hw _ (Or.inr (h256 _))
  obtain ⟨hunc, hcomp, _⟩ := segwit_key_must_be_compressed H pk bl p
  obtain ⟨nest1, nest2⟩ := nested_wraps_native H pk script bl p
  refine ⟨wf_toAddress P (.pubkeyHash (H.hash160 pk.ser)) (h160 _) p hp bl hb, hsh _, hwsh, fun a ha => ?_,
    fun a ha => ?_, fun a ha => ?_⟩
  · cases hc : pk.compressed with
    | false =>
      rw [(hunc hc).1] at ha
      cases ha
    | true =>
      obtain rfl := Res.ok.inj ((hcomp hc).symm.trans ha)
      exact hw _ (Or.inl (h160 _))
  · cases hc : pk.compressed with
    | false =>
      rw [(hunc hc).2] at ha
      cases ha
    | true =>
      obtain ⟨s, hs, _⟩ := script_pubkey_then_from_script _ (hw _ (Or.inl (h160 pk.ser))).payload
      obtain rfl := Res.ok.inj ((nest1 _ s (hcomp hc) hs).symm.trans ha)
      exact hsh s
  · obtain ⟨s, hs, _⟩ := script_pubkey_then_from_script _ hwsh.payload
    obtain rfl := Res.ok.inj ((nest2 s hs).symm.trans ha)
    exact hsh s

/-- the extracted constants of this section are what the model's statements assume: `is_liquid` names LIQUID,
    `AddressParams` has exactly the five compared fields, `Fe32::Q` = 0 (p2wpkh, p2wsh) and `Fe32::P` = 1 (p2tr,
    p2tr_tweaked), the nested forms push 0 -/
theorem ops_constants :
    Gen.isLiquidParams = Gen.paramsLiquidB ∧
    Gen.addressParamsFields.map (·.1) = ["p2pkh_prefix", "p2sh_prefix", "blinded_prefix", "bech_hrp", "blech_hrp"] ∧
    fe32OfChar Gen.p2wpkhVersionChar = 0 ∧ fe32OfChar Gen.p2wshVersionChar = 0 ∧
    fe32OfChar Gen.p2trVersionChar = 1 ∧ fe32OfChar Gen.p2trTweakedVersionChar = 1 ∧
    Gen.p2shwpkhPushInt = 0 ∧ Gen.p2shwshPushInt = 0 := by
  refine ⟨rfl, rfl, version_consts.1, version_consts.2.1, version_consts.2.2.1, version_consts.2.2.2,
    nested_consts.1, nested_consts.2⟩

/-- an always-accepting key parser, a standard blinded and unblinded address, an admissible key -/
example : let P0 : Prims := { sha256d := fun _ => [], validPk := fun _ => true }
    WF P0 { params := Gen.paramsLiquidTestnetB, payload := .sh (List.replicate 20 9), blinder := none } ∧
    BlinderOk P0 (some (List.replicate 33 2)) ∧
    (Payload.sh (List.replicate 20 9)).isSegwit = false ∧ (Payload.wit 1 (List.replicate 32 7)).isSegwit = true :=
  ⟨⟨.tail _ (.tail _ (.head _)), ⟨rfl, by intro b hb; rw [List.mem_replicate] at hb; omega⟩, trivial⟩,
   ⟨rfl, rfl, by intro b hb; rw [List.mem_replicate] at hb; omega⟩, rfl, rfl⟩

/-- `is_liquid_iff` / `is_liquid_as_coded`: true on LIQUID, false on the other two, true on a parameter set that
    is not one of the three constants but has LIQUID's values (another name, upper-case hrps) -/
example : isLiquid ⟨Gen.paramsLiquidB, .pkh [], none⟩ = true ∧ isLiquid ⟨Gen.paramsElementsB, .pkh [], none⟩ = false ∧
    isLiquid ⟨Gen.paramsLiquidTestnetB, .pkh [], none⟩ = false ∧
    isLiquid ⟨{ Gen.paramsLiquidB with name := "custom", bechHrp := [69, 88], blechHrp := [76, 81] }, .pkh [], none⟩ = true ∧
    isLiquid ⟨{ Gen.paramsLiquidB with blinded := 13 }, .pkh [], none⟩ = false := by decide

/-- `p2tr_*`: a 32-byte key; an EC record under which `tap_tweak` succeeds; `new_key_spend` succeeds -/
example : (List.replicate 32 (5 : UInt8)).length = 32 ∧
    let E : Taproot.EC := ⟨fun _ => true, fun _ => true, fun _ _ => some (List.replicate 32 6, true), fun _ _ _ _ => true⟩
    let H : Taproot.TapHashes := ⟨id, id, id⟩
    Taproot.tapTweak E H (List.replicate 32 5) none = .ok (List.replicate 32 6, true) ∧
    (∃ si, Taproot.newKeySpend E H (List.replicate 32 5) none = .ok si) ∧
    p2tr E H (List.replicate 32 5) none none Gen.paramsElementsB
      = .ok ⟨Gen.paramsElementsB, .wit 1 (List.replicate 32 6), none⟩ :=
  ⟨rfl, rfl, ⟨_, rfl⟩, rfl⟩

/-- `from_script_then_script_pubkey`, `nested_wraps_native`, `constructors_standard`: a script with an address;
    hash functions of the right lengths; a compressed key for which `p2wpkh` succeeds and has a script -/
example : fromScript (Taproot.p2trScript (List.replicate 32 1)) none Gen.paramsLiquidB
      = some ⟨Gen.paramsLiquidB, .wit 1 (List.replicate 32 1), none⟩ ∧
    let H : CtorHashes := ⟨fun _ => List.replicate 20 3, fun _ => List.replicate 32 4⟩
    (∀ x, (H.hash160 x).length = 20) ∧ (∀ x, (H.sha256 x).length = 32) ∧
    (p2wpkh H ⟨true, List.replicate 33 2⟩ none Gen.paramsLiquidB = .ok ⟨Gen.paramsLiquidB, .wit 0 (List.replicate 20 3), none⟩ ∧
      scriptPubkey ⟨Gen.paramsLiquidB, .wit 0 (List.replicate 20 3), none⟩ = some (0x00 :: 0x14 :: List.replicate 20 3)) ∧
    scriptPubkey (p2wsh H [0x51] none Gen.paramsLiquidB) = some (0x00 :: 0x20 :: List.replicate 32 4) :=
  ⟨rfl, fun _ => rfl, fun _ => rfl, ⟨rfl, rfl⟩, rfl⟩

end ops

/-! ## bridge to C17: corruptions of a DISPLAYED address are rejected

  The round-trip theorems above and the detection theorems of C17 are about the same parser, so C17's
  `corrupted_address_rejected` applies to the strings `Display` produces: `displayHrp a`, separator, `dataPart a` =
  the characters of `segSyms a` (version, regrouped payload, checksum). -/
section bridgeC17
open EV.Bech32.Code

/-- what `Display` prints for a standard segwit address: the network's hrp (blech32 one when blinded), `'1'`, and the
    data characters — all of them lower-case characters of the bech32 alphabet, reading back to the symbols `segSyms a` -/
theorem display_segwit_shape (a : Address) (h : WF P a) (hs : a.payload.isSegwit = true) :
    display P a = displayHrp a ++ 49 :: dataPart a ∧
    (∀ c ∈ dataPart a, (fromChar c).isSome = true ∧ isUpper c = false) ∧ (dataPart a).map sym = segSyms a :=
  ⟨display_shape_wf P a h hs, dataPart_clean P a h, dataPart_syms P a h⟩

/-- C17's length bounds (same variant: 1023 symbols; switched variant: 100 symbols for bech32/bech32m, 140 for
    blech32/blech32m; hrp expansion included) hold for every standard address -/
theorem display_within_checksum_bounds (a : Address) (h : WF P a) (hs : a.payload.isSegwit = true) :
    (hrpExpand (displayHrp a) ++ segSyms a).length ≤ (segFlavor a).switchBound ∧ (segFlavor a).switchBound ≤ 1023 := by
  obtain ⟨_, hfb⟩ := fromBech32_display P a h hs false
  rw [map_cmap_false, display_shape_wf P a h hs] at hfb
  obtain ⟨seg, hseg, _⟩ := (fromBech32_post P _ _ _).of_ok hfb
  have h3 := (hrps_ok _ (displayHrp_mem a h.net)).2.1
  have hin := symbols_within_bound _ (flavor_of _) _ _ seg hseg (Nat.le_succ_of_le h3)
    fun c hc => (dataPart_clean P a h c hc).1
  rw [dataPart_syms P a h, ← segFlavor_eq] at hin
  refine ⟨hin, ?_⟩
  rw [segFlavor_eq]
  cases a.blinder.isSome <;> decide

/-- **Alphabet replacements.** For a standard segwit address `a` on a built-in network: a string that differs
    from `display a` in one or two characters of the data part — the replacement characters being alphabet characters
    of a different symbol value, the witness-version character included — is rejected by `from_str`, by
    `parse_with_params` of `a`'s network, and by `parse_with_params` of any network unless the whole string happens to be
    a valid base58check string. `hlen` says that as many characters are put back as were there; C17's bound on the
    total length is not a hypothesis, it holds for every standard address (`display_within_checksum_bounds`) -/
theorem corrupted_display_rejected (a : Address) (h : WF P a) (hs : a.payload.isSegwit = true)
    (d' : Text) (hd' : ∀ c ∈ d', (fromChar c).isSome = true) (hlen : d'.length = (dataPart a).length)
    (h1 : 1 ≤ diffCount (segSyms a) (d'.map sym)) (h2 : diffCount (segSyms a) (d'.map sym) ≤ 2) :
    (∃ k, fromStr P (displayHrp a ++ 49 :: d') = .err k) ∧
    (∃ k, parseWithParams P (displayHrp a ++ 49 :: d') a.params = .err k) ∧
    (∀ q ∈ Gen.allParamsB, (∃ k, parseWithParams P (displayHrp a ++ 49 :: d') q = .err k) ∨
      (decodeCheck P.sha256d (displayHrp a ++ 49 :: d')).isSome = true) :=
  EV.Addr.corrupted_display_rejected P a h hs d' hd' hlen h1 h2

/-- **Arbitrary replacements.** `from_str` and `parse_with_params` of `a`'s network also reject ANY string that
    differs from `display a` in one or two characters of the data part (`diffCount` counts differing character
    positions), whatever the replacement bytes are —
    another alphabet character (checksum mismatch), an upper-case letter (mixed case), a non-alphabet or non-ASCII byte
    (invalid character) — as long as no replacement is the separator `'1'` itself (that moves the separator; that case
    is not treated here) -/
theorem corrupted_display_rejected_any (a : Address) (h : WF P a) (hs : a.payload.isSegwit = true)
    (d' : Text) (hlen : d'.length = (dataPart a).length) (hsep : ∀ c ∈ d', c ≠ 49)
    (h1 : 1 ≤ diffCount (dataPart a) d') (h2 : diffCount (dataPart a) d' ≤ 2) :
    (∃ k, fromStr P (displayHrp a ++ 49 :: d') = .err k) ∧
    (∃ k, parseWithParams P (displayHrp a ++ 49 :: d') a.params = .err k) :=
  EV.Addr.corrupted_display_rejected_any P a h hs d' hlen hsep h1 h2

/-- the hypotheses are satisfiable: a standard v0 address on LIQUID, its data part with the first character after the
    version replaced by another alphabet character (`corrupted_display_rejected`), by an upper-case letter and by a
    non-alphabet byte (`corrupted_display_rejected_any`) -/
example : let P0 : Prims := { sha256d := fun _ => [], validPk := fun _ => true }
    let a : Address := { params := Gen.paramsLiquidB, payload := .wit 0 (List.replicate 20 7), blinder := none }
    WF P0 a ∧ a.payload.isSegwit = true ∧
    (∀ x ∈ [112, 80, 98], ((dataPart a).set 1 x).length = (dataPart a).length ∧ (∀ c ∈ (dataPart a).set 1 x, c ≠ 49) ∧
      diffCount (dataPart a) ((dataPart a).set 1 x) = 1) ∧
    (∀ c ∈ (dataPart a).set 1 112, (fromChar c).isSome = true) ∧
    diffCount (segSyms a) (((dataPart a).set 1 112).map sym) = 1 := by
  refine ⟨⟨.head _, ⟨by decide, by decide, by decide, by decide, by intro b hb; rw [List.mem_replicate] at hb; omega⟩,
    trivial⟩, rfl, by decide +kernel⟩

end bridgeC17

end EV.Props.C06
