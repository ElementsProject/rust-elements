/-
  C13 — a sighash cache answers every query as a fresh one would, in any order.

  Model: `EV/Model/SighashCache.lean` — `SighashCache` as a state machine: three lazily filled slots
  (`common_cache`, `segwit_cache`, `taproot_cache`), the three query kinds threading the cache in the
  order of the code (including what is filled before an error or a panic), `witness_mut` as an
  update of one input's script witness.  `fresh H tx q` is the cache-free function of C03.
  `CacheInv H tx ps c`: every filled slot equals the value computed from `tx` (and, for the taproot
  slot, from the spent outputs `ps`).  A history is "consistent" when all its `Prevouts::All`
  queries pass the same list `ps` (`Op.usesAll ps`); `Prevouts::One` queries are unconstrained.
-/
import EV.Proofs.SighashCacheProofs
import EV.Proofs.BridgeCacheSpec
import EV.Props.C03
namespace EV.Props.C13
open EV EV.Codec EV.Sighash

variable (H : SigHashes)

theorem cache_inv_empty (tx : Tx) (ps : List TxOut) : CacheInv H tx ps Cache.empty := by
  refine ⟨?_, ?_, ?_⟩ <;> intro x h <;> cases h

/-- the invariant is preserved by every query (legacy, segwit, taproot general / key /
    script, with `All ps` or `One`, successful or not) and by `witness_mut`, which exposes exactly
    the `script_witness` of one input — a field no cached hash reads (the taproot slot DOES hash
    the issuance range proofs and output witnesses; those cannot be changed through the cache) -/
theorem cache_inv (ps : List TxOut) (s : State) (op : Op) (hop : op.usesAll ps)
    (hc : CacheInv H s.tx ps s.cache) :
    CacheInv H (step H s op).1.tx ps (step H s op).1.cache := by
  cases op with
  | q q => exact (query_sound H s.tx ps q hop s.cache hc).1
  | w idx st =>
    simp only [step]
    split
    · exact cacheInv_setScriptWitness H s.tx ps s.cache idx st hc
    · exact hc

/-- one query against any cache state satisfying the invariant returns what a fresh cache returns -/
theorem query_as_fresh (tx : Tx) (ps : List TxOut) (q : Query) (hq : q.usesAll ps) (c : Cache)
    (hc : CacheInv H tx ps c) : (query H tx q c).2 = fresh H tx q :=
  (query_sound H tx ps q hq c hc).2

/-- `fresh` is literally "create a cache, ask one question" -/
theorem fresh_is_query_on_new_cache (tx : Tx) (q : Query) : (query H tx q Cache.empty).2 = fresh H tx q := by
  cases q with
  | legacy i s t => exact (query_sound H tx [] (.legacy i s t) trivial _ (cache_inv_empty H tx [])).2
  | segwit i s v t => exact (query_sound H tx [] (.segwit i s v t) trivial _ (cache_inv_empty H tx [])).2
  | taproot i pv a l t g =>
    cases pv with
    | one j p => exact (query_sound H tx [] (.taproot i (.one j p) a l t g) trivial _ (cache_inv_empty H tx [])).2
    | all ps => exact (query_sound H tx ps (.taproot i (.all ps) a l t g) rfl _ (cache_inv_empty H tx ps)).2

/-- ANY finite history of queries and `witness_mut` updates on one cache object, in any order, with
    repetitions, returns for each query exactly what a freshly created cache returns for that query
    alone over the transaction as it is at that point -/
theorem cache_refines_current (tx : Tx) (ps : List TxOut) (ops : List Op) (hops : ∀ o ∈ ops, o.usesAll ps) :
    run H ⟨tx, Cache.empty⟩ ops = runFresh H tx ops :=
  run_eq_runFresh H tx ps ops hops Cache.empty (cache_inv_empty H tx ps)

/-- … and what a freshly created cache over the ORIGINAL transaction returns for that query alone: filling in
    script witnesses between queries changes no answer -/
theorem cache_refines (tx : Tx) (ps : List TxOut) (ops : List Op) (hops : ∀ o ∈ ops, o.usesAll ps) :
    run H ⟨tx, Cache.empty⟩ ops = runOriginal H tx ops := by
  rw [cache_refines_current H tx ps ops hops, runFresh_eq_runOriginal]

/-- for histories of queries only: `results = qs.map (fun q => (query empty q).2)` -/
theorem cache_refines_queries (tx : Tx) (ps : List TxOut) (qs : List Query) (hqs : ∀ q ∈ qs, q.usesAll ps) :
    run H ⟨tx, Cache.empty⟩ (qs.map Op.q) = qs.map (fun q => Out.digest (query H tx q Cache.empty).2) := by
  rw [cache_refines H tx ps (qs.map Op.q) (List.forall_mem_map.mpr hqs), runOriginal_eq_map, List.map_map]
  exact List.map_congr_left fun q _ => congrArg Out.digest (fresh_is_query_on_new_cache H tx q).symm

/-- no signature hash depends on a script witness -/
theorem witness_mut_irrelevant (tx : Tx) (i : Nat) (st : List Bytes) (q : Query) :
    fresh H (setScriptWitness tx i st) q = fresh H tx q :=
  fresh_setScriptWitness H tx i st q

/-- for every hash type with ANYONECANPAY (ALL|ANYONECANPAY included, for which the crate returned
    `PrevoutKind` until its commit 300f5ff), supplying only the spent output of the signed input gives the same message, hence the same
    digest, as supplying all of them — on a fresh cache and on any cache state of a consistent
    history -/
theorem one_suffices (tx : Tx) (ps : List TxOut) (idx : Nat) (p : TxOut) (annex : Option Bytes)
    (leaf : Option (Bytes × Nat)) (ty : SchnorrTy) (g : Bytes)
    (hty : ty.acp = true) (hlen : ps.length = tx.input.length) (hp : ps[idx]? = some p) :
    taprootSighash H tx idx (.one idx p) annex leaf ty g = taprootSighash H tx idx (.all ps) annex leaf ty g ∧
    ∀ c, CacheInv H tx ps c →
      (query H tx (.taproot idx (.one idx p) annex leaf ty g) c).2 =
      (query H tx (.taproot idx (.all ps) annex leaf ty g) c).2 := by
  have hag : taprootAgree ty idx tx tx (.one idx p) (.all ps) := by
    refine ⟨rfl, rfl, ?_, ?_, by simp only [ite_self]⟩
    · simp only [Prevouts.checkAll, hlen, ne_eq, not_true_eq_false, if_false]
    · simp only [hty, if_true, Prevouts.get, hp, true_and, implies_true]
  have hd := (C03.taproot_ignores H ty idx annex leaf g tx tx _ _ hag).2
  refine ⟨hd, fun c hc => ?_⟩
  rw [(query_sound H tx ps (.taproot idx (.one idx p) annex leaf ty g) trivial c hc).2,
    (query_sound H tx ps (.taproot idx (.all ps) annex leaf ty g) rfl c hc).2]
  exact hd

/-- a hash type without ANYONECANPAY with a single spent output is reported
    as `PrevoutKind` — whatever the index, annex, leaf, and cache state -/
theorem one_insufficient_err (tx : Tx) (ps : List TxOut) (idx j : Nat) (p : TxOut) (annex : Option Bytes)
    (leaf : Option (Bytes × Nat)) (ty : SchnorrTy) (g : Bytes) (hty : ty.acp = false) :
    taprootSighash H tx idx (.one j p) annex leaf ty g = .err ePrevoutKind ∧
    ∀ c, CacheInv H tx ps c → (query H tx (.taproot idx (.one j p) annex leaf ty g) c).2 = .err ePrevoutKind := by
  have h : msgTaproot H tx idx (.one j p) annex leaf ty g = .err ePrevoutKind := by
    simp only [msgTaproot, Prevouts.checkAll, tapInsPart, hty, Prevouts.getAll, Res.bind]
    rfl
  have hd : taprootSighash H tx idx (.one j p) annex leaf ty g = .err ePrevoutKind := by
    simp only [taprootSighash, h, Res.map, Res.bind]
  refine ⟨hd, fun c hc => ?_⟩
  rw [(query_sound H tx ps (.taproot idx (.one j p) annex leaf ty g) trivial c hc).2]
  exact hd

/-! ### non-vacuity -/

example : (run ⟨fun b => b.take 32, fun b => b.take 32, fun _ b => b.take 32⟩
    ⟨⟨2, 0, [⟨⟨List.replicate 32 1, 0⟩, false, [], 5, AssetIssuance.null, TxInWitness.empty⟩], []⟩, Cache.empty⟩
    [.q (.segwit 0 [] .null .all), .w 0 [[1]], .q (.segwit 0 [] .null .all), .w 3 []]).length = 4 := by decide

/-! ### bridge to C03: every digest a used cache returns is the SPECIFICATION digest

  `query_as_fresh` (a used cache answers like the cache-free functions of src/sighash.rs) composed with C03's
  `legacy_digest_refines`, `segwit_msg_refines`, `taproot_msg_refines` (`specDigest`: Core's `SignatureHash(BASE)`,
  BIP143 + issuance, Elements taproot), on `Query.Covered n`: the signed input exists (legacy, segwit v0) / the
  taproot hash type is one of the seven `from_u8` yields. -/

/-- the three `…_refines` theorems of C03 as one -/
theorem fresh_equals_spec (hd : Dbl H) (tx : Tx) (q : Query) (hq : q.Covered tx.input.length) :
    fresh H tx q = specDigest H tx q := fresh_eq_specDigest H hd tx q hq

/-- outside `Covered` — legacy / segwit v0 on an input that does not exist — code and specification both abort
    (the documented panic / Core's `assert(nIn < txTo.vin.size())`) -/
theorem uncovered_query_both_abort (tx : Tx) (q : Query)
    (hty : ∀ i pv a l ty g, q = .taproot i pv a l ty g → ty ≠ .reserved) (hq : ¬ q.Covered tx.input.length) :
    (∃ s, fresh H tx q = .panic s) ∧ (∃ s, specDigest H tx q = .panic s) := by
  cases q with
  | legacy idx script ty =>
    obtain ⟨_, _, h3, h4⟩ := C03.legacy_out_of_range_panics H tx idx script ty hq
    exact ⟨h3, h4⟩
  | segwit idx sc v ty =>
    obtain ⟨⟨s, h1⟩, s', h2⟩ := C03.segwit_out_of_range_panics H tx idx sc v ty hq
    refine ⟨⟨s, ?_⟩, ⟨s', ?_⟩⟩
    · simp only [fresh, segwitSighash, h1, Res.map, Res.bind]
    · simp only [specDigest, h2, Res.map, Res.bind]
  | taproot idx pv annex leaf ty g => exact absurd (hty _ _ _ _ _ _ rfl) hq

/-- one query against a cache in any state satisfying the invariant (new, or
    used by any consistent history) returns the specification digest (or the specification's error) -/
theorem used_cache_returns_spec_digest (hd : Dbl H) (tx : Tx) (ps : List TxOut) (q : Query) (hu : q.usesAll ps)
    (hq : q.Covered tx.input.length) (c : Cache) (hc : CacheInv H tx ps c) :
    (query H tx q c).2 = specDigest H tx q := by
  rw [(query_sound H tx ps q hu c hc).2, fresh_eq_specDigest H hd tx q hq]

/-- ANY finite history of queries and `witness_mut` updates on one cache object — new
    or already used —, in any order, with repetitions, returns operation by operation what the specifications
    prescribe over the ORIGINAL transaction; in particular every digest in the history is a specification digest -/
theorem cache_history_equals_spec (hd : Dbl H) (tx : Tx) (ps : List TxOut) (ops : List Op)
    (hu : ∀ o ∈ ops, o.usesAll ps) (hcov : ∀ o ∈ ops, o.Covered tx.input.length) (c : Cache) (hc : CacheInv H tx ps c) :
    run H ⟨tx, c⟩ ops = ops.map (specOut H tx) ∧
    ∀ (k : Nat) (q : Query), ops[k]? = some (Op.q q) →
      (run H ⟨tx, c⟩ ops)[k]? = some (Out.digest (specDigest H tx q)) := by
  have h : run H ⟨tx, c⟩ ops = ops.map (specOut H tx) := by
    rw [run_eq_runFresh H tx ps ops hu c hc, runFresh_eq_runOriginal, runOriginal_eq_spec H hd tx ops hcov]
  refine ⟨h, fun k q hk => ?_⟩
  rw [h, List.getElem?_map, hk]
  rfl

/-- `Dbl` is satisfiable: a hash record with `sha256d = sha256 ∘ sha256` -/
example : ∃ H : SigHashes, Dbl H := ⟨⟨fun b => b.take 32, fun b => b.take 32, fun _ b => b.take 32⟩, fun x => by
  simp only [List.take_take, Nat.min_self]⟩

/-- the hypotheses on a history are satisfiable: a covered, consistent one (segwit, taproot and legacy queries, a
    `witness_mut` after the first) on the transaction of the first example -/
example :
    let tx : Tx := ⟨2, 0, [⟨⟨List.replicate 32 1, 0⟩, false, [], 5, AssetIssuance.null, TxInWitness.empty⟩], []⟩
    let ops : List Op := [.q (.segwit 0 [] .null .all), .w 0 [[1]], .q (.taproot 0 (.all [txOutDefault]) none none .default []),
      .q (.legacy 0 [] .single)]
    (∀ o ∈ ops, o.usesAll [txOutDefault]) ∧ (∀ o ∈ ops, o.Covered tx.input.length) := by
  refine ⟨?_, ?_⟩ <;> intro o ho <;> simp only [List.mem_cons, List.mem_nil_iff, or_false] at ho <;>
    rcases ho with rfl | rfl | rfl | rfl <;> simp [Op.usesAll, Query.usesAll, Op.Covered, Query.Covered]

end EV.Props.C13
