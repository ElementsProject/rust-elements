/-
  C11 — asset and token ids follow the issuance derivation in every representation.

  `H.sha256d`, `H.comb` (SHA-256 compression of `l ‖ r` from the initial state) and the
  single SHA-256 of the JSON clause are parameters; `none` would be a panic of the Rust code.
  All byte strings are the in-memory arrays (`to_byte_array`), which is what is hashed;
  `AssetId` / `AssetEntropy` / `ContractHash` merely *display* reversed.
  The `kernelHashes` of §7(d) is declared in EV.Proofs.KernelHashes, in the namespace `EV.Proofs.GenesisKernel`.
-/
import EV.Proofs.CodecPrim
import EV.Proofs.CodecTx
import EV.Proofs.Text
import EV.Proofs.Genesis
import EV.Proofs.Issuance
import EV.Proofs.Json
import EV.Proofs.JsonText
import EV.Proofs.IssuanceBridge
import EV.Proofs.PeggedAsset
import EV.Proofs.PeggedAssetKernel
import EV.Proofs.BridgeIssuanceBlind
namespace EV.Props.C11
open EV EV.Codec EV.Issuance

/-- two different inputs with the same hash, exhibited -/
def Collision (f : Bytes → Bytes) : Prop := ∃ x y, x ≠ y ∧ f x = f y

/-- the same for the two-to-one compression function -/
def Collision2 (g : Bytes → Bytes → Bytes) : Prop := ∃ a b c d, (a, b) ≠ (c, d) ∧ g a b = g c d

variable (P : Prims) (H : Hashes)

/-! ## 1. the derivation (src/issuance.rs) -/

/-- entropy of a new issuance: `comb (sha256d (txid ‖ vout_le32)) contract_hash` — the fast merkle
    root of the two leaves, evaluated as coded -/
theorem entropy_formula (o : OutPoint) (c : Bytes) :
    generateAssetEntropy H o c = some (H.comb (H.sha256d (o.txid ++ encLe 4 o.vout)) c) :=
  EV.Proofs.Issuance.entropy_eq H o c

/-- asset id = `comb entropy 0^32` (leaf constant re-read from the Rust source) -/
theorem asset_id_formula (e : Bytes) : fromEntropy H e = some (H.comb e (List.replicate 32 0)) := by
  rw [EV.Proofs.Issuance.fromEntropy_eq, EV.Proofs.Issuance.assetLeaf_eq]

/-- token id = `comb entropy k`, `k` = 32 bytes with first byte 1 (explicit issuance amount) or
    2 (confidential issuance amount), the rest zero -/
theorem token_id_formula (e : Bytes) (confidential : Bool) :
    reissuanceTokenFromEntropy H e confidential =
      some (H.comb e ((if confidential then 2 else 1) :: List.replicate 31 0)) := by
  rw [EV.Proofs.Issuance.token_eq, EV.Proofs.Issuance.tokenLeaf_eq]

/-- `AssetId::new_issuance` / `new_reissuance_token` compose the above -/
theorem new_issuance_formula (o : OutPoint) (c : Bytes) :
    newIssuance H o c = some (H.comb (H.comb (H.sha256d (o.txid ++ encLe 4 o.vout)) c) (List.replicate 32 0)) := by
  simp only [newIssuance, entropy_formula, asset_id_formula]

theorem new_reissuance_token_formula (o : OutPoint) (c : Bytes) (confidential : Bool) :
    newReissuanceToken H o c confidential =
      some (H.comb (H.comb (H.sha256d (o.txid ++ encLe 4 o.vout)) c) ((if confidential then 2 else 1) :: List.replicate 31 0)) := by
  simp only [newReissuanceToken, entropy_formula, token_id_formula]

/-- `TxIn::issuance_ids`, new issuance (zero blinding nonce): the entropy is derived from the stored
    outpoint (plain index) and the `asset_entropy` field read as contract hash -/
theorem ids_formula (i : TxIn) (h : i.assetIssuance.nonce = Issuance.zero32) :
    i.issuanceIds H =
      let e := H.comb (H.sha256d (i.previousOutput.txid ++ encLe 4 i.previousOutput.vout)) i.assetIssuance.entropy
      some (H.comb e (List.replicate 32 0),
            H.comb e ((if i.assetIssuance.amount.isConf then 2 else 1) :: List.replicate 31 0)) := by
  simp only [EV.Proofs.Issuance.txin_ids_eq, EV.Proofs.Issuance.assetLeaf_eq, EV.Proofs.Issuance.tokenLeaf_eq,
    EV.Proofs.Issuance.entropyOf, h, if_true]

/-- `TxIn::issuance_ids`, reissuance (non-zero nonce): the entropy is the one carried in the input -/
theorem ids_formula_reissuance (i : TxIn) (h : i.assetIssuance.nonce ≠ Issuance.zero32) :
    i.issuanceIds H =
      some (H.comb i.assetIssuance.entropy (List.replicate 32 0),
            H.comb i.assetIssuance.entropy ((if i.assetIssuance.amount.isConf then 2 else 1) :: List.replicate 31 0)) := by
  simp only [EV.Proofs.Issuance.txin_ids_eq, EV.Proofs.Issuance.assetLeaf_eq, EV.Proofs.Issuance.tokenLeaf_eq,
    EV.Proofs.Issuance.entropyOf, h, if_false]

/-- `pset::Input::issuance_ids`: same layout, from the optional fields (absent = zero), the index with
    the flag bits removed, "blinded" = a value commitment is present -/
theorem ids_formula_pset (p : IssPsetInput) :
    p.issuanceIds H =
      let e := if p.issuanceBlindingNonce.getD Issuance.zero32 = Issuance.zero32
        then H.comb (H.sha256d (p.previousTxid ++ encLe 4 (IssPsetInput.plainIndex p.previousOutputIndex)))
                    (p.issuanceAssetEntropy.getD Issuance.zero32)
        else p.issuanceAssetEntropy.getD Issuance.zero32
      some (H.comb e (List.replicate 32 0),
            H.comb e ((if p.issuanceValueComm.isSome then 2 else 1) :: List.replicate 31 0)) := by
  rw [EV.Proofs.Issuance.pset_ids_eq, EV.Proofs.Issuance.assetLeaf_eq, EV.Proofs.Issuance.tokenLeaf_eq]
  rfl

/-- none of the id computations panics -/
theorem ids_no_panic (i : TxIn) (p : IssPsetInput) : i.issuanceIds H ≠ none ∧ p.issuanceIds H ≠ none := by
  rw [EV.Proofs.Issuance.txin_ids_eq, EV.Proofs.Issuance.pset_ids_eq]
  exact ⟨Option.some_ne_none _, Option.some_ne_none _⟩

/-! ## 2. the three representations agree -/

/-- The inputs for which agreement holds.  (a) the stored index is a real index (< 2^30; 2^30-1
    with both flags is excluded: `from_txin` folds it to 0xffffffff, the coinbase index, which by
    definition carries no flags) or the coinbase index; (b) an input *without* issuance
    (null amount and null inflation keys) has zero nonce and zero entropy — `from_txin` copies the
    issuance fields only when `has_issuance()`, while `TxIn::issuance_ids` "does not check whether
    there is an issuance" and reads them regardless. -/
def Canonical (t : TxIn) : Prop :=
  ((t.previousOutput.vout < 2^30 ∧ ¬ (t.previousOutput.vout = 2^30 - 1 ∧ t.isPegin = true ∧ t.hasIssuance = true)) ∨
    t.previousOutput.vout = 0xffffffff) ∧
  (t.hasIssuance = true ∨ (t.assetIssuance.nonce = Issuance.zero32 ∧ t.assetIssuance.entropy = Issuance.zero32))

/-- Main theorem: a transaction input, the PSET input built from it (`Input::from_txin`) and the input
    of the transaction extracted from that PSET (`extract_tx`) yield the same (asset id, token id):
    pegin or not, new issuance or reissuance, explicit / confidential / null amounts, any txid. -/
theorem ids_agree (t : TxIn) (h : Canonical t) :
    (IssPsetInput.fromTxin t).issuanceIds H = t.issuanceIds H ∧
    (IssPsetInput.extractIn (IssPsetInput.fromTxin t)).issuanceIds H = t.issuanceIds H :=
  ⟨EV.Proofs.IssuanceBridge.ids_agree_pset H t h.1 h.2,
   (EV.Proofs.Issuance.ids_extractIn H _).trans (EV.Proofs.IssuanceBridge.ids_agree_pset H t h.1 h.2)⟩

/-- every well-formed in-memory input (`wfBody` of C01) is canonical -/
theorem canonical_of_wf (t : TxIn) (h : t.wfBody P) : Canonical t := by
  obtain ⟨_, hv, _, _, hiss⟩ := h
  refine ⟨hv.imp_right And.left, ?_⟩
  cases hq : t.hasIssuance
  · rw [hq, if_neg Bool.false_ne_true] at hiss
    rw [hiss]
    exact Or.inr ⟨rfl, rfl⟩
  · exact Or.inl rfl

/-- in particular every input the consensus decoder returns is canonical -/
theorem canonical_of_decoded (bs rest : Bytes) (t : TxIn) (h : TxIn.dec P bs = .ok (t, rest)) : Canonical t :=
  canonical_of_wf P t ((EV.Proofs.CodecTx.txIn_lawful P).sound bs t rest h).2.1

theorem ids_agree_decoded (bs rest : Bytes) (t : TxIn) (h : TxIn.dec P bs = .ok (t, rest)) :
    (IssPsetInput.fromTxin t).issuanceIds H = t.issuanceIds H ∧
    (IssPsetInput.extractIn (IssPsetInput.fromTxin t)).issuanceIds H = t.issuanceIds H :=
  ids_agree H t (canonical_of_decoded P bs rest t h)

/-- what is behind `ids_agree`: for a `Canonical` input, outpoint and issuance survive TxIn → PSET input → extracted
    TxIn (the flags folded into the index by `from_txin` are stripped again) -/
theorem extract_keeps_outpoint_and_issuance (t : TxIn) (h : Canonical t) :
    (IssPsetInput.extractIn (IssPsetInput.fromTxin t)).previousOutput = t.previousOutput ∧
    (IssPsetInput.extractIn (IssPsetInput.fromTxin t)).assetIssuance = t.assetIssuance ∧
    (IssPsetInput.fromTxin t).assetIssuance = t.assetIssuance := by
  have hi := EV.Proofs.IssuanceBridge.assetIssuance_fromTxin t h.2
  refine ⟨?_, hi, hi⟩
  rw [EV.Proofs.IssuanceBridge.extractIn_fromTxin_outpoint]
  exact congrArg (OutPoint.mk _) (EV.Proofs.IssuanceBridge.plainIndex_word _ _ _ h.1)

/-- the pegin flag survives too, under another hypothesis than `Canonical`: nothing is asked of the issuance, but at
    the coinbase index the flag must be off (the coinbase word carries no flags, so a set flag is lost) -/
theorem extract_keeps_pegin (t : TxIn)
    (h : (t.previousOutput.vout < 2^30 ∧ ¬ (t.previousOutput.vout = 2^30 - 1 ∧ t.isPegin = true ∧ t.hasIssuance = true)) ∨
         (t.previousOutput.vout = 0xffffffff ∧ t.isPegin = false)) :
    (IssPsetInput.extractIn (IssPsetInput.fromTxin t)).isPegin = t.isPegin :=
  (EV.Proofs.IssuanceBridge.extractIn_fromTxin_isPegin t).trans (EV.Proofs.IssuanceBridge.pegin_word _ _ _ h)

/-- The excluded index, exactly: for index 2^30-1 with pegin *and* issuance the PSET input (and the
    extracted input) compute the ids of the outpoint with index 0xffffffff instead. -/
theorem ids_at_excluded_index (t : TxIn) (hv : t.previousOutput.vout = 2^30 - 1) (hp : t.isPegin = true)
    (hq : t.hasIssuance = true) :
    (IssPsetInput.fromTxin t).issuanceIds H =
      ({ t with previousOutput := ⟨t.previousOutput.txid, 0xffffffff⟩ } : TxIn).issuanceIds H := by
  rw [EV.Proofs.IssuanceBridge.ids_fromTxin, TxIn.voutWord, hv, hp, hq]
  rfl

/-- The other excluded inputs, exactly: an input *without* issuance (null amount and null inflation
    keys) that nevertheless carries a nonce or an entropy.  `TxIn::issuance_ids` reads them, the PSET
    input never receives them: it computes the ids of the same input with the default issuance. -/
theorem ids_without_issuance (t : TxIn) (hq : t.hasIssuance = false)
    (hv : t.previousOutput.vout < 2^30 ∨ t.previousOutput.vout = 0xffffffff) :
    (IssPsetInput.fromTxin t).issuanceIds H = ({ t with assetIssuance := AssetIssuance.null } : TxIn).issuanceIds H := by
  rw [EV.Proofs.IssuanceBridge.ids_fromTxin, TxIn.voutWord, hq,
    EV.Proofs.IssuanceBridge.plainIndex_word _ _ _ (hv.imp_left fun hv => ⟨hv, fun h => Bool.false_ne_true h.2.2⟩)]
  rfl

/-! ## 3. flag bits are irrelevant -/

/-- the PSET ids depend on the stored index only through the plain index: setting or clearing the
    pegin (bit 30) and issuance (bit 31) flags of a real index changes nothing -/
theorem ids_flag_bits_irrelevant (p : IssPsetInput) (idx : Nat) (pegin iss : Bool) (hidx : idx < 2^30)
    (hrep : ¬ (idx = 2^30 - 1 ∧ pegin = true ∧ iss = true)) :
    ({ p with previousOutputIndex := (idx ||| (if pegin then 2^30 else 0)) ||| (if iss then 2^31 else 0) } : IssPsetInput).issuanceIds H
      = ({ p with previousOutputIndex := idx } : IssPsetInput).issuanceIds H := by
  rw [EV.Proofs.Issuance.pset_ids_eq, EV.Proofs.Issuance.pset_ids_eq]
  simp only [EV.Proofs.IssuanceBridge.plainIndex_word idx pegin iss (Or.inl ⟨hidx, hrep⟩),
    EV.Proofs.Issuance.plainIndex_of_lt hidx]

/-- `TxIn::issuance_ids` does not look at the pegin flag, the script, the sequence or the witness -/
theorem ids_pegin_irrelevant (t : TxIn) (b : Bool) (s : Bytes) (q : Nat) (w : TxInWitness) :
    ({ t with isPegin := b, scriptSig := s, sequence := q, witness := w } : TxIn).issuanceIds H = t.issuanceIds H := rfl

/-! ## 4. the ids commit to outpoint and contract hash -/

/-- equal entropies ⇒ equal (outpoint, contract hash), or a collision is exhibited -/
theorem entropy_commit (o o' : OutPoint) (c c' : Bytes) (ho : o.wf) (ho' : o'.wf)
    (h : generateAssetEntropy H o c = generateAssetEntropy H o' c') :
    (o = o' ∧ c = c') ∨ Collision H.sha256d ∨ Collision2 H.comb := by
  rcases EV.Proofs.Issuance.entropy_inj H o o' c c' h with ⟨he, hc⟩ | hcomb
  · exact (EV.Proofs.Issuance.outpoint_commits H o o' ho ho' he).imp (fun e => ⟨e, hc⟩) .inl
  · exact .inr (.inr hcomb)

/-- the same for the asset ids of two new issuances -/
theorem ids_commit (o o' : OutPoint) (c c' : Bytes) (ho : o.wf) (ho' : o'.wf)
    (h : newIssuance H o c = newIssuance H o' c') :
    (o = o' ∧ c = c') ∨ Collision H.sha256d ∨ Collision2 H.comb :=
  (EV.Proofs.Issuance.newIssuance_entropy H o o' c c' h).elim (entropy_commit H o o' c c' ho ho') fun hcomb =>
    .inr (.inr hcomb)

/-- the same for inputs: two new-issuance inputs with the same asset id spend the same outpoint
    and carry the same contract hash -/
theorem ids_commit_txin (a b : TxIn) (ha : a.previousOutput.wf) (hb : b.previousOutput.wf)
    (hna : a.assetIssuance.nonce = Issuance.zero32) (hnb : b.assetIssuance.nonce = Issuance.zero32)
    (h : (a.issuanceIds H).map Prod.fst = (b.issuanceIds H).map Prod.fst) :
    (a.previousOutput = b.previousOutput ∧ a.assetIssuance.entropy = b.assetIssuance.entropy) ∨
      Collision H.sha256d ∨ Collision2 H.comb := by
  rw [ids_formula H a hna, ids_formula H b hnb] at h
  simp only [Option.map_some, Option.some.injEq] at h
  apply ids_commit H _ _ _ _ ha hb
  rw [new_issuance_formula, new_issuance_formula, h]

/-- the token id commits to the entropy and to the blinded flag; asset id and token id of any
    entropies never coincide (domain separation by the second leaf) -/
theorem token_commit (e e' : Bytes) (c c' : Bool)
    (h : reissuanceTokenFromEntropy H e c = reissuanceTokenFromEntropy H e' c') :
    (e = e' ∧ c = c') ∨ Collision2 H.comb :=
  EV.Proofs.Issuance.tokenId_commits H e e' c c' h

theorem asset_id_commit (e e' : Bytes) (h : fromEntropy H e = fromEntropy H e') : e = e' ∨ Collision2 H.comb :=
  EV.Proofs.Issuance.assetId_commits H e e' h

theorem asset_token_distinct (e e' : Bytes) (c : Bool)
    (h : fromEntropy H e = reissuanceTokenFromEntropy H e' c) : Collision2 H.comb :=
  EV.Proofs.Issuance.asset_ne_token H e e' c h

/-! ## 5. the contract hash of a JSON contract does not depend on key order -/

open EV.Json in
/-- `w` is `v` with the members of every object, at every nesting depth, written in another order;
    if no object of `v` repeats a key, the canonical text and therefore the contract hash are the
    same.  (With a repeated key serde_json keeps the member written last — `duplicate_key_last_wins`
    — so the order of the duplicates matters and the hypothesis is needed.) -/
theorem contract_hash_perm (sha256 : Bytes → Bytes) (v w : Json) (h : JPerm v w) (hk : NoDupKeys v) :
    canon v = canon w ∧ contractHash sha256 v = contractHash sha256 w := by
  have hc : canon v = canon w := congrArg print (norm_perm h hk)
  refine ⟨hc, ?_⟩
  cases h with
  | obj hm hp => exact congrArg (fun t => some (sha256 t)) hc
  | null | bool _ | num _ | str _ | arr _ => rfl

open EV.Json in
/-- one level, directly: permuting the members of an object with distinct keys -/
theorem contract_hash_perm_top (sha256 : Bytes → Bytes) (l l' : List (Bytes × Json)) (hp : l.Perm l')
    (hk : NoDupKeys (.obj l)) : contractHash sha256 (.obj l) = contractHash sha256 (.obj l') :=
  (contract_hash_perm sha256 _ _ (JPerm.obj (JPermM.refl l) hp) hk).2

open EV.Json in
/-- the canonical form lists the members of every object in strictly increasing byte order of the
    keys (the order of `BTreeMap<String, _>`) -/
theorem canon_keys_sorted (l : List (Bytes × Json)) :
    ∃ m, norm (.obj l) = .obj m ∧ Sorted m :=
  ⟨buildMap (normMembers l), rfl, buildMap_sorted _⟩

open EV.Json in
/-- duplicates: the member written last wins, no other key is lost -/
theorem duplicate_key_last_wins {α : Type} (l : List (Bytes × α)) (k : Bytes) :
    (buildMap l).lookup k = l.reverse.lookup k := lookup_buildMap k l

open EV.Json in
/-- the contract hash commits to the canonical text: equal hashes ⇒ equal canonical texts, or a
    SHA-256 collision is exhibited -/
theorem contract_hash_commits_to_text (sha256 : Bytes → Bytes) (l l' : List (Bytes × Json))
    (h : contractHash sha256 (.obj l) = contractHash sha256 (.obj l')) :
    canon (.obj l) = canon (.obj l') ∨ Collision sha256 :=
  EV.Proofs.CodecPrim.eq_or_collision (Option.some.inj h)

open EV.Json in
/-- only an object is a contract -/
theorem contract_hash_top_level (sha256 : Bytes → Bytes) (v : Json) :
    (contractHash sha256 v).isSome = (match v with | .obj _ => true | _ => false) := by
  cases v <;> rfl

/-! ## 6. the contract hash does not depend on insignificant whitespace

  `EV.JsonText` models the reader (`serde_json::from_str`) as a lexer followed by a parser on tokens;
  the hash is by construction a function of the token list (`contractHashText`).  The theorem
  below is about that lexer: whitespace (space, tab, LF, CR) between tokens — before the first, after
  the last, around every `{ } [ ] : ,`, string and literal — never changes the token list.  That the
  real reader behaves like the model is what the `contracthash` correspondence and the S check
  `contract_hash_whitespace` establish on generated documents (serde_json itself is trusted). -/

open EV.JsonText in
/-- a text written as gaps and tokens lexes to exactly its tokens, whatever the gaps -/
theorem lex_ignores_whitespace (l : List (Bytes × Tok)) (trail : Bytes) (h : GapsOk l) (ht : allWs trail) :
    lex (render l trail) = some (l.map Prod.snd) :=
  lex_render ht l h

open EV.JsonText in
/-- two texts with the same tokens and different whitespace have the same contract hash (or are
    both rejected) -/
theorem contract_hash_whitespace (sha256 : Bytes → Bytes) (l l' : List (Bytes × Tok)) (trail trail' : Bytes)
    (h : GapsOk l) (h' : GapsOk l') (ht : allWs trail) (ht' : allWs trail')
    (hsame : l.map Prod.snd = l'.map Prod.snd) :
    contractHashText sha256 (render l trail) = contractHashText sha256 (render l' trail') := by
  simp only [contractHashText, parseContract, lex_ignores_whitespace l trail h ht,
    lex_ignores_whitespace l' trail' h' ht', hsame]

open EV.JsonText EV.Json in
/-- both clauses together, on texts: two contract texts whose values differ only by the order of
    object members (distinct keys) have the same contract hash -/
theorem contract_hash_text_perm (sha256 : Bytes → Bytes) (a b : Bytes) (v w : Json)
    (ha : parseContract a = .ok v) (hb : parseContract b = .ok w) (h : JPerm v w) (hk : NoDupKeys v) :
    contractHashText sha256 a = contractHashText sha256 b := by
  simp only [contractHashText, ha, hb]
  exact (contract_hash_perm sha256 v w h hk).2

/-! ## non-vacuity -/

/-- a pegin + issuance input at index 5 is canonical, and so is the coinbase input -/
example : Canonical ⟨⟨List.replicate 32 7, 5⟩, true, [], 0, ⟨Issuance.zero32, List.replicate 32 9, .explicit 1, .null⟩, TxInWitness.empty⟩ :=
  ⟨Or.inl ⟨by decide, by decide⟩, Or.inl (by decide)⟩
example : Canonical ⟨OutPoint.null, false, [], 0, AssetIssuance.null, TxInWitness.empty⟩ :=
  ⟨Or.inr rfl, Or.inr ⟨rfl, rfl⟩⟩

/-- `{"b":1,"a":{"d":null,"c":true}}` and `{"a":{"c":true,"d":null},"b":1}` -/
example : EV.Json.canon (.obj [([0x62], .num [0x31]), ([0x61], .obj [([0x64], .null), ([0x63], .bool true)])])
    = EV.Json.canon (.obj [([0x61], .obj [([0x63], .bool true), ([0x64], .null)]), ([0x62], .num [0x31])]) := by
  decide +kernel

/-- `{"a":1}` and ` {\t"a" :\n1 } ` have the same tokens -/
example : EV.JsonText.lex [0x7b, 0x22, 0x61, 0x22, 0x3a, 0x31, 0x7d]
    = EV.JsonText.lex [0x20, 0x7b, 0x09, 0x22, 0x61, 0x22, 0x20, 0x3a, 0x0a, 0x31, 0x20, 0x7d, 0x20] := by decide +kernel

/-- `from_txin`, the per-input part of `extract_tx`, `is_pegin`, `has_issuance` of the full 48-field PSET
    input model (`EV.PsetInput`, properties C08/C14/C07) agree, under the projection that forgets the
    fields the issuance derivation does not read, with the ones used in this file: `ids_agree` is about
    the same `from_tx` / `extract_tx` as C08's `extract_from_tx`. -/
theorem pset_input_is_projection_of_full_model (H : Hashes) (t : TxIn) :
    EV.Proofs.IssuanceBridge.proj (PsetInput.fromTxIn t) = IssPsetInput.fromTxin t ∧
    (PsetInput.fromTxIn t).toTxIn = (IssPsetInput.fromTxin t).extractIn ∧
    (EV.Proofs.IssuanceBridge.proj (PsetInput.fromTxIn t)).issuanceIds H = (IssPsetInput.fromTxin t).issuanceIds H :=
  ⟨EV.Proofs.IssuanceBridge.fromTxin_proj t,
   by rw [← EV.Proofs.IssuanceBridge.extract_proj, EV.Proofs.IssuanceBridge.fromTxin_proj],
   by rw [EV.Proofs.IssuanceBridge.fromTxin_proj]⟩

/-! ## 7. the pegged-asset id of a network (src/issuance.rs: `AssetId::pegged_asset_id_for_network_params`)

  Model: EV.Model.PeggedAsset (`forNetworkParams`, `forParamsAndParent`), on top of the genesis model of C02
  (`NetworkParams`, `commit`) and the derivation of §1.  `G.sha256` (the commitment), `G.sha256d` and
  `G.comb` are parameters; the two asset ids, the two strings of the `match`, the output index and the
  chain hashes of the parent networks are regenerated from the Rust sources on every run
  (tools/extract.d/pegged.py; the chain hashes come from the `bitcoin` crate /repo/Cargo.lock resolves to). -/
section Pegged
open EV.Genesis EV.PeggedAsset EV.Proofs.PeggedAsset

variable (G : GHashes) (p : NetworkParams)

/-! ### (a) what the function returns -/

/-- the first arm: a parameter set whose `network_id` is the first matched string gets `LIQUID_BTC` -/
theorem pegged_first_arm (h : p.networkId = networkIdLiquidBtc) : forNetworkParams G p = some liquidBtc := by
  simp only [forNetworkParams, h, if_true]

/-- the second arm: a parameter set whose `network_id` is the second matched string gets `LIQUIDTESTNET_BTC` -/
theorem pegged_second_arm (h : p.networkId = networkIdLiquidtestnetBtc) :
    forNetworkParams G p = some liquidtestnetBtc := by
  have h1 : ¬ networkIdLiquidtestnetBtc = networkIdLiquidBtc := fun e => ids_distinct e.symm
  simp only [forNetworkParams, h, h1, if_false, if_true]

/-- `pegged_asset_id_for_network_params` never panics -/
theorem pegged_total : ∃ a, forNetworkParams G p = some a := by
  by_cases h1 : p.networkId = networkIdLiquidBtc
  · exact ⟨_, pegged_first_arm G p h1⟩
  by_cases h2 : p.networkId = networkIdLiquidtestnetBtc
  · exact ⟨_, pegged_second_arm G p h2⟩
  · exact ⟨_, (custom_eq G p fun h => h.elim h1 h2).trans (derive_eq G p _)⟩

/-- For the two named networks the fedpeg script, the sign-block script and the
    free coins of `params` are IGNORED — any parameter set that merely carries the name gets the constant,
    and the hash functions play no role. -/
theorem pegged_named_ignores_scripts (G' : GHashes) (fed sb : Bytes) (coins : Nat) (h : IsNamed p) :
    forNetworkParams G' ⟨p.networkId, fed, sb, coins⟩ = forNetworkParams G p := by
  rcases h with h | h
  · rw [pegged_first_arm G p h, pegged_first_arm G' ⟨p.networkId, fed, sb, coins⟩ h]
  · rw [pegged_second_arm G p h, pegged_second_arm G' ⟨p.networkId, fed, sb, coins⟩ h]

/-- the two matched strings are the network ids of the built-in parameter sets of src/genesis.rs, so
    `NetworkParams::liquidv1()` / `liquidtestnet()` get the two constants, which differ -/
theorem pegged_builtin :
    forNetworkParams G NetworkParams.liquidv1 = some liquidBtc ∧
    forNetworkParams G NetworkParams.liquidtestnet = some liquidtestnetBtc ∧ liquidBtc ≠ liquidtestnetBtc :=
  ⟨pegged_first_arm G _ liquidv1_named, pegged_second_arm G _ liquidtestnet_named, consts_distinct⟩

/-- every other network: exactly the issuance derivation of §1 — a NEW ISSUANCE spending output 0 of the
    "transaction" whose id is the commitment to the parameters, with the chain hash of the parent chain
    (bitcoin REGTEST) in the contract-hash position -/
theorem pegged_custom (h : ¬ IsNamed p) :
    forNetworkParams G p = newIssuance G.toHashes ⟨commit G.sha256 p, 0⟩ regtestChainHash ∧
    forNetworkParams G p =
      (match generateAssetEntropy G.toHashes ⟨commit G.sha256 p, 0⟩ regtestChainHash with
       | some e => fromEntropy G.toHashes e
       | none => none) := by
  rw [custom_eq G p h, parent_is_regtest, derive_is_newIssuance]
  refine ⟨rfl, ?_⟩
  simp only [newIssuance, entropy_formula]

/-- every other network (`pegged_custom`), in closed form -/
theorem pegged_custom_formula (h : ¬ IsNamed p) :
    forNetworkParams G p =
      some (G.comb (G.comb (G.sha256d (commit G.sha256 p ++ [0, 0, 0, 0])) regtestChainHash) (List.replicate 32 0)) := by
  rw [custom_eq G p h, parent_is_regtest, derive_formula]

/-- the private `pegged_asset_id_for_params_and_parent_chain_hash` for any parent chain hash -/
theorem pegged_derive_formula (x : Bytes) :
    forParamsAndParent G p x = newIssuance G.toHashes ⟨commit G.sha256 p, 0⟩ x ∧
    forParamsAndParent G p x =
      some (G.comb (G.comb (G.sha256d (commit G.sha256 p ++ [0, 0, 0, 0])) x) (List.replicate 32 0)) :=
  ⟨derive_is_newIssuance G p x, derive_formula G p x⟩

/-- the id depends on the parameters only through the commitment (network id ‖ hex fedpeg ‖ hex sign-block,
    `commit_def` of C02): the free coins are never looked at -/
theorem pegged_ignores_free_coins (coins : Nat) :
    forNetworkParams G { p with initialFreeCoins := coins } = forNetworkParams G p := rfl

theorem pegged_depends_only_on_commit (q : NetworkParams) (hp : ¬ IsNamed p) (hq : ¬ IsNamed q)
    (h : commit G.sha256 p = commit G.sha256 q) : forNetworkParams G p = forNetworkParams G q := by
  rw [custom_eq G p hp, custom_eq G q hq, derive_eq, derive_eq, h]

/-- the commitment has no separators (`commit_split_ambiguity` of C02): two DIFFERENT custom parameter sets can have
    the same pegged asset under every hash function -/
theorem pegged_split_ambiguity :
    ∃ a b : NetworkParams, a ≠ b ∧ ¬ IsNamed a ∧ ¬ IsNamed b ∧ ∀ G : GHashes, forNetworkParams G a = forNetworkParams G b :=
  ⟨⟨[0x61, 0x62], [], [], 0⟩, ⟨[], [0xab], [], 0⟩, by decide, by decide, by decide,
   fun G => pegged_depends_only_on_commit G _ _ (by decide) (by decide) rfl⟩

/-! ### (b) relation to the genesis block (C02) -/

/-- With free coins the genesis block's second transaction issues an asset from the SAME outpoint
    (commitment, 0) — but with the ZERO contract hash, where the pegged asset has the parent chain hash. -/
theorem genesis_asset_same_outpoint (h : p.initialFreeCoins ≠ 0) :
    ∃ t i o a, genesisAssetTx G p = some (some t) ∧ t.input = [i] ∧ t.output = [o] ∧
      i.previousOutput = ⟨commit G.sha256 p, 0⟩ ∧ o.asset = .explicit a ∧
      newIssuance G.toHashes ⟨commit G.sha256 p, 0⟩ (List.replicate 32 0) = some a ∧
      forParamsAndParent G p (List.replicate 32 0) = some a := by
  exact ⟨_, _, _, _, EV.Proofs.Genesis.genesisAssetTx_nonzero G p h, rfl, rfl, rfl, rfl,
    EV.Proofs.Genesis.newIssuance_genesis _ _, derive_zero G p⟩

/-- Hence the derivation with any non-zero parent chain hash (regtest, mainnet, testnet, …) does not give the
    genesis asset: if the two ids coincide, a collision of the compression function is exhibited. -/
theorem genesis_asset_ne_derived (x : Bytes) (hx : x ≠ List.replicate 32 0)
    (h : forParamsAndParent G p x = forParamsAndParent G p (List.replicate 32 0)) : Collision2 G.comb :=
  (derive_inj G p p x _ h).elim (fun e => absurd e.2 hx) id

/-- In particular the asset issued in the genesis block of a custom network is NOT its pegged asset (the
    regtest parent chain hash is not zero). -/
theorem genesis_asset_ne_pegged (hn : ¬ IsNamed p) (t : Tx) (o : TxOut) (a : Bytes)
    (ht : genesisAssetTx G p = some (some t)) (ho : o ∈ t.output) (ha : o.asset = .explicit a)
    (h : forNetworkParams G p = some a) : Collision2 G.comb := by
  cases EV.Proofs.Genesis.genesisAssetTx_some G p ht
  cases List.mem_singleton.1 ho
  cases ha
  rw [custom_eq G p hn, ← derive_zero] at h
  exact genesis_asset_ne_derived G p _ parent_ne_zero h

/-! ### (c) what the pegged asset commits to -/

/-- two custom parameter sets with the same pegged asset have the same commitment, or a collision of
    double SHA-256 or of the compression function is exhibited -/
theorem pegged_commits (q : NetworkParams) (hp : ¬ IsNamed p) (hq : ¬ IsNamed q)
    (h : forNetworkParams G p = forNetworkParams G q) :
    commit G.sha256 p = commit G.sha256 q ∨ Collision G.sha256d ∨ Collision2 G.comb := by
  rw [custom_eq G p hp, custom_eq G q hq] at h
  exact (derive_commits G p q _ _ h).imp_left And.left

/-- down to the hashed string (network id ‖ hex fedpeg ‖ hex sign-block), with the collision of any of the three hash
    functions -/
theorem pegged_commits_preimage (q : NetworkParams) (hp : ¬ IsNamed p) (hq : ¬ IsNamed q)
    (h : forNetworkParams G p = forNetworkParams G q) :
    commitPreimage p = commitPreimage q ∨ Collision G.sha256 ∨ Collision G.sha256d ∨ Collision2 G.comb := by
  rcases pegged_commits G p q hp hq h with e | hc
  · exact (EV.Proofs.CodecPrim.eq_or_collision e).imp_right Or.inl
  · exact Or.inr (Or.inr hc)

/-- the derivation commits to the parent chain hash as well -/
theorem pegged_derive_commits (q : NetworkParams) (x x' : Bytes)
    (h : forParamsAndParent G p x = forParamsAndParent G q x') :
    (commit G.sha256 p = commit G.sha256 q ∧ x = x') ∨ Collision G.sha256d ∨ Collision2 G.comb :=
  derive_commits G p q x x' h

/-- a custom network never gets a hard-coded id that is itself a derived id: stated for `LIQUID_BTC`, which is one
    (`liquid_btc_is_mainnet_derivation`) — a custom network whose pegged asset (regtest parent) equals the mainnet
    derivation for liquidv1 exhibits a collision, because the regtest and mainnet chain hashes differ -/
theorem pegged_custom_ne_liquidv1_derivation (h : forParamsAndParent G p regtestChainHash =
      forParamsAndParent G NetworkParams.liquidv1 bitcoinChainHash) :
    Collision G.sha256d ∨ Collision2 G.comb := by
  rcases derive_commits G p _ _ _ h with ⟨_, e⟩ | hc
  · exact absurd e (by decide)
  · exact hc

/-! ### (d) the two hard-coded ids and the derivation, checked by the kernel

  The model is run with the kernel-evaluable SHA-256 (EV.Model.Sha256K, compared with bitcoin_hashes by the
  K op `shak` of C02) on the extracted parameter sets, chain hashes and asset ids (`decide +kernel`,
  EV.Proofs.PeggedAssetKernel).  No documentation of the crate promises either equality; the crate's test
  `liquid_asset_ids` pins the first and the third statement. -/

/-- `LIQUID_BTC` IS the derivation applied to the liquidv1 parameters with the Bitcoin MAINNET chain hash -/
theorem liquid_btc_is_mainnet_derivation :
    forParamsAndParent EV.Proofs.GenesisKernel.kernelHashes NetworkParams.liquidv1 bitcoinChainHash = some liquidBtc := by
  rw [derive_of_prevoutHash _ _ EV.Proofs.PeggedAssetKernel.prevoutHash_liquidv1, EV.Proofs.GenesisKernel.kernelHashes_eq]
  decide +kernel

/-- `LIQUIDTESTNET_BTC` is NOT the derivation applied to the liquidtestnet parameters with the Bitcoin
    TESTNET (testnet3) chain hash -/
theorem liquidtestnet_btc_is_not_testnet_derivation :
    forParamsAndParent EV.Proofs.GenesisKernel.kernelHashes NetworkParams.liquidtestnet testnetChainHash ≠ some liquidtestnetBtc := by
  rw [derive_of_prevoutHash _ _ EV.Proofs.PeggedAssetKernel.prevoutHash_liquidtestnet, EV.Proofs.GenesisKernel.kernelHashes_eq]
  decide +kernel

/-- `LIQUIDTESTNET_BTC` is the derivation applied to the liquidtestnet parameters with the all-ZERO parent chain
    hash, i.e. (`genesis_asset_same_outpoint`) the id of the asset that the liquidtestnet GENESIS BLOCK issues -/
theorem liquidtestnet_btc_is_zero_parent_derivation :
    forParamsAndParent EV.Proofs.GenesisKernel.kernelHashes NetworkParams.liquidtestnet (List.replicate 32 0) = some liquidtestnetBtc := by
  rw [derive_of_prevoutHash _ _ EV.Proofs.PeggedAssetKernel.prevoutHash_liquidtestnet, EV.Proofs.GenesisKernel.kernelHashes_eq]
  decide +kernel

/-- the string arms of the `match` are not redundant: the fall-through arm (regtest parent) would give
    neither constant for the built-in parameter sets -/
theorem builtin_not_fallthrough :
    forParamsAndParent EV.Proofs.GenesisKernel.kernelHashes NetworkParams.liquidv1 parentChainHash ≠ some liquidBtc ∧
    forParamsAndParent EV.Proofs.GenesisKernel.kernelHashes NetworkParams.liquidtestnet parentChainHash ≠ some liquidtestnetBtc :=
  EV.Proofs.PeggedAssetKernel.builtin_not_fallthrough

/-! ### (e) `AssetId` as bytes and as text -/

/-- `from_byte_array` / `to_byte_array` / `into_tag` keep the 32 bytes as they are (no reversal) -/
theorem assetid_accessors (a : Bytes) : toByteArray (fromByteArray a) = a ∧ intoTag a = a := ⟨rfl, rfl⟩

/-- `Display` (= `{:x}` = `{:?}`) is the lower-case hex of the bytes in REVERSED order, `{:X}` its upper case -/
theorem assetid_display_reversed (a : Bytes) :
    display a = EV.Text.hexStr a.reverse ∧ upperHex a = (EV.Text.hexStr a.reverse).map upperChar := ⟨rfl, rfl⟩

/-- `FromStr` inverts `Display` and accepts the upper-case form too -/
theorem assetid_text_roundtrip (a : Bytes) (h : a.length = 32) :
    fromStr (display a) = .ok a ∧ fromStr (upperHex a) = .ok a :=
  ⟨fromStr_display a h, fromStr_upperHex a h⟩

/-- `FromStr` accepts only strings of exactly 64 characters (63, 65, odd lengths, a `0x` prefix are errors)
    and yields 32 bytes -/
theorem assetid_fromStr_length (s : EV.Text.Str) (a : Bytes) (h : fromStr s = .ok a) : s.length = 64 ∧ a.length = 32 := by
  obtain ⟨hl, hd⟩ := (fromStr_ok_iff s a).1 h
  have := EV.Text.decodeChars_length s _ hd
  rw [List.length_reverse] at this
  exact ⟨hl, by omega⟩

/-- the `Display` string of `LIQUID_BTC` is the one the crate's test `liquid` asserts (both extracted) -/
theorem liquid_btc_display : String.ofList (display liquidBtc) = EV.Gen.peggedLiquidBtcDisplay := by rfl

/-! ### non-vacuity -/

/-- `NetworkParams::custom_network("elementsregtest", None, None, Some(21))` is not a named network and has free coins -/
example : ¬ IsNamed (NetworkParams.customNetwork [101, 108, 101, 109, 101, 110, 116, 115, 114, 101, 103, 116, 101, 115, 116] none none (some 21)) ∧
    (NetworkParams.customNetwork [101, 108, 101, 109, 101, 110, 116, 115, 114, 101, 103, 116, 101, 115, 116] none none (some 21)).initialFreeCoins ≠ 0 := by decide

example : IsNamed NetworkParams.liquidv1 ∧ IsNamed NetworkParams.liquidtestnet := by decide

/-- the hypotheses of `pegged_commits` are satisfiable: two different custom networks with the same pegged asset (under
    the constant hashes `constHashes` of EV.Proofs.Genesis, where every id collides) -/
example : ∃ q : NetworkParams, ¬ IsNamed q ∧ forNetworkParams EV.Proofs.Genesis.constHashes q =
    forNetworkParams EV.Proofs.Genesis.constHashes ⟨[0x61], [], [], 0⟩ := ⟨⟨[0x62], [], [], 0⟩, by decide, rfl⟩

/-- the genesis asset transaction of liquidtestnet exists and has an explicit-asset output -/
example : ∃ t o a, genesisAssetTx EV.Proofs.Genesis.constHashes NetworkParams.liquidtestnet = some (some t) ∧
    o ∈ t.output ∧ o.asset = .explicit a :=
  ⟨_, _, _, EV.Proofs.Genesis.genesisAssetTx_nonzero _ _ (by decide), List.mem_singleton.mpr rfl, rfl⟩

example : (display liquidBtc).length = 64 ∧ fromStr (display liquidBtc) = .ok liquidBtc :=
  ⟨by decide, fromStr_display _ const_lengths.1⟩

end Pegged

/-! ### bridge to C05/C04: the generator of an issuance pseudo-input is the generator of `issuance_ids`

  `Transaction::verify_tx_amt_proofs` (src/blind.rs; model `EV.Blind.verify`, property C05) takes the two ids
  of an input as parameters of the model (`Blind.TxIn.assetId`, `.tokenId`).  The Rust code instantiates
  them with `let (asset_id, token_id) = inp.issuance_ids();` and feeds `asset.into_tag()` to
  `Generator::new_unblinded`.  `blindIn H pt t` (EV.Proofs.BridgeIssuanceBlind) is that instantiation for
  the consensus input `t`; `pt` reads the commitment bytes of a confidential amount as a point. -/
section BridgeBlind
open EV.Proofs.BridgeIssuanceBlind
variable {Pt RP SP : Type}

/-- The Blind view of a consensus input always exists (`issuance_ids` never panics), its
    two ids ARE `TxIn::issuance_ids()`, its amounts are the issuance amounts, and `has_issuance` of the two
    models (C05's `Blind.TxIn.hasIssuance`, C01's `TxIn.hasIssuance`) agree. -/
theorem bridge_blind_view (pt : Bytes → Pt) (t : TxIn) :
    blindIn? H pt t = some (blindIn H pt t) ∧
    t.issuanceIds H = some ((blindIn H pt t).assetId, (blindIn H pt t).tokenId) ∧
    (blindIn H pt t).amount = cvalue pt t.assetIssuance.amount ∧
    (blindIn H pt t).keys = cvalue pt t.assetIssuance.inflationKeys ∧
    (blindIn H pt t).hasIssuance = t.hasIssuance :=
  ⟨blindIn?_eq H pt t, ids_eq H t, rfl, rfl, hasIssuance_blindIn H pt t⟩

/-- **The pseudo-inputs of an issuance input are built on the generators of `issuance_ids`.**
    With `(a, tk) = t.issuance_ids()`: the verifier refuses the input (`IssuanceTransactionInput`) exactly
    when an amount is an explicit 0; otherwise its (generator, commitment) pairs are
    `(gen a, commitment of the amount)` — present iff the amount is non-null, an explicit `v` committed as
    `commitUnblinded v (gen a)` — followed by `(gen tk, commitment of the inflation keys)` likewise
    (`issTerm`); hence the domain entries are `gen a` and/or `gen tk`. -/
theorem bridge_issuance_pairs (V : Blind.VPrims Bytes Pt RP SP) (pt : Bytes → Pt) (t : TxIn) (a tk : Bytes)
    (hids : t.issuanceIds H = some (a, tk)) :
    (Blind.issuancePairs V (blindIn H pt t) = none ↔
      (t.assetIssuance.amount = .explicit 0 ∨ t.assetIssuance.inflationKeys = .explicit 0)) ∧
    (t.assetIssuance.amount ≠ .explicit 0 → t.assetIssuance.inflationKeys ≠ .explicit 0 →
      Blind.issuancePairs V (blindIn H pt t) =
        some (issTerm V pt a t.assetIssuance.amount ++ issTerm V pt tk t.assetIssuance.inflationKeys) ∧
      (issTerm V pt a t.assetIssuance.amount ++ issTerm V pt tk t.assetIssuance.inflationKeys).map Prod.fst =
        (if t.assetIssuance.amount.isNull then [] else [V.genUnblinded a]) ++
        (if t.assetIssuance.inflationKeys.isNull then [] else [V.genUnblinded tk])) := by
  obtain ⟨h1, h2⟩ := ids_of_some H t a tk hids
  refine ⟨issuancePairs_blindIn_none_iff H pt V t, fun ha hk => ⟨?_, ?_⟩⟩
  · rw [issuancePairs_blindIn H pt V t ha hk, issTerms, h1, h2]
  · rw [List.map_append, issTerm_fst, issTerm_fst]

/-- what `issTerm` is, case by case -/
theorem bridge_issTerm (V : Blind.VPrims Bytes Pt RP SP) (pt : Bytes → Pt) (id : Bytes) (n : Nat) (c : Bytes) :
    issTerm V pt id .null = [] ∧
    issTerm V pt id (.explicit n) = [(V.genUnblinded id, V.commitUnblinded n (V.genUnblinded id))] ∧
    issTerm V pt id (.conf c) = [(V.genUnblinded id, pt c)] := ⟨rfl, rfl, rfl⟩

/-- **The surjection domain and the input side of the tally of a transaction, in terms of C11.**
    For acceptable inputs (`InsOk`: spent outputs with asset and non-zero value, no explicit-0 issuance
    amount — what `verify` demands anyway) the domain `verify` checks every surjection proof against is,
    per input, the spent output's generator followed by the generators of `issuedIds` (the asset id of
    `issuance_ids()` iff there is an issuance amount, then its token id iff there are inflation keys); the
    commitments are, per input, the spent output's, then those of the two issuance amounts. -/
theorem bridge_domain (V : Blind.VPrims Bytes Pt RP SP) (pt : Bytes → Pt) (ins : List TxIn)
    (utxos : List (Blind.TxOut Bytes Pt RP SP)) (h : InsOk ins utxos) :
    Blind.domainOf V (ins.map (blindIn H pt)) utxos = idsDomain V H ins utxos ∧
    Blind.inCommitsOf V (ins.map (blindIn H pt)) utxos = idsCommits V H pt ins utxos ∧
    Blind.pairsOf V (ins.map (blindIn H pt)) utxos = idsPairs V H pt ins utxos :=
  idsPairs_spec H pt V ins utxos h

/-- the shape of `idsDomain` / `idsCommits` / `issuedIds` (definitional) -/
theorem bridge_domain_cons (V : Blind.VPrims Bytes Pt RP SP) (pt : Bytes → Pt) (t : TxIn) (ts : List TxIn)
    (u : Blind.TxOut Bytes Pt RP SP) (us : List (Blind.TxOut Bytes Pt RP SP)) :
    idsDomain V H (t :: ts) (u :: us) =
      (Blind.assetGen V u.asset).toList ++ (issuedIds H t).map V.genUnblinded ++ idsDomain V H ts us ∧
    idsCommits V H pt (t :: ts) (u :: us) =
      (Blind.outCommit? V u).toList ++
        (issTerm V pt (blindIn H pt t).assetId t.assetIssuance.amount ++
         issTerm V pt (blindIn H pt t).tokenId t.assetIssuance.inflationKeys).map Prod.snd ++
        idsCommits V H pt ts us ∧
    issuedIds H t =
      (if t.assetIssuance.amount.isNull then [] else [(blindIn H pt t).assetId]) ++
      (if t.assetIssuance.inflationKeys.isNull then [] else [(blindIn H pt t).tokenId]) :=
  ⟨rfl, rfl, rfl⟩

/-- **Composition with `ids_formula`: the generators of a NEW issuance in closed form.**  The asset
    entry of the domain is `gen (comb (comb (sha256d (txid ‖ vout_le32)) contract_hash) 0^32)`, the token
    entry `gen (comb (same entropy) (k ‖ 0^31))`, `k = 1` for an explicit and `2` for a confidential
    issuance amount — so the token generator differs between the two. -/
theorem bridge_generator_new_issuance (V : Blind.VPrims Bytes Pt RP SP) (pt : Bytes → Pt) (t : TxIn)
    (h : t.assetIssuance.nonce = Issuance.zero32) :
    V.genUnblinded (blindIn H pt t).assetId =
      V.genUnblinded (H.comb (H.comb (H.sha256d (t.previousOutput.txid ++ encLe 4 t.previousOutput.vout))
        t.assetIssuance.entropy) (List.replicate 32 0)) ∧
    V.genUnblinded (blindIn H pt t).tokenId =
      V.genUnblinded (H.comb (H.comb (H.sha256d (t.previousOutput.txid ++ encLe 4 t.previousOutput.vout))
        t.assetIssuance.entropy) ((if t.assetIssuance.amount.isConf then 2 else 1) :: List.replicate 31 0)) :=
  ⟨congrArg V.genUnblinded (assetIdOf_new H t h), congrArg V.genUnblinded (tokenIdOf_new H t h)⟩

/-- **Composition with `ids_formula_reissuance`: a REISSUANCE** (non-zero blinding nonce) contributes
    `gen (comb entropy 0^32)` — the outpoint it spends plays no role. -/
theorem bridge_generator_reissuance (V : Blind.VPrims Bytes Pt RP SP) (pt : Bytes → Pt) (t : TxIn)
    (h : t.assetIssuance.nonce ≠ Issuance.zero32) :
    V.genUnblinded (blindIn H pt t).assetId =
      V.genUnblinded (H.comb t.assetIssuance.entropy (List.replicate 32 0)) ∧
    V.genUnblinded (blindIn H pt t).tokenId =
      V.genUnblinded (H.comb t.assetIssuance.entropy
        ((if t.assetIssuance.amount.isConf then 2 else 1) :: List.replicate 31 0)) :=
  ⟨congrArg V.genUnblinded (assetIdOf_reissuance H t h), congrArg V.genUnblinded (tokenIdOf_reissuance H t h)⟩

/-- **A reissuance input contributes the SAME asset generator as the issuance whose entropy it quotes**:
    `i` a new issuance, `r` a reissuance (of any outpoint) whose `asset_entropy` field is the entropy
    `AssetId::generate_asset_entropy` derives for `i`.  The token generators coincide as well when both
    issuance amounts are blinded or both are not. -/
theorem bridge_reissuance_same_generator (V : Blind.VPrims Bytes Pt RP SP) (pt : Bytes → Pt) (i r : TxIn)
    (hi : i.assetIssuance.nonce = Issuance.zero32) (hr : r.assetIssuance.nonce ≠ Issuance.zero32)
    (he : generateAssetEntropy H i.previousOutput i.assetIssuance.entropy = some r.assetIssuance.entropy) :
    V.genUnblinded (blindIn H pt r).assetId = V.genUnblinded (blindIn H pt i).assetId ∧
    (r.assetIssuance.amount.isConf = i.assetIssuance.amount.isConf →
      V.genUnblinded (blindIn H pt r).tokenId = V.genUnblinded (blindIn H pt i).tokenId) :=
  ⟨congrArg V.genUnblinded (reissuance_same_asset H i r hi hr he),
   fun hf => congrArg V.genUnblinded (reissuance_same_token H i r hi hr he hf)⟩

/-- **What equal ids of two issuance inputs mean** (§4 through the bridge).  `e x` is the entropy `issuance_ids`
    uses for `x` (derived for a new issuance, quoted for a reissuance).  Same asset id ⇒ same entropy; same
    token id ⇒ same entropy and same blinded flag of the issuance amount; an asset id is never a token id;
    a reissuance with the asset id of a new issuance quotes its entropy — each time unless a collision
    of the compression function is exhibited.  Stated with the identity for `pt`: `assetId` and `tokenId` of `blindIn` do
    not mention `pt` (only `amount` and `keys` do), so nothing is lost. -/
theorem bridge_same_ids (a b : TxIn) :
    let e := fun (x : TxIn) => EV.Proofs.Issuance.entropyOf H x.previousOutput x.assetIssuance.nonce x.assetIssuance.entropy
    ((blindIn H (fun x => x) a).assetId = (blindIn H (fun x => x) b).assetId → e a = e b ∨ Collision2 H.comb) ∧
    ((blindIn H (fun x => x) a).tokenId = (blindIn H (fun x => x) b).tokenId →
      (e a = e b ∧ a.assetIssuance.amount.isConf = b.assetIssuance.amount.isConf) ∨ Collision2 H.comb) ∧
    ((blindIn H (fun x => x) a).assetId = (blindIn H (fun x => x) b).tokenId → Collision2 H.comb) ∧
    (a.assetIssuance.nonce = Issuance.zero32 → b.assetIssuance.nonce ≠ Issuance.zero32 →
      (blindIn H (fun x => x) b).assetId = (blindIn H (fun x => x) a).assetId →
      generateAssetEntropy H a.previousOutput a.assetIssuance.entropy = some b.assetIssuance.entropy ∨
        Collision2 H.comb) :=
  ⟨same_asset_same_entropy H a b, same_token_same_entropy_flag H a b, asset_ne_token_ids H a b,
   fun ha hb h => same_asset_quotes_entropy H a b ha hb h⟩

/-- two NEW issuances with the same domain generator id spend the same outpoint with the same contract
    hash (`ids_commit_txin` read on the Blind views) -/
theorem bridge_same_asset_new (pt : Bytes → Pt) (a b : TxIn) (ha : a.previousOutput.wf) (hb : b.previousOutput.wf)
    (hna : a.assetIssuance.nonce = Issuance.zero32) (hnb : b.assetIssuance.nonce = Issuance.zero32)
    (h : (blindIn H pt a).assetId = (blindIn H pt b).assetId) :
    (a.previousOutput = b.previousOutput ∧ a.assetIssuance.entropy = b.assetIssuance.entropy) ∨
      Collision H.sha256d ∨ Collision2 H.comb := by
  apply ids_commit_txin H a b ha hb hna hnb
  rw [ids_eq H a, ids_eq H b]
  exact congrArg some h

/-- **`verify_ok_iff` of C05 about a consensus input list**: `verify_tx_amt_proofs` accepts exactly when
    the lengths match, the inputs are acceptable, every output is acceptable against the domain made of
    the spent outputs' generators and the generators of the C11 ids (`idsDomain`), and the tally accepts
    the commitments to those generators (`idsCommits`) against the output commitments. -/
theorem bridge_verify_ok_iff (V : Blind.VPrims Bytes Pt RP SP) (pt : Bytes → Pt) (ins : List TxIn)
    (outs utxos : List (Blind.TxOut Bytes Pt RP SP)) :
    Blind.verify V (ins.map (blindIn H pt)) outs utxos = .ok ↔
      utxos.length = ins.length ∧ InsOk ins utxos ∧
      (∀ o ∈ outs, Blind.OutOk V (idsDomain V H ins utxos) o) ∧
      V.sumEqual (idsCommits V H pt ins utxos) (Blind.outCommitsOf V outs) = true := by
  rw [Blind.verify_ok_iff', insOk_iff, List.length_map]
  refine and_congr_right fun _ => and_congr_right fun h => ?_
  obtain ⟨hd, hc, _⟩ := idsPairs_spec H pt V ins utxos h
  rw [hd, hc]

/-- **`tamper_issuance` of C05 about a consensus input**: changing an explicit issuance amount `v` into
    `v'` (`setAmount`) — the two transactions do not both verify; the torsion hypothesis is about the
    tag of the asset id `a` that `issuance_ids()` derives for the input (other hypotheses as in C05). -/
theorem bridge_tamper_issuance {R M : Type} [CommRing R] [AddCommGroup M] [Module R M]
    (cv : Blind.Curve R M Bytes) (V : Blind.VPrims Bytes M RP SP) (hV : Blind.AlgV cv V) (pt : Bytes → M)
    (outs : List (Blind.TxOut Bytes M RP SP)) (ipre ipost : List TxIn) (t : TxIn)
    (upre upost : List (Blind.TxOut Bytes M RP SP)) (u : Blind.TxOut Bytes M RP SP)
    (hl : upre.length = ipre.length)
    (v v' : Nat) (B : Nat) (hamt : t.assetIssuance.amount = .explicit v) (hne : v ≠ v') (hv0 : v ≠ 0)
    (hv0' : v' ≠ 0) (hvB : v < B) (hvB' : v' < B)
    (a tk : Bytes) (hids : t.issuanceIds H = some (a, tk))
    (hT : Blind.NoTorsion R (cv.tag a) B) (hkeys : t.assetIssuance.inflationKeys ≠ .explicit 0) :
    ¬ (Blind.verify V ((ipre ++ t :: ipost).map (blindIn H pt)) outs (upre ++ u :: upost) = .ok ∧
       Blind.verify V ((ipre ++ setAmount t (.explicit v') :: ipost).map (blindIn H pt)) outs
         (upre ++ u :: upost) = .ok) :=
  tamper_issuance_ids cv V hV H pt outs ipre ipost t upre upost u hl v v' B hamt hne hvB hvB'
    ((ids_of_some H t a tk hids).1 ▸ hT)

/-- `bridge_tamper_issuance` for a NEW issuance with the tag written out (`ids_formula`): no natural below the bound annihilates
    the tag of `comb (comb (sha256d (txid ‖ vout_le32)) contract_hash) 0^32` -/
theorem bridge_tamper_new_issuance {R M : Type} [CommRing R] [AddCommGroup M] [Module R M]
    (cv : Blind.Curve R M Bytes) (V : Blind.VPrims Bytes M RP SP) (hV : Blind.AlgV cv V) (pt : Bytes → M)
    (outs : List (Blind.TxOut Bytes M RP SP)) (ipre ipost : List TxIn) (t : TxIn)
    (upre upost : List (Blind.TxOut Bytes M RP SP)) (u : Blind.TxOut Bytes M RP SP)
    (hl : upre.length = ipre.length)
    (v v' : Nat) (B : Nat) (hamt : t.assetIssuance.amount = .explicit v) (hne : v ≠ v') (hv0 : v ≠ 0)
    (hv0' : v' ≠ 0) (hvB : v < B) (hvB' : v' < B)
    (hnonce : t.assetIssuance.nonce = Issuance.zero32)
    (hT : Blind.NoTorsion R (cv.tag (H.comb (H.comb (H.sha256d (t.previousOutput.txid ++ encLe 4 t.previousOutput.vout))
      t.assetIssuance.entropy) (List.replicate 32 0))) B)
    (hkeys : t.assetIssuance.inflationKeys ≠ .explicit 0) :
    ¬ (Blind.verify V ((ipre ++ t :: ipost).map (blindIn H pt)) outs (upre ++ u :: upost) = .ok ∧
       Blind.verify V ((ipre ++ setAmount t (.explicit v') :: ipost).map (blindIn H pt)) outs
         (upre ++ u :: upost) = .ok) :=
  tamper_issuance_ids cv V hV H pt outs ipre ipost t upre upost u hl v v' B hamt hne hvB hvB'
    (assetIdOf_new H t hnonce ▸ hT)

/-- **C09**: `PartiallySignedTransaction::surjection_inputs` (src/pset/mod.rs) appends, for an input with an
    issuance, pseudo-inputs for `pset::Input::issuance_ids()` — parameters (`Inp.issued`) of the C09 model
    `EV.PsetBlind`.  For the PSET inputs built from canonical consensus inputs (`Input::from_txin`,
    `ids_agree`) they are the ids of `TxIn::issuance_ids()` — the same list `issuedIds` whose generators
    `verify` uses (`bridge_domain_cons`); `code` names asset ids as the `Nat`s of that model. -/
theorem bridge_pset_domain (code : Bytes → Nat) (l : List (TxIn × Bool × Option Nat))
    (h : ∀ x ∈ l, Canonical x.1) :
    EV.PsetBlind.issuedAssets (l.map (fun x => psetInp H code x.2.1 x.2.2 (IssPsetInput.fromTxin x.1))) =
      l.flatMap (fun x => (issuedIds H x.1).map code) ∧
    ∀ x ∈ l, psetInp H code x.2.1 x.2.2 (IssPsetInput.fromTxin x.1) =
      { hasUtxo := x.2.1, hasIssuance := x.1.hasIssuance, blindedIssuance := x.2.2,
        issued := (issuedIds H x.1).map code } :=
  ⟨issuedAssets_fromTxin H code l (fun x hx => h x hx),
   fun x hx => psetInp_fromTxin H code _ _ _ (h x hx).1 (h x hx).2⟩

/-! #### the hypotheses are satisfiable -/

/-- a new issuance of 1 unit (no inflation keys) spending output 5, and a spent output of 10 units:
    acceptable inputs (`bridge_domain`, `bridge_issuance_pairs`, `bridge_generator_new_issuance`) -/
example : InsOk (Pt := Unit) (RP := Unit) (SP := Unit)
    [⟨⟨List.replicate 32 7, 5⟩, true, [], 0, ⟨Issuance.zero32, List.replicate 32 9, .explicit 1, .null⟩, TxInWitness.empty⟩]
    [⟨.explicit [1], .explicit 10, .null, [1], none, none⟩] :=
  List.forall_mem_singleton.mpr ⟨⟨by simp, by simp, by simp⟩, by decide, by decide⟩
example : ∃ (t : TxIn) (a tk : Bytes), t.issuanceIds H = some (a, tk) ∧
    t.assetIssuance.amount ≠ .explicit 0 ∧ t.assetIssuance.inflationKeys ≠ .explicit 0 ∧
    t.assetIssuance.nonce = Issuance.zero32 ∧ t.previousOutput.wf :=
  ⟨⟨⟨List.replicate 32 7, 5⟩, true, [], 0, ⟨Issuance.zero32, List.replicate 32 9, .explicit 1, .null⟩, TxInWitness.empty⟩,
   _, _, ids_eq H _, by decide, by decide, rfl, ⟨by decide, by decide⟩⟩

/-- a reissuance (non-zero nonce) quoting the entropy of a new issuance
    (`bridge_generator_reissuance`, `bridge_reissuance_same_generator`), for every `H` -/
example : ∃ i r : TxIn, i.assetIssuance.nonce = Issuance.zero32 ∧ r.assetIssuance.nonce ≠ Issuance.zero32 ∧
    generateAssetEntropy H i.previousOutput i.assetIssuance.entropy = some r.assetIssuance.entropy ∧
    r.assetIssuance.amount.isConf = i.assetIssuance.amount.isConf ∧ r.previousOutput ≠ i.previousOutput :=
  ⟨⟨⟨List.replicate 32 7, 5⟩, false, [], 0, ⟨Issuance.zero32, List.replicate 32 9, .explicit 1, .explicit 1⟩, TxInWitness.empty⟩,
   ⟨⟨List.replicate 32 8, 0⟩, false, [], 0,
     ⟨List.replicate 32 1, H.comb (H.sha256d (List.replicate 32 7 ++ encLe 4 5)) (List.replicate 32 9), .explicit 3, .null⟩,
     TxInWitness.empty⟩,
   rfl, fun h => absurd (congrArg List.head? h) (show ¬ (List.replicate 32 (1 : UInt8)).head? = Issuance.zero32.head? by decide), entropy_formula H _ _, rfl,
   fun h => absurd (congrArg OutPoint.vout h) (show ¬ (0 : Nat) = 5 by decide)⟩

/-- `bridge_tamper_issuance` / `bridge_tamper_new_issuance`: scalars `ℤ`, points the free module on
    {G} ∪ {tag a | a : Bytes} (`Inst.cvB`, `Inst.VB`), amounts 1 and 2 below 2^64 -/
example : ∃ (t : TxIn) (v v' B : Nat) (a tk : Bytes),
    t.assetIssuance.amount = .explicit v ∧ v ≠ v' ∧ v ≠ 0 ∧ v' ≠ 0 ∧ v < B ∧ v' < B ∧
    t.issuanceIds H = some (a, tk) ∧ t.assetIssuance.nonce = Issuance.zero32 ∧
    Blind.NoTorsion Int (Inst.cvB.tag a) B ∧ t.assetIssuance.inflationKeys ≠ .explicit 0 ∧
    Blind.AlgV Inst.cvB Inst.VB :=
  ⟨⟨⟨List.replicate 32 7, 5⟩, true, [], 0, ⟨Issuance.zero32, List.replicate 32 9, .explicit 1, .null⟩, TxInWitness.empty⟩,
   1, 2, 2 ^ 64, _, _, rfl, by decide, by decide, by decide, by decide, by decide, ids_eq H _, rfl,
   Inst.noTorsion_tagB _ _, by decide, Inst.algVB⟩

/-- `bridge_pset_domain`: the pegin + issuance input at index 5 is canonical (see above) -/
example : ∀ x ∈ [((⟨⟨List.replicate 32 7, 5⟩, true, [], 0, ⟨Issuance.zero32, List.replicate 32 9, .explicit 1, .null⟩, TxInWitness.empty⟩ : TxIn), true, some 0)],
    Canonical x.1 :=
  List.forall_mem_singleton.mpr ⟨Or.inl ⟨by decide, by decide⟩, Or.inl (by decide)⟩

end BridgeBlind

end EV.Props.C11
